/-
C17 — span fields become labels with metric > inner span > outer span precedence.

Model: `Model/Tracing.lean` (`MetricsLayer::on_new_span` / `on_record`, `TracingContext::enhance_key`, the label
filters, the registry's per-thread span stack and parent resolution).

The statements below are for ALL programs: any number of spans, any parent relation (contextual, explicit,
root), any field names shared across levels, any later `record()`s, empty spans, any metric label list, any
label filter (an arbitrary Boolean function of metric name, label name, label value), any number of threads.

How the property's words are made precise (definitions in `Proofs/Tracing.lean`; of the model state they use only
which span is a thread's current one and which is a new span's parent, never the insertion-ordered field maps the
code keeps per span):
* the *history* of a span is the time-ordered list of assignments made by its creation and its `record()`s;
* what a span can *see* is a `Chain`: its own history, then the history its parent had at the moment the
  span was created (a snapshot), and so on outwards — `chainStep` / `runG` maintain exactly that;
* `visibleSpec chain k` looks `k` up in the innermost level that ever assigned it, taking that level's
  latest assignment (inner wins over outer, later `record()` replaces);
* `admitOpt` applies the label filter; the metric's own labels go on top.
-/
import MetricsVerif.Proofs.Tracing
import MetricsVerif.Generated.SourceFacts

namespace MetricsVerif.C17
open MetricsVerif.Tracing

/-- a fresh subscriber: no spans, every thread outside any span -/
def init : State := {}

/-- `runG` only adds the histories next to the model state; the state is the model's own `run` -/
theorem runG_state (ops : List Op) : (runG init [] ops).1 = run init ops := runG_fst ops init []

/-! ## how histories evolve (the reading of "fields its ancestors had when each descendant was created") -/

/-- a new span sees its own creation-time assignments, then exactly what its parent saw at that moment;
    no existing span's view changes -/
theorem chain_new_span (s : State) (cs : List Chain) (t : Nat) (p : Parent) (fields : List (Str × Value)) :
    (chainStep s cs (.newSpan t p fields))[cs.length]? = some (rendered fields :: parentChain cs (resolveParent s t p))
    ∧ ∀ i, i < cs.length → (chainStep s cs (.newSpan t p fields))[i]? = cs[i]? := by
  constructor
  · simp [chainStep]
  · intro i hi; simp [chainStep, List.getElem?_append_left hi]

/-- `record()` on a span extends that span's own history and nobody else's: descendants created earlier keep
    the snapshot they took -/
theorem chain_record (s : State) (cs : List Chain) (t id : Nat) (fields : List (Str × Value)) (j : Nat) :
    (chainStep s cs (.record t id fields))[j]?
      = if j = id then (cs[j]?).map (recordChain (rendered fields)) else cs[j]? := by
  simp [chainStep, getElem?_modifyAt]

/-- entering and leaving spans never changes what any span can see -/
theorem chain_enter_exit (s : State) (cs : List Chain) (t id : Nat) :
    chainStep s cs (.enter t id) = cs ∧ chainStep s cs (.exit t id) = cs := ⟨rfl, rfl⟩

/-! ## precedence inside the visible fields -/

/-- an inner level that has assigned `k` decides, whatever the outer levels say -/
theorem inner_wins (lvl : List (Str × Str)) (outer : Chain) (k v : Str) (h : lastAssign lvl k = some v) :
    visibleSpec (lvl :: outer) k = some v := by
  simp [visibleSpec, h]

/-- a level that never assigned `k` lets the next outer level through -/
theorem outer_shows_through (lvl : List (Str × Str)) (outer : Chain) (k : Str) (h : lastAssign lvl k = none) :
    visibleSpec (lvl :: outer) k = visibleSpec outer k := by
  simp [visibleSpec, h]

/-- a later assignment replaces the earlier value of that name and leaves other names alone -/
theorem later_record_replaces (evs : List (Str × Str)) (k v k' : Str) :
    lastAssign (evs ++ [(k, v)]) k = some v
    ∧ (k' ≠ k → lastAssign (evs ++ [(k, v)]) k' = lastAssign evs k') := by
  constructor
  · simp [lastAssign_append, lastAssign]
  · intro h
    have : ¬ k = k' := fun e => h e.symm
    simp [lastAssign_append, lastAssign, this]

/-- on the model: after `record()` of `fields` on a span the span shows the recorded values, and its previous
    values for every name not recorded -/
theorem record_replaces_on_span (m : FMap) (fields : List (Str × Value)) (k : Str) :
    FMap.get? (extendFromLabelsOverwrite m (fromRecord fields)) k
      = (lastAssign (rendered fields) k).or (FMap.get? m k) := get?_record m fields k

/-! ## the span maps of the code hold exactly the visible fields -/

/-- **Visible fields.**  After any program, the map `MetricsLayer` keeps for span `i` answers every lookup as
    the span's chain of histories says: own assignments (latest first), then those the parent had when the
    span was created, and so on outwards; and it never holds a name twice. -/
theorem span_fields_spec (ops : List Op) :
    let sc := runG init [] ops
    sc.1.spans.length = sc.2.length
    ∧ (∀ (i : Nat) (m : FMap) (c : Chain), sc.1.spans[i]? = some m → sc.2[i]? = some c →
        ∀ k, FMap.get? m k = visibleSpec c k)
    ∧ (∀ m ∈ sc.1.spans, (FMap.keys m).Nodup) := by
  have h := agree_runG ops (s := init) (cs := []) agree_init
  refine ⟨h.1, h.2, ?_⟩
  rw [runG_state]
  exact nodupKeys_run ops nodupKeys_init

/-! ## emission -/

/-- what reaches `enhance_key` is the current span's visible fields -/
theorem visibleAt_eq (ops : List Op) (t : Nat) (k : Str) :
    let sc := runG init [] ops
    (match parentLabels sc.1 (current sc.1 t) with | some pl => FMap.get? pl k | none => none)
      = visibleAt sc.1 sc.2 t k :=
  parentLabels_agree (agree_runG ops (s := init) (cs := []) agree_init) _ k

/-- the map `enhance_key` reads is one of the span maps -/
theorem parentLabels_mem {s : State} {p : Option Nat} {m : FMap} (h : parentLabels s p = some m) : m ∈ s.spans := by
  cases p with
  | none => cases h
  | some id => exact List.mem_of_getElem? h

/-- the two ways an emission can go: the current span shows no map or an empty one and the key is handed on as it
    is, or it shows a non-empty map `m` and the labels are `enhanceLabels` of `m` -/
theorem emit_cases (s : State) (f : Filter) (t : Nat) (name : Str) (labels : List (Str × Str)) :
    (emit s f t name labels = labels ∧ ∀ m, parentLabels s (current s t) = some m → m = [])
    ∨ ∃ m, parentLabels s (current s t) = some m ∧ m ≠ [] ∧ m ∈ s.spans
        ∧ emit s f t name labels = enhanceLabels f name m labels := by
  unfold emit enhanceKey
  cases hp : parentLabels s (current s t) with
  | none => exact .inl ⟨rfl, fun _ h => nomatch h⟩
  | some m =>
    cases m with
    | nil => exact .inl ⟨rfl, fun _ h => (Option.some.inj h).symm⟩
    | cons x r => exact .inr ⟨_, rfl, List.cons_ne_nil _ _, parentLabels_mem hp, rfl⟩

/-- **Precedence metric > inner > outer, as a lookup.**  After any program, for a metric with distinct own
    label names emitted on thread `t`, the key handed to the inner recorder maps every name `k` to: the
    metric's own value for `k` if it has one; otherwise the value visible for `k` from the current span of
    `t` (innermost span that assigned it, latest record), provided the filter admits that label; otherwise
    nothing. -/
theorem emit_lookup (ops : List Op) (f : Filter) (t : Nat) (name : Str) (labels : List (Str × Str))
    (hl : (FMap.keys labels).Nodup) (k : Str) :
    let sc := runG init [] ops
    FMap.get? (emit sc.1 f t name labels) k
      = (FMap.get? labels k).or (admitOpt f name k (visibleAt sc.1 sc.2 t k)) := by
  intro sc
  have hnd : NodupKeys sc.1 := by
    show NodupKeys (runG init [] ops).1
    rw [runG_state]; exact nodupKeys_run ops nodupKeys_init
  rw [← show _ = visibleAt sc.1 sc.2 t k from visibleAt_eq ops t k]
  rcases emit_cases sc.1 f t name labels with ⟨he, hm⟩ | ⟨m, hp, _, hmem, he⟩
  · rw [he]
    cases hp : parentLabels sc.1 (current sc.1 t) with
    | none => simp [admitOpt]
    | some m => cases hm m hp; simp [admitOpt]
  · rw [he, hp, get?_enhanceLabels f name (hnd m hmem), lastAssign_eq_get?_of_nodup hl]

/-- **No repeated label name.**  Given distinct label names on the metric itself, the resulting key never
    contains a label name twice — after any program, for any filter. -/
theorem emit_no_duplicate_names (ops : List Op) (f : Filter) (t : Nat) (name : Str) (labels : List (Str × Str))
    (hl : (FMap.keys labels).Nodup) :
    (FMap.keys (emit (run init ops) f t name labels)).Nodup := by
  rcases emit_cases (run init ops) f t name labels with ⟨he, _⟩ | ⟨m, _, _, hmem, he⟩
  · rw [he]; exact hl
  · rw [he]; exact nodup_enhanceLabels f name (nodupKeys_run ops nodupKeys_init m hmem) labels

/-- **The label set.**  Given distinct own label names, a pair `(k, v)` is a label of the resulting key iff it
    is one of the metric's own labels, or the metric has no label named `k` and `v` is the admitted visible
    value of span field `k`.  (Together with `emit_no_duplicate_names` this determines the key's label set.) -/
theorem emit_label_set (ops : List Op) (f : Filter) (t : Nat) (name : Str) (labels : List (Str × Str))
    (hl : (FMap.keys labels).Nodup) (k v : Str) :
    let sc := runG init [] ops
    (k, v) ∈ emit sc.1 f t name labels
      ↔ (k, v) ∈ labels ∨ (k ∉ FMap.keys labels ∧ admitOpt f name k (visibleAt sc.1 sc.2 t k) = some v) := by
  intro sc
  have hnd : (FMap.keys (emit sc.1 f t name labels)).Nodup := by
    show (FMap.keys (emit (runG init [] ops).1 f t name labels)).Nodup
    rw [runG_state]; exact emit_no_duplicate_names ops f t name labels hl
  rw [FMap.mem_iff_get? hnd, FMap.mem_iff_get? hl, emit_lookup ops f t name labels hl k]
  cases hg : FMap.get? labels k with
  | some w =>
    have : k ∈ FMap.keys labels := Classical.not_not.1 fun hn => nomatch (FMap.get?_eq_none_iff.2 hn).symm.trans hg
    simp [this]
  | none =>
    have : k ∉ FMap.keys labels := FMap.get?_eq_none_iff.1 hg
    simp [this, sc]

/-- **The exact key (order included).**  After any program, when the current span of `t` holds at least one
    field, the label list handed to the inner recorder is: the admitted fields of that span's map in the map's
    order, each carrying the metric's own value where the metric has a label of that name, followed by the
    metric's remaining labels in their own order. -/
theorem emit_exact (ops : List Op) (f : Filter) (t : Nat) (name : Str) (labels : List (Str × Str))
    (hl : (FMap.keys labels).Nodup) (m : FMap)
    (hp : parentLabels (run init ops) (current (run init ops) t) = some m) (hne : m ≠ []) :
    emit (run init ops) f t name labels
      = (m.filter (admits f name)).map (overrideBy labels) ++ labels.filter (notIn (m.filter (admits f name))) := by
  rcases emit_cases (run init ops) f t name labels with ⟨_, hm⟩ | ⟨m', hp', _, hmem, he⟩
  · exact absurd (hm m hp) hne
  · cases hp.symm.trans hp'
    rw [he]
    exact enhanceLabels_eq f name (nodupKeys_run ops nodupKeys_init m hmem) labels hl

/-- **Unchanged without a current span** — in any state, for any label list (even one that repeats a name) -/
theorem emit_unchanged_no_span (s : State) (f : Filter) (t : Nat) (name : Str) (labels : List (Str × Str))
    (h : current s t = none) : emit s f t name labels = labels := by
  simp [emit, enhanceKey, h, parentLabels]

/-- **Unchanged without fields** — after any program, if nothing is visible from the current span (it and the
    ancestors' snapshots never assigned anything: empty spans, only `Empty` placeholders), the key is the
    metric's own, for any label list -/
theorem emit_unchanged_no_fields (ops : List Op) (f : Filter) (t : Nat) (name : Str) (labels : List (Str × Str)) :
    let sc := runG init [] ops
    (∀ k, visibleAt sc.1 sc.2 t k = none) → emit sc.1 f t name labels = labels := by
  intro sc h
  rcases emit_cases sc.1 f t name labels with ⟨he, _⟩ | ⟨m, hp, hne, _, _⟩
  · exact he
  · refine absurd ((FMap.get?_none_all_iff_nil m).mp fun k => ?_) hne
    have hv : (match parentLabels sc.1 (current sc.1 t) with | some pl => FMap.get? pl k | none => none) = _ :=
      visibleAt_eq ops t k
    rw [hp] at hv
    exact hv.trans (h k)

/-! ## other threads -/

/-- an emission on thread `t` reads nothing but `t`'s own stack and the span store -/
theorem emit_frame (s₁ s₂ : State) (f : Filter) (t : Nat) (name : Str) (labels : List (Str × Str))
    (hs : s₁.spans = s₂.spans) (ht : s₁.stacks t = s₂.stacks t) :
    emit s₁ f t name labels = emit s₂ f t name labels := by
  simp [emit, enhanceKey, current, parentLabels, hs, ht]

/-- **Independence from other threads' spans.**  Whatever the *other* threads do — create spans (with any
    parent), enter and exit spans in any order, record on any span other than `t`'s current one — the key a
    metric gets on thread `t` is the same as if they had done nothing.  (A `record()` on `t`'s own current span
    is excluded because it changes that span, not because of who calls it.) -/
theorem emit_indep_other_threads (s : State) (hwf : WF s) (t : Nat) (ops : List Op)
    (hops : ∀ op ∈ ops, opThread op ≠ t ∧ ¬ recordsOn (current s t) op)
    (f : Filter) (name : Str) (labels : List (Str × Str)) :
    emit (run s ops) f t name labels = emit s f t name labels := by
  induction ops generalizing s with
  | nil => rfl
  | cons op ops ih =>
    have h1 := hops op (by simp)
    have hst := step_other_thread hwf t op h1.1 h1.2
    have hcur : current (step s op) t = current s t := by simp [current, hst.1]
    have := ih (step s op) (wf_step hwf op) (by
      intro o ho
      have := hops o (by simp [ho])
      rw [hcur]; exact this)
    simp only [run, List.foldl_cons] at this ⊢
    rw [this]
    simp only [emit, enhanceKey, hcur, hst.2]

/-- the same, from a fresh subscriber: any prefix program, then any activity of the other threads -/
theorem emit_indep_other_threads_reachable (pre ops : List Op) (t : Nat)
    (hops : ∀ op ∈ ops, opThread op ≠ t ∧ ¬ recordsOn (current (run init pre) t) op)
    (f : Filter) (name : Str) (labels : List (Str × Str)) :
    emit (run init (pre ++ ops)) f t name labels = emit (run init pre) f t name labels := by
  have := emit_indep_other_threads (run init pre) (wf_run pre wf_init) t ops hops f name labels
  simpa [run, List.foldl_append] using this

/-! ## the filters of the crate -/

theorem includeAll_admits (name k v : Str) : Filter.includeAll.shouldInclude name k v = true := rfl

theorem allowlist_admits_iff (names : List Str) (name k v : Str) :
    (Filter.allowlist names).shouldInclude name k v = true ↔ k ∈ names := by
  simp [Filter.shouldInclude]

/-! ### names are bytes: the allow-list for arbitrary UTF-8 names

The code compares Rust strings, i.e. UTF-8 byte sequences (`HashSet<String>::contains(&str)`); the model compares
code-point lists.  `utf8_inj` makes the two the same question, and the statements below say what the property's
"allow-list = the listed names" means for names of any script: byte-for-byte identity with a listed name and
nothing else — in particular no length (in bytes or in characters) of any name on the list plays a role. -/

/-- two names have the same UTF-8 bytes iff they are the same code points -/
theorem utf8_inj (a b : Str) : utf8 a = utf8 b ↔ a = b := by
  constructor
  · intro h
    exact String.ofList_injective (String.toByteArray_inj.mp h)
  · intro h; rw [h]

/-- **`Allowlist` admits exactly the listed names, byte for byte**: a label is admitted iff the bytes of its name
    are the bytes of some listed name — whatever the metric, the value, the other names on the list, and the
    lengths of any of them -/
theorem allowlist_admits_iff_bytes (names : List Str) (name k v : Str) :
    (Filter.allowlist names).shouldInclude name k v = true ↔ ∃ n ∈ names, utf8 n = utf8 k := by
  simp [Filter.shouldInclude, utf8_inj]

/-- the decision for `k` depends on nothing but whether `k` itself is listed: adding or removing OTHER names
    (longer, shorter, of another script) never changes it -/
theorem allowlist_indep_of_other_names (names names' : List Str) (name name' k v v' : Str)
    (h : k ∈ names ↔ k ∈ names') :
    (Filter.allowlist names).shouldInclude name k v = (Filter.allowlist names').shouldInclude name' k v' := by
  have h1 := allowlist_admits_iff names name k v
  have h2 := allowlist_admits_iff names' name' k v'
  cases e1 : (Filter.allowlist names).shouldInclude name k v <;>
    cases e2 : (Filter.allowlist names').shouldInclude name' k v' <;> simp_all

/-- a character takes at least one byte: `chars().count() ≤ len()` for every name -/
theorem charLen_le_byteLen (s : Str) : charLen s ≤ byteLen s := by
  induction s with
  | nil => simp [charLen]
  | cons c r ih =>
    simp only [charLen, byteLen, utf8, String.toByteArray_ofList] at ih ⊢
    rw [List.utf8Encode_cons, ByteArray.size_append, List.utf8Encode_singleton]
    have : 1 ≤ (String.utf8EncodeChar c).toByteArray.size := by
      simp
      exact Char.utf8Size_pos c
    simp only [List.length_cons]
    omega

/-- … and the two lengths do differ, so a bound taken in one unit must not be compared with a length taken in
    the other: there are allow-lists with a listed (hence admitted) name whose byte length exceeds the character
    count of EVERY listed name.  Any shortcut of the form "reject when `key.len()` is above the largest
    `chars().count()` of the list" therefore rejects a label the property requires. -/
theorem char_count_bound_unsound :
    ∃ (names : List Str) (k : Str), k ∈ names
      ∧ (∀ name v, (Filter.allowlist names).shouldInclude name k v = true)
      ∧ ∀ n ∈ names, charLen n < byteLen k := by
  refine ⟨[['r', 'é', 'g', 'i', 'o', 'n'], ['e', 'n', 'v']], ['r', 'é', 'g', 'i', 'o', 'n'], by simp, ?_, by decide +kernel⟩
  intro name v
  simp [Filter.shouldInclude]

/-- a bound in the SAME unit is harmless: every listed name lies between the smallest and the largest byte
    length of the list (so the only sound length shortcut is one in bytes, and it changes no decision) -/
theorem byte_length_bound_sound (names : List Str) (k : Str) (h : k ∈ names) :
    (names.map byteLen).foldl min (byteLen k) ≤ byteLen k ∧ byteLen k ≤ (names.map byteLen).foldl max 0 := by
  constructor
  · generalize byteLen k = b
    have : ∀ (l : List Nat) (a : Nat), a ≤ b → l.foldl min a ≤ b := by
      intro l
      induction l with
      | nil => intro a ha; simpa using ha
      | cons x r ih => intro a ha; exact ih (min a x) (Nat.le_trans (Nat.min_le_left a x) ha)
    exact this _ b (Nat.le_refl b)
  · have : ∀ (l : List Str) (a : Nat), (k ∈ l ∨ byteLen k ≤ a) → byteLen k ≤ (l.map byteLen).foldl max a := by
      intro l
      induction l with
      | nil => intro a ha; simpa using ha
      | cons x r ih =>
        intro a ha
        simp only [List.map_cons, List.foldl_cons]
        apply ih
        rcases ha with ha | ha
        · rcases List.mem_cons.mp ha with e | e
          · exact .inr (e ▸ Nat.le_max_right ..)
          · exact .inl e
        · exact .inr (Nat.le_trans ha (Nat.le_max_left ..))
    exact this names 0 (Or.inl h)

/-- **Emission under an allow-list**, for names of any script: after any program, the key handed to the inner
    recorder maps `k` to the metric's own value if it has one; otherwise to the value visible for `k` from the
    current span iff `k` is byte-for-byte one of the listed names; otherwise to nothing. -/
theorem emit_allowlist_lookup (ops : List Op) (names : List Str) (t : Nat) (name : Str) (labels : List (Str × Str))
    (hl : (FMap.keys labels).Nodup) (k : Str) :
    let sc := runG init [] ops
    FMap.get? (emit sc.1 (.allowlist names) t name labels) k
      = (FMap.get? labels k).or (if ∃ n ∈ names, utf8 n = utf8 k then visibleAt sc.1 sc.2 t k else none) := by
  intro sc
  have h := emit_lookup ops (.allowlist names) t name labels hl k
  simp only [] at h
  rw [h]
  congr 1
  cases hv : visibleAt (runG init [] ops).1 (runG init [] ops).2 t k with
  | none => simp [admitOpt]
  | some w =>
    have hb := allowlist_admits_iff_bytes names name k w
    by_cases hm : ∃ n ∈ names, utf8 n = utf8 k
    · simp [admitOpt, hm, hb.mpr hm]
    · have : (Filter.allowlist names).shouldInclude name k w = false := by
        cases e : (Filter.allowlist names).shouldInclude name k w
        · rfl
        · exact absurd (hb.mp e) hm
      simp [admitOpt, hm, this]

/-! ## the object pool: maps of closed spans are reused, and it never shows

`Labels::default()` does not build a map, it pulls one out of a process-wide pool into which the maps of closed
spans (of any thread, of any subscriber) and the temporaries of `record()` are handed back.  The statements
above read "a new span starts from an empty map"; here that is proved of the pooled code, for ALL programs
with any closings in any places. -/

/-- a fresh process: fresh subscriber, nothing in the pool -/
def pinit : PState := {}

theorem poolClean_pinit : PoolClean pinit := fun _ hm => absurd hm List.not_mem_nil

/-- **Pool invariant.**  After any program (spans created, recorded on, entered, left, closed in any order)
    every free map of the pool is empty. -/
theorem pool_clean (ops : List POp) : ∀ m ∈ (prun pinit ops).pool, m = [] :=
  (prun_of_clean ops poolClean_pinit).1

/-- **Closed spans leave no trace.**  The subscriber state after any program with closings is the state of the
    same program without them, in the pool-free reading every theorem above is about. -/
theorem pooled_run_base (ops : List POp) : (prun pinit ops).base = run init (baseOps ops) := by
  rw [(prun_of_clean ops poolClean_pinit).2, baseStep_foldl]
  rfl

/-- the same from any state whose pool is clean (e.g. a pool filled by another subscriber's closed spans) -/
theorem pooled_run_base_from (p : PState) (h : PoolClean p) (ops : List POp) :
    (prun p ops).base = run p.base (baseOps ops) ∧ PoolClean (prun p ops) := by
  have h' := prun_of_clean ops h
  exact ⟨by rw [h'.2, baseStep_foldl], h'.1⟩

/-- **The pool across subscribers.**  When a subscriber goes away after any program, all its open spans hand
    their maps back; the pool the next subscriber (of any thread) finds is clean again, so
    `pooled_run_base_from` applies to it. -/
theorem pool_clean_after_drop (ops : List POp) : ∀ m ∈ poolAfterDrop (prun pinit ops), m = [] :=
  poolAfterDrop_clean (pool_clean ops)

/-- **A span created after any history starts from its own fields.**  Whatever was created, recorded and
    closed before, the map stored for a new span is its own fields followed by what its parent shows. -/
theorem pooled_new_span_fresh (ops : List POp) (t : Nat) (par : Parent) (fields : List (Str × Value)) :
    let p := prun pinit ops
    (pstep p (.base (.newSpan t par fields))).base.spans
      = p.base.spans ++ [newSpanLabels fields (parentLabels p.base (resolveParent p.base t par))] := by
  intro p
  rw [(pstep_of_clean (pool_clean ops) _).2]
  rfl

/-- **Emission after closings.**  The key handed to the inner recorder after any program with closings obeys
    the lookup rule of `emit_lookup` on the program without them: own label, else admitted visible field. -/
theorem pooled_emit_lookup (ops : List POp) (f : Filter) (t : Nat) (name : Str) (labels : List (Str × Str))
    (hl : (FMap.keys labels).Nodup) (k : Str) :
    let sc := runG init [] (baseOps ops)
    FMap.get? (emit (prun pinit ops).base f t name labels) k
      = (FMap.get? labels k).or (admitOpt f name k (visibleAt sc.1 sc.2 t k)) := by
  intro sc
  rw [pooled_run_base, ← runG_state]
  exact emit_lookup (baseOps ops) f t name labels hl k

/-- **Unchanged without fields, after closings**: stale labels of finished spans never reach a key -/
theorem pooled_emit_unchanged_no_fields (ops : List POp) (f : Filter) (t : Nat) (name : Str)
    (labels : List (Str × Str)) :
    let sc := runG init [] (baseOps ops)
    (∀ k, visibleAt sc.1 sc.2 t k = none) → emit (prun pinit ops).base f t name labels = labels := by
  intro sc h
  rw [pooled_run_base, ← runG_state]
  exact emit_unchanged_no_fields (baseOps ops) f t name labels h

/-- the invariant is what carries these: from a pool holding a non-empty free map the code does show stale
    labels (a root span without fields comes out with the leftover), so a `reset` callback that leaves
    entries behind breaks the property -/
theorem dirty_pool_leaks :
    (pstep { pool := [[(['a'], ['x'])]] } (.base (.newSpan 0 .root []))).base.spans = [[(['a'], ['x'])]] := by
  decide

/-- a subscriber without a `MetricsLayer`: every key is handed on unchanged -/
theorem emit_unchanged_no_layer (s : State) (f : Filter) (t : Nat) (name : Str) (labels : List (Str × Str)) :
    emitCfg false s f t name labels = labels ∧ emitCfg true s f t name labels = emit s f t name labels :=
  ⟨rfl, rfl⟩

/-! ## registry slots: the id of a closed span is reused, and it never shows

`Model/Tracing` § registry slots stores every `Labels` in the registry slot of its span and reads it back through
the slot (`rLookup`), with closed spans freeing their slot for later spans. -/

/-- what ties the two readings together: the slot of every live span holds that span's map, and no two live spans
    share a slot -/
def RInv (r : RState) : Prop :=
  (∀ id, liveR r id = true → r.ext (r.slotOf id) = r.base.spans[id]?) ∧
  (∀ i j, liveR r i = true → liveR r j = true → r.slotOf i = r.slotOf j → i = j)

theorem liveR_iff (r : RState) (id : Nat) : liveR r id = true ↔ id < r.base.spans.length ∧ id ∉ r.closed := by
  simp [liveR]

theorem slotFree_spec {r : RState} {slot : Nat} (h : slotFree r slot = true) (id : Nat) (hl : liveR r id = true) :
    r.slotOf id ≠ slot := by
  simp only [slotFree, List.all_eq_true, List.mem_range] at h
  rw [liveR_iff] at hl
  have := h id hl.1
  intro e
  simp [e, hl.2] at this

theorem rLookup_eq {r : RState} (hi : RInv r) (p : Option Nat)
    (hp : match p with | none => True | some pid => liveR r pid = true) :
    rLookup r p = parentLabels r.base p := by
  cases p with
  | none => rfl
  | some pid => simp only [rLookup, parentLabels]; exact hi.1 pid hp

theorem step_stack_spans (s : State) (t id : Nat) :
    (step s (.enter t id)).spans = s.spans ∧ (step s (.exit t id)).spans = s.spans := by
  refine ⟨?_, rfl⟩
  simp only [step]
  split <;> rfl

/-- a step that keeps the slot assignment, revives no span, and leaves in the slot of every span still alive that
    span's map, keeps the invariant -/
theorem RInv.of_sub {r r' : RState} (hi : RInv r) (hs : r'.slotOf = r.slotOf)
    (hl : ∀ j, liveR r' j = true → liveR r j = true)
    (he : ∀ j, liveR r' j = true → liveR r j = true → r'.ext (r.slotOf j) = r'.base.spans[j]?) : RInv r' := by
  refine ⟨fun j h => ?_, fun i j hli hlj h => hi.2 i j (hl i hli) (hl j hlj) ?_⟩
  · rw [hs]; exact he j h (hl j h)
  · rwa [hs] at h

theorem liveR_of_same {r r' : RState} {j : Nat} (h : liveR r' j = true)
    (hl : r'.base.spans.length = r.base.spans.length) (hc : r'.closed = r.closed) : liveR r j = true := by
  unfold liveR at h ⊢; rwa [hl, hc] at h

/-- one legal operation keeps the invariant, and the creation-numbered reading moves as the slot-free model says
    (closing does nothing there) -/
theorem rinv_step {r : RState} (hi : RInv r) (op : ROp) (hl : legal r op = true) :
    RInv (rstep r op) ∧ (rstep r op).base = baseStepOpt r.base op.toBase := by
  cases op with
  | new t par fields slot =>
    simp only [legal, Bool.and_eq_true] at hl
    have hfree := hl.1
    have hpar : rLookup r (resolveParent r.base t par) = parentLabels r.base (resolveParent r.base t par) := by
      apply rLookup_eq hi
      cases h : resolveParent r.base t par with
      | none => trivial
      | some pid => have := hl.2; rw [h] at this; exact this
    have hold : ∀ id, liveR (rstep r (.new t par fields slot)) id = true → id ≠ r.base.spans.length → liveR r id = true := by
      intro id h e
      rw [liveR_iff] at h ⊢
      simp only [rstep, List.length_append, List.length_cons, List.length_nil] at h
      exact ⟨Nat.lt_of_le_of_ne (Nat.le_of_lt_succ h.1) e, h.2⟩
    refine ⟨⟨?_, ?_⟩, ?_⟩
    · intro id hlive
      show (if (if id = r.base.spans.length then slot else r.slotOf id) = slot then some _
          else r.ext (if id = r.base.spans.length then slot else r.slotOf id)) = (r.base.spans ++ [_])[id]?
      by_cases e : id = r.base.spans.length
      · rw [e, if_pos rfl, if_pos rfl, hpar, List.getElem?_concat_length]
      · have hlv := hold id hlive e
        rw [if_neg e, if_neg (slotFree_spec hfree id hlv), hi.1 id hlv,
          List.getElem?_append_left ((liveR_iff r id).mp hlv).1]
    · intro i j hli hlj hs
      replace hs : (if i = r.base.spans.length then slot else r.slotOf i)
          = (if j = r.base.spans.length then slot else r.slotOf j) := hs
      by_cases ei : i = r.base.spans.length <;> by_cases ej : j = r.base.spans.length
      · exact ei.trans ej.symm
      · rw [if_pos ei, if_neg ej] at hs
        exact absurd hs.symm (slotFree_spec hfree j (hold j hlj ej))
      · rw [if_neg ei, if_pos ej] at hs
        exact absurd hs (slotFree_spec hfree i (hold i hli ei))
      · rw [if_neg ei, if_neg ej] at hs
        exact hi.2 i j (hold i hli ei) (hold j hlj ej) hs
    · simp only [rstep, ROp.toBase, baseStepOpt, step, onNewSpan, hpar]
  | record t id fields =>
    refine ⟨hi.of_sub rfl (fun j h => liveR_of_same h (length_modifyAt ..) rfl) fun j _ hlj => ?_, rfl⟩
    show (if r.slotOf j = r.slotOf id then (r.ext (r.slotOf j)).map (recordFn fields) else r.ext (r.slotOf j))
      = (modifyAt r.base.spans id (recordFn fields))[j]?
    rw [getElem?_modifyAt, hi.1 j hlj]
    by_cases e : j = id
    · rw [e, if_pos rfl, if_pos rfl]
    · rw [if_neg e, if_neg fun h => e (hi.2 j id hlj hl h)]
  | enter t id =>
    have hsp := (step_stack_spans r.base t id).1
    refine ⟨hi.of_sub rfl (fun j h => liveR_of_same h (congrArg _ hsp) rfl) fun j _ hlj => ?_, rfl⟩
    exact (hi.1 j hlj).trans (congrArg (·[j]?) hsp.symm)
  | exit t id =>
    exact ⟨hi.of_sub rfl (fun j h => h) fun j _ hlj => hi.1 j hlj, rfl⟩
  | close id =>
    simp only [rstep]
    by_cases hc : liveR r id = true
    · rw [if_pos hc]
      have hold : ∀ j, liveR { r with closed := id :: r.closed, ext := fun s => if s = r.slotOf id then none else r.ext s } j = true
          → liveR r j = true ∧ j ≠ id := by
        intro j h
        rw [liveR_iff] at h ⊢
        simp only [List.mem_cons, not_or] at h
        exact ⟨⟨h.1, h.2.2⟩, h.2.1⟩
      refine ⟨hi.of_sub rfl (fun j h => (hold j h).1) fun j h hlj => ?_, rfl⟩
      show (if r.slotOf j = r.slotOf id then none else r.ext (r.slotOf j)) = _
      rw [if_neg fun hs => (hold j h).2 (hi.2 j id hlj hc hs)]
      exact hi.1 j hlj
    · rw [if_neg hc]
      exact ⟨hi, rfl⟩

def rinit : RState := {}

def rrun (r : RState) (ops : List ROp) : RState := ops.foldl rstep r

/-- every operation of the program is legal at the moment it is made -/
def legalRun (r : RState) : List ROp → Bool
  | [] => true
  | op :: ops => legal r op && legalRun (rstep r op) ops

def baseOpsR (ops : List ROp) : List Op := ops.filterMap ROp.toBase

theorem rinv_init : RInv rinit := by
  constructor
  · intro id h; simp [liveR, rinit] at h
  · intro i j h; simp [liveR, rinit] at h

/-- from any state satisfying the invariant -/
theorem slots_agree_from (r : RState) (hi : RInv r) (ops : List ROp) (h : legalRun r ops = true) :
    (rrun r ops).base = run r.base (baseOpsR ops) ∧ RInv (rrun r ops) := by
  induction ops generalizing r with
  | nil => exact ⟨rfl, hi⟩
  | cons op ops ih =>
    simp only [legalRun, Bool.and_eq_true] at h
    have hs := rinv_step hi op h.1
    have := ih (rstep r op) hs.1 h.2
    simp only [rrun, List.foldl_cons] at this ⊢
    refine ⟨?_, this.2⟩
    rw [this.1, hs.2]
    cases hb : op.toBase with
    | none => simp [baseOpsR, hb, baseStepOpt]
    | some o => simp [baseOpsR, hb, baseStepOpt, run]

/-- **Registry id reuse does not show.**  After any program in which spans close and their registry slots are handed
    to later spans — any slot no live span occupies, in any order, across threads — the creation-numbered state is
    the one of the slot-free model on the same program without the closings (so every theorem above applies), and
    the slot of every live span holds exactly that span's map: nothing of the slot's previous tenant. -/
theorem slots_agree (ops : List ROp) (h : legalRun rinit ops = true) :
    (rrun rinit ops).base = run init (baseOpsR ops) ∧ RInv (rrun rinit ops) := by
  have := slots_agree_from rinit rinv_init ops h
  exact this

/-- **Emission through a reused slot.**  The key of a metric emitted on thread `t`, its current span's labels being
    read from the registry slot the span lives in (possibly the slot of spans that closed earlier), is the key
    `emit` of the slot-free model gives — hence obeys `emit_lookup` / `emit_label_set` / `emit_exact`.  (The
    current span is alive: its stack entry holds a reference.) -/
theorem slot_emit_eq (ops : List ROp) (h : legalRun rinit ops = true) (f : Filter) (t : Nat) (name : Str)
    (labels : List (Str × Str))
    (hc : ∀ c, current (rrun rinit ops).base t = some c → liveR (rrun rinit ops) c = true) :
    rEmit (rrun rinit ops) f t name labels = emit (run init (baseOpsR ops)) f t name labels := by
  have ha := slots_agree ops h
  have hl : rLookup (rrun rinit ops) (current (rrun rinit ops).base t)
      = parentLabels (rrun rinit ops).base (current (rrun rinit ops).base t) := by
    apply rLookup_eq ha.2
    cases hcur : current (rrun rinit ops).base t with
    | none => trivial
    | some c => exact hc c hcur
  simp only [rEmit, hl, emit, enhanceKey, ← ha.1]
  cases parentLabels (rrun rinit ops).base (current (rrun rinit ops).base t) with
  | none => rfl
  | some m => by_cases e : m.isEmpty <;> simp [e]

/-- the legality premise is what carries this: were a slot handed out while a live span occupies it, that span would
    show the newcomer's labels -/
theorem illegal_slot_reuse_leaks :
    rEmit (rrun rinit [.new 0 .root [(['a'], .str ['x'])] 0, .enter 0 0, .new 0 .root [(['b'], .str ['y'])] 0])
      .includeAll 0 ['m'] [] = [(['b'], ['y'])] := by
  decide

/-! ## other subscriber compositions: a per-layer filter on the `MetricsLayer`, events, `follows_from`

`FState` / `fstep` / `fEmit` (`Model/Tracing`): spans the layer's filter turned down exist in the registry without a
`Labels` extension; an enabled span merges the map of its closest ENABLED ancestor; events and `follows_from` reach no
callback of the layer. -/

def finit : FState := {}

theorem frun_append (f : FState) (a b : List FOp) : frun f (a ++ b) = frun (frun f a) b := by
  simp [frun, List.foldl_append]

/-- **Events and `follows_from` change nothing.**  Removing every `tracing::event!` (with whatever fields, under
    whatever parent) and every `Span::follows_from` from a program leaves the state — every span's labels, every
    thread's stack — exactly as it was; so no later key can depend on them. -/
theorem events_follows_transparent (ops : List FOp) (f : FState) :
    frun f ops = frun f (ops.filter (fun op => !op.silent)) := by
  induction ops generalizing f with
  | nil => rfl
  | cons op r ih =>
    -- a silent operation is a step that returns the state as it is and is filtered out; any other is kept
    cases op with
    | event t par fields => exact ih f
    | followsFrom a b => exact ih f
    | new t par fields en => exact ih _
    | record t id fields => exact ih _
    | enter t id => exact ih _
    | exit t id => exact ih _

/-- one step of the filtered subscriber is the translated step(s) of the unfiltered model -/
theorem fstep_base (f : FState) (op : FOp) : (fstep f op).base = run f.base (ftransOp f op) := by
  cases op with
  | new t par fields en =>
    cases en with
    | true =>
      -- `optParent` turns the closest enabled ancestor back into a parent the registry resolves to it
      have h : resolveParent f.base t (optParent (labelParent f t par)) = labelParent f t par := by
        cases labelParent f t par <;> rfl
      show _ = onNewSpan f.base t (optParent (labelParent f t par)) fields
      rw [onNewSpan, h]
      rfl
    | false => rfl
  | record t id fields =>
    simp only [fstep, ftransOp]
    split <;> rfl
  | enter t id => rfl
  | exit t id => rfl
  | event t par fields => rfl
  | followsFrom a b => rfl

/-- **Every state a filtered subscriber reaches is a state of the unfiltered model** — reached by the translated
    program (`ftrans`: enabled spans created under their closest enabled ancestor, hidden spans as field-less roots,
    records on hidden spans / events / `follows_from` dropped).  Hence every theorem above about `run init ops`
    (precedence, no duplicate names, the label set, …) holds for the keys of a filtered subscriber whenever the
    current span is enabled for the layer (`fil_emit_enabled`). -/
theorem fil_run_is_base_run (ops : List FOp) (f : FState) :
    (frun f ops).base = run f.base (ftrans f ops) := by
  induction ops generalizing f with
  | nil => rfl
  | cons op r ih =>
    show (frun (fstep f op) r).base = run f.base (ftransOp f op ++ ftrans (fstep f op) r)
    rw [ih (fstep f op), fstep_base]
    simp [run, List.foldl_append]

/-- with the current span enabled for the layer the key is the unfiltered model's key in the translated program -/
theorem fil_emit_enabled (ops : List FOp) (flt : Filter) (t c : Nat) (name : Str) (labels : List (Str × Str))
    (hc : current (frun finit ops).base t = some c) (he : isHidden (frun finit ops) c = false) :
    fEmit (frun finit ops) flt t name labels = emit (run init (ftrans finit ops)) flt t name labels := by
  have hb : (frun finit ops).base = run init (ftrans finit ops) := fil_run_is_base_run ops finit
  simp only [fEmit, hc, he]
  rw [hb]
  simp

/-- **Inside a span the layer's filter turned down the key is unchanged** — whatever its enabled ancestors carry:
    `current_span()` is the hidden span, it has no `Labels`, `enhance_key` gives up -/
theorem fil_hidden_current_unchanged (f : FState) (flt : Filter) (t c : Nat) (name : Str) (labels : List (Str × Str))
    (hc : current f.base t = some c) (hh : isHidden f c = true) : fEmit f flt t name labels = labels := by
  simp [fEmit, hc, hh]

/-- the key of a filtered subscriber never repeats a label name (distinct own names given) -/
theorem fil_emit_no_duplicate_names (ops : List FOp) (flt : Filter) (t : Nat) (name : Str) (labels : List (Str × Str))
    (hl : (FMap.keys labels).Nodup) :
    (FMap.keys (fEmit (frun finit ops) flt t name labels)).Nodup := by
  cases hc : current (frun finit ops).base t with
  | none =>
    simp only [fEmit, hc]
    exact hl
  | some c =>
    cases he : isHidden (frun finit ops) c with
    | true =>
      rw [fil_hidden_current_unchanged _ flt t c name labels hc he]
      exact hl
    | false =>
      rw [fil_emit_enabled ops flt t c name labels hc he]
      exact emit_no_duplicate_names _ flt t name labels hl

/-- a hidden span never has labels, and `record()` on it changes nothing anywhere -/
theorem fil_hidden_no_labels (f : FState) (id t : Nat) (fields : List (Str × Value)) (hh : isHidden f id = true) :
    fLabels f id = none ∧ fstep f (.record t id fields) = f := by
  simp [fLabels, fstep, hh]

/-- **A subscriber whose filter turns nothing down is the plain model**: same spans, same stacks, same keys -/
theorem fil_no_hidden_eq (ops : List Op) :
    (frun finit (ops.map FOp.ofOp)).base = run init ops ∧ (frun finit (ops.map FOp.ofOp)).hidden = [] := by
  suffices h : ∀ (f : FState), f.hidden = [] →
      (frun f (ops.map FOp.ofOp)).base = run f.base ops ∧ (frun f (ops.map FOp.ofOp)).hidden = [] from h finit rfl
  induction ops with
  | nil => intro f hf; exact ⟨rfl, hf⟩
  | cons op r ih =>
    intro f hf
    have hlp : ∀ t par, parentLabels f.base (labelParent f t par) = parentLabels f.base (resolveParent f.base t par) := by
      intro t par
      simp only [labelParent]
      cases hrp : resolveParent f.base t par with
      | none => cases f.base.spans.length <;> simp [enabledFrom]
      | some p =>
        cases hn : f.base.spans.length with
        | zero =>
          have : f.base.spans = [] := List.eq_nil_of_length_eq_zero hn
          simp [enabledFrom, parentLabels, this]
        | succ n => simp [enabledFrom, isHidden, hf]
    have hstep : (fstep f (FOp.ofOp op)).base = step f.base op ∧ (fstep f (FOp.ofOp op)).hidden = [] := by
      cases op with
      | newSpan t par fields => simp [FOp.ofOp, fstep, step, onNewSpan, hlp, hf]
      | record t id fields => simp [FOp.ofOp, fstep, isHidden, hf]
      | enter t id => simp [FOp.ofOp, fstep, hf]
      | exit t id => simp [FOp.ofOp, fstep, hf]
    have := ih (fstep f (FOp.ofOp op)) hstep.2
    simp only [List.map_cons, frun, List.foldl_cons, run] at this ⊢
    rw [hstep.1] at this
    exact this

/-- … and emits the plain model's keys -/
theorem fil_no_hidden_emit (ops : List Op) (flt : Filter) (t : Nat) (name : Str) (labels : List (Str × Str)) :
    fEmit (frun finit (ops.map FOp.ofOp)) flt t name labels = emit (run init ops) flt t name labels := by
  obtain ⟨hb, hh⟩ := fil_no_hidden_eq ops
  simp only [fEmit, isHidden, hh, hb]
  cases hc : current (run init ops) t with
  | none => simp [emit_unchanged_no_span _ _ _ _ _ hc]
  | some c => simp

/-- **The property's full wording is FALSE of a filtered layer** (witness, replayed on the real crates by the harness
    corpus "per-layer filter: emission inside a hidden span"): outer span `a = 1` enabled and entered, inner span
    hidden and entered; the metric is emitted "inside tracing spans", the ancestor's field `a` was there when the
    inner span was created — and the key has no label.  The provable part is `fil_emit_enabled`. -/
theorem fil_hidden_drops_ancestor_fields :
    let ops : List FOp := [.new 0 .contextual [(['a'], .u64 1)] true, .enter 0 0, .new 0 .contextual [] false, .enter 0 1]
    fEmit (frun finit ops) .includeAll 0 ['m'] [] = []
    ∧ fLabels (frun finit ops) 0 = some [(['a'], ['1'])]
    ∧ (frun finit ops).parents = [none, some 0] := by
  decide

/-! ## source facts: what ties the model's shape to the text of the crate -/

/-- the pool is built with `Map::new` / `Map::clear` (`poolInit` / `poolReset`), `Labels::default()` pulls
    from it and `from_record` starts from `Labels::default()` -/
theorem src_pool :
    Generated.tracing_pool_callbacks = ["Map::new", "Map::clear"]
    ∧ Generated.tracing_labels_default = "{Labels(get_pool().pull_owned())}"
    ∧ Generated.tracing_from_record = "{letmutlabels=Labels::default();record.record(&mutlabels);labels}" :=
  ⟨rfl, rfl, rfl⟩

/-- `Labels::extend` walks ALL of `other`; the keep variant is `entry().or_insert_with`, the overwrite variant
    `insert`; every `Visit` arm inserts under the field's name -/
theorem src_extend :
    Generated.tracing_extend_loop = ["for(k,v)inother.as_ref()", "{f(&mutself.0,k,v);}"]
    ∧ Generated.tracing_extend_keep = "{map.entry(k.clone()).or_insert_with(||v.clone());}"
    ∧ Generated.tracing_extend_overwrite = "{map.insert(k.clone(),v.clone());}"
    ∧ Generated.tracing_visit_fns
        = ["record_str:insert", "record_bool:insert", "record_i64:insert", "record_u64:insert", "record_debug:insert"] :=
  ⟨rfl, rfl, rfl, rfl⟩

/-- call order of the two subscriber callbacks and of the lookup `enhance_key` goes through -/
theorem src_layer_calls :
    Generated.tracing_on_new_span_calls = ["from_record", "parent", "get", "extend_from_labels", "insert"]
    ∧ Generated.tracing_on_record_calls = ["from_record", "get_mut", "extend_from_labels_overwrite", "insert"]
    ∧ Generated.tracing_lookup_calls = ["downcast_ref", "span", "extensions", "f", "get"]
    ∧ Generated.tracing_with_labels
        = "{letmutff=|labels:&Labels|f(labels.0.clone());(self.with_labels?)(dispatch,id,&mutff)}" :=
  ⟨rfl, rfl, rfl, rfl⟩

/-- `enhance_key`: filter (`retain` with the metric's name and the label) BEFORE the metric's own labels are
    put on top (`extend`) -/
theorem src_enhance_key :
    Generated.tracing_enhance_key_calls
      = ["get_default", "current_span", "id", "downcast_ref", "is_empty", "then", "into_parts", "retain",
         "should_include_label", "extend", "from_parts", "with_labels"]
    ∧ Generated.tracing_enhance_filter_args = ["&name", "&label"] :=
  ⟨rfl, rfl⟩

/-- every `register_*` registers the ENHANCED key (the original one only when `enhance_key` gave none) with
    the caller's metadata at the inner recorder and returns the inner recorder's handle; every `describe_*`
    is handed on untouched -/
theorem src_recorder_forwards :
    Generated.tracing_recorder_fns
      = ["describe_counter:{self.inner.describe_counter(key_name,unit,description)}",
         "describe_gauge:{self.inner.describe_gauge(key_name,unit,description)}",
         "describe_histogram:{self.inner.describe_histogram(key_name,unit,description)}",
         "register_counter:{letnew_key=self.enhance_key(key);letkey=new_key.as_ref().unwrap_or(key);self.inner.register_counter(key,metadata)}",
         "register_gauge:{letnew_key=self.enhance_key(key);letkey=new_key.as_ref().unwrap_or(key);self.inner.register_gauge(key,metadata)}",
         "register_histogram:{letnew_key=self.enhance_key(key);letkey=new_key.as_ref().unwrap_or(key);self.inner.register_histogram(key,metadata)}"] :=
  rfl

/-- the crate's two filters: exact membership of the label's name in the set built from the given names
    unchanged; include-all is constantly true -/
theorem src_filters :
    Generated.tracing_allowlist_include = "{self.label_names.contains(label.key())}"
    ∧ Generated.tracing_allowlist_new = "{Self{label_names:allowed.into_iter().map(|s|s.as_ref().to_string()).collect()}}"
    ∧ Generated.tracing_includeall_include = "{true}" :=
  ⟨rfl, rfl, rfl⟩

/-- an `Allowlist` holds nothing but the set of names (no bounds, no precomputed lengths that a decision could
    consult besides the set), and the layer constructors hand the names / the include-all filter on untouched -/
theorem src_filter_construction :
    Generated.tracing_allowlist_fields = ["label_names:HashSet<String>"]
    ∧ Generated.tracing_only_allow = "{Self{label_filter:label_filter::Allowlist::new(allowed)}}"
    ∧ Generated.tracing_layer_all = "{Self{label_filter:label_filter::IncludeAll}}" :=
  ⟨rfl, rfl, rfl⟩

/-- `MetricsLayer` implements exactly `on_layer`, `on_new_span`, `on_record`: no `on_event`, `on_follows_from`,
    `on_enter`, `on_exit`, `on_close`, `enabled` (the model's `fstep` does nothing on events / `follows_from`); the
    three functions that decide what a key gets make exactly these calls with exactly this control flow (a guard on
    a span's level, name or target would add calls and an `if` / `return` / `?`) -/
theorem src_layer_inventory :
    Generated.tracing_layer_fns = ["on_layer", "on_new_span", "on_record"]
    ∧ Generated.tracing_on_new_span_all_calls
        = ["span", "expect", "from_record", "new", "values", "parent", "extensions", "get", "extend_from_labels",
           "extensions_mut", "insert"]
    ∧ Generated.tracing_on_new_span_ctrl = ["if", "if"]
    ∧ Generated.tracing_on_record_all_calls
        = ["span", "expect", "from_record", "extensions_mut", "get_mut", "extend_from_labels_overwrite", "insert"]
    ∧ Generated.tracing_on_record_ctrl = ["if", "else"]
    ∧ Generated.tracing_on_layer_all_calls = ["downcast_ref", "span", "extensions", "f", "get"]
    ∧ Generated.tracing_on_layer_ctrl = ["?", "?", "?"]
    ∧ Generated.tracing_enhance_key_all_calls
        = ["get_default", "current_span", "id", "downcast_ref", "is_empty", "then", "clone", "into_parts", "retain", "new",
           "clone", "clone", "should_include_label", "extend", "into_iter", "map", "into_iter", "map", "new", "from_parts",
           "with_labels"]
    ∧ Generated.tracing_enhance_key_ctrl = ["?", "?"] :=
  ⟨rfl, rfl, rfl, rfl, rfl, rfl, rfl, rfl, rfl⟩

/-- the whole body of every `Visit` arm: the VALUE stored is the full `value` (`to_owned`, `itoa`, `{value:?}` without
    width / precision / truncation), `Value.render` of the model -/
theorem src_visit_values :
    Generated.tracing_visit_bodies
      = ["record_str:{self.0.insert(field.name().into(),value.to_owned().into());}",
         "record_bool:{self.0.insert(field.name().into(),ifvalue{\"true\"}else{\"false\"}.into());}",
         "record_i64:{letmutbuf=itoa::Buffer::new();lets=buf.format(value);self.0.insert(field.name().into(),s.to_owned().into());}",
         "record_u64:{letmutbuf=itoa::Buffer::new();lets=buf.format(value);self.0.insert(field.name().into(),s.to_owned().into());}",
         "record_debug:{self.0.insert(field.name().into(),format!(\"{value:?}\").into());}"] :=
  rfl

/-! ## non-vacuity: concrete programs -/

section examples

private def A : Str := ['a']
private def B : Str := ['b']
private def C : Str := ['c']
private def M : Str := ['m']

/-- outer{a=oa,b=ob,c=oc} ⊃ inner{a=ia,b=(empty, recorded later as 7)}; a record on the outer span after the
    inner one exists; metric label a=ma -/
private def prog : List Op :=
  [ .newSpan 0 .contextual [(A, .str ['o', 'a']), (B, .str ['o', 'b']), (C, .str ['o', 'c'])],
    .enter 0 0,
    .newSpan 0 .contextual [(A, .str ['i', 'a']), (B, .empty)],
    .enter 0 1,
    .record 0 0 [(C, .str ['l', 'a', 't', 'e'])],
    .record 0 1 [(B, .bool true)] ]

example : emit (run init prog) .includeAll 0 M [(A, ['m', 'a'])]
    = [(A, ['m', 'a']), (B, ['t', 'r', 'u', 'e']), (C, ['o', 'c'])] := by decide +kernel

example : emit (run init prog) (.allowlist [C]) 0 M [(A, ['m', 'a'])] = [(C, ['o', 'c']), (A, ['m', 'a'])] := by decide +kernel

/-- after leaving the inner span the late record on the outer span is visible -/
example : emit (run init (prog ++ [.exit 0 1])) .includeAll 0 M []
    = [(A, ['o', 'a']), (B, ['o', 'b']), (C, ['l', 'a', 't', 'e'])] := by decide +kernel

/-- another thread is outside every span -/
example : emit (run init prog) .includeAll 1 M [(A, ['m', 'a'])] = [(A, ['m', 'a'])] := by decide +kernel

/-- the histories of the example: the inner span kept the snapshot `c = oc` -/
example : (runG init [] prog).2 =
    [ [[(A, ['o', 'a']), (B, ['o', 'b']), (C, ['o', 'c']), (C, ['l', 'a', 't', 'e'])]],
      [[(A, ['i', 'a']), (B, ['t', 'r', 'u', 'e'])], [(A, ['o', 'a']), (B, ['o', 'b']), (C, ['o', 'c'])]] ] := by decide +kernel

/-- the hypotheses of `emit_indep_other_threads` are satisfiable by a non-trivial activity of thread 1 -/
example : ∀ op ∈ ([.newSpan 1 (.explicit 1) [(A, .u64 5)], .enter 1 2, .record 1 0 [(A, .i64 (-1))], .exit 1 2] : List Op),
    opThread op ≠ 0 ∧ ¬ recordsOn (current (run init prog) 0) op := by
  intro op h
  simp only [List.mem_cons, List.mem_nil_iff, or_false] at h
  rcases h with h | h | h | h <;> subst h <;> refine ⟨by decide, ?_⟩ <;> simp [recordsOn] <;> decide

/-- a key with a repeated own name does get a repeated name when nothing is visible (hence the hypothesis of
    `emit_no_duplicate_names`), and loses the repetition as soon as a field is visible -/
example : emit init .includeAll 0 M [(A, ['1']), (A, ['2'])] = [(A, ['1']), (A, ['2'])] := by decide +kernel
example : emit (run init prog) .includeAll 0 M [(A, ['1']), (A, ['2'])]
    = [(A, ['2']), (B, ['t', 'r', 'u', 'e']), (C, ['o', 'c'])] := by decide +kernel

/-- names outside ASCII: `région` is 6 characters and 7 bytes, `地域` 2 and 6, the decomposed `région` 7 and 8 -/
private def REGION : Str := ['r', 'é', 'g', 'i', 'o', 'n']
private def REGION_NFD : Str := ['r', 'e', '\u0301', 'g', 'i', 'o', 'n']
private def CHIIKI : Str := ['地', '域']

example : charLen REGION = 6 ∧ byteLen REGION = 7 ∧ charLen CHIIKI = 2 ∧ byteLen CHIIKI = 6
    ∧ charLen REGION_NFD = 7 ∧ byteLen REGION_NFD = 8 := by decide +kernel

example : (utf8 REGION).data.toList = [0x72, 0xC3, 0xA9, 0x67, 0x69, 0x6F, 0x6E]
    ∧ (utf8 CHIIKI).data.toList = [0xE5, 0x9C, 0xB0, 0xE5, 0x9F, 0x9F] := by decide +kernel

/-- the single CJK name is admitted; the longest, multi-byte name of a list is admitted; its undecorated and its
    decomposed spelling are different names -/
example : emit (run init [.newSpan 0 .contextual [(CHIIKI, .str ['k']), (A, .str ['v'])], .enter 0 0])
    (.allowlist [CHIIKI]) 0 M [] = [(CHIIKI, ['k'])] := by decide +kernel
example : emit (run init [.newSpan 0 .contextual [(REGION, .str ['e', 'u']), (REGION_NFD, .str ['x']), (B, .u64 1)], .enter 0 0])
    (.allowlist [REGION, B]) 0 M [] = [(REGION, ['e', 'u']), (B, ['1'])] := by decide +kernel
example : (Filter.allowlist [REGION, B]).shouldInclude M REGION_NFD [] = false
    ∧ (Filter.allowlist [REGION, B]).shouldInclude M ['r', 'e', 'g', 'i', 'o', 'n'] [] = false := by decide +kernel

/-- wide-stack leaf closes, its map goes back to the pool; the next span (no fields, root) is empty and a metric
    inside it keeps its key; the pool holds the two maps handed back (the record temporary and the leaf's) -/
private def pprog : List POp :=
  [ .base (.newSpan 0 .contextual [(A, .str ['o', 'a']), (B, .str ['o', 'b'])]),
    .base (.enter 0 0),
    .base (.newSpan 0 .contextual [(C, .u64 7)]),
    .base (.record 0 1 [(C, .i64 (-1))]),
    .close 1,
    .base (.exit 0 0),
    .base (.newSpan 0 .root []),
    .base (.enter 0 2) ]

example : (prun pinit pprog).base.spans[2]? = some [] := by decide +kernel
example : emit (prun pinit pprog).base .includeAll 0 M [(A, ['m'])] = [(A, ['m'])] := by decide +kernel
example : (prun pinit pprog).closed = [1] ∧ (prun pinit pprog).pool = [[]] := by decide +kernel
example : pinned (prun pinit pprog) 4 0 = false ∧ pinned (prun pinit (pprog.take 4)) 4 0 = true := by decide +kernel

/-- span 0 closes, span 1 takes its slot 0 (a reuse), span 2 a fresh slot; a record on the reused slot -/
private def rprog : List ROp :=
  [ .new 0 .contextual [(A, .str ['o', 'l', 'd']), (B, .str ['o', 'b'])] 0,
    .enter 0 0, .exit 0 0, .close 0,
    .new 0 .contextual [(C, .u64 7)] 0,
    .enter 0 1,
    .new 0 .contextual [(A, .str ['n', 'e', 'w'])] 1,
    .record 0 1 [(C, .i64 (-1))],
    .enter 0 2 ]

example : legalRun rinit rprog = true := by decide +kernel
example : rEmit (rrun rinit rprog) .includeAll 0 M [] = [(A, ['n', 'e', 'w']), (C, ['7'])] := by decide +kernel
example : (rrun rinit rprog).ext 0 = some [(C, ['-', '1'])] ∧ (rrun rinit rprog).slotOf 1 = 0 := by decide +kernel

/-! filtered layer: a child of a hidden span inherits from the closest enabled ancestor AS IT IS when the child is
    created (the record on span 0 made after the hidden span 1 was created is seen by span 2) -/
def fprog : List FOp :=
  [.new 0 .contextual [(A, .str ['o']), (B, .empty)] true, .enter 0 0,
   .new 0 .contextual [(C, .u64 9)] false, .enter 0 1,
   .record 0 0 [(B, .str ['l', 'a', 't', 'e'])],
   .record 0 1 [(C, .u64 10)],
   .event 0 .contextual [(A, .str ['e', 'v'])],
   .new 0 .contextual [(C, .i64 (-1))] true, .followsFrom 2 0, .enter 0 2]

example : fLabels (frun finit fprog) 2 = some [(C, ['-', '1']), (A, ['o']), (B, ['l', 'a', 't', 'e'])] := by decide +kernel
example : fLabels (frun finit fprog) 1 = none := by decide +kernel
example : fEmit (frun finit fprog) .includeAll 0 M [(A, ['m'])] = [(C, ['-', '1']), (A, ['m']), (B, ['l', 'a', 't', 'e'])] := by
  decide +kernel
example : fEmit (frun finit (fprog ++ [.exit 0 2])) .includeAll 0 M [(A, ['m'])] = [(A, ['m'])] := by decide +kernel
example : ftrans finit fprog =
    [.newSpan 0 .root [(A, .str ['o']), (B, .empty)], .enter 0 0, .newSpan 0 .root [], .enter 0 1,
     .record 0 0 [(B, .str ['l', 'a', 't', 'e'])], .newSpan 0 (.explicit 0) [(C, .i64 (-1))], .enter 0 2] := by rfl

end examples

end MetricsVerif.C17
