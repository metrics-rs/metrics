/-
C19 — debugging snapshots show every registered metric with its true current state.

Model: `Model/Debugging.lean` (sequential state machine of `DebuggingRecorder` / `Snapshotter`).  Every theorem
is for ALL sequences of describe / register / update / snapshot calls, any keys (the same name under several
kinds, keys equal up to `Key::eq` given in different forms), any values.  A key is identified by `canonKey`
(labels sorted by label name), which is `Key::eq` for label lists with pairwise distinct names.
Arithmetic on gauge values is exact (dyadic rationals); IEEE rounding is outside the model.
A snapshot racing a `record()` is `Props/C19Hist.lean` (model `Model/DebuggingHist.lean`: the histogram on the bucket's step
machine of C05).
-/
import MetricsVerif.Proofs.Debugging
import MetricsVerif.Generated.SourceFacts

namespace MetricsVerif.C19
open MetricsVerif.Debugging MetricsVerif.PromFmt
open MetricsVerif.Prom (Str Val MKey lookup upsert two64)

theorem run_cons (s : St) (op : Op) (ops : List Op) : run s (op :: ops) = run (step s op) ops := rfl
theorem run_append (s : St) (a b : List Op) : run s (a ++ b) = run (run s a) b := by
  simp [run, List.foldl_append]
theorem run_snoc (s : St) (a : List Op) (op : Op) : run s (a ++ [op]) = step (run s a) op := by
  simp [run, List.foldl_append]

/-- a projection of the state that every call updates by `spec` is, after a run, the fold of `spec` -/
theorem run_fold {β : Type} (proj : St → β) (spec : β → Op → β) (h : ∀ s op, proj (step s op) = spec (proj s) op)
    (ops : List Op) : ∀ s, proj (run s ops) = ops.foldl spec (proj s) := by
  induction ops with
  | nil => intro s; rfl
  | cons op ops ih => intro s; rw [run_cons, ih, h]; rfl

theorem run_keeps {P : St → Prop} (h : ∀ s op, P s → P (step s op)) (ops : List Op) : ∀ s, P s → P (run s ops) := by
  induction ops with
  | nil => intro s hs; exact hs
  | cons op ops ih => intro s hs; exact ih _ (h s op hs)

/-- a snapshot taken after the history `ops` on a fresh recorder -/
def snapshotAfter (ops : List Op) : List Entry := output (run init ops) .snapshot

/-- identity `(kind, canonical key)` of a snapshot entry -/
def Entry.id (e : Entry) : Id := (e.kind, e.key)

/-- the metrics registered by a history, in order of first registration: every call that registers
    `(kind, key)` appends it unless it is already there -/
def registered (ops : List Op) : List Id := ops.foldl specSeen []

/-- `seen` is the list of registered metrics in first-registration order, for any history -/
theorem seen_refines (ops : List Op) : keys (run init ops).seen = registered ops :=
  run_fold (fun s => keys s.seen) specSeen step_seen_keys ops init

theorem specSeen_mem (acc : List Id) (op : Op) (i : Id) :
    i ∈ specSeen acc op ↔ i ∈ acc ∨ opId op = some i := by
  unfold specSeen
  cases opId op with
  | none => simp only [reduceCtorEq, or_false]
  | some j =>
    show i ∈ (if j ∈ acc then acc else acc ++ [j]) ↔ _
    rw [Option.some.injEq]
    split
    · next hj => exact ⟨Or.inl, fun h => h.elim id (· ▸ hj)⟩
    · rw [List.mem_append, List.mem_singleton, eq_comm]

theorem foldl_specSeen_mem (ops : List Op) (i : Id) :
    ∀ acc, i ∈ ops.foldl specSeen acc ↔ i ∈ acc ∨ ∃ op ∈ ops, opId op = some i := by
  induction ops with
  | nil => intro acc; simp
  | cons op ops ih =>
    intro acc
    simp only [List.foldl_cons, ih, specSeen_mem, List.mem_cons, exists_eq_or_imp, or_assoc]

/-- a metric is in the list iff some call of the history registered it; in particular a `(kind, key)`
    that was only described (or never mentioned) is not -/
theorem registered_iff (ops : List Op) (i : Id) :
    i ∈ registered ops ↔ ∃ op ∈ ops, opId op = some i := by
  simp [registered, foldl_specSeen_mem]

theorem describe_registers_nothing (kind : Kind) (name : Str) (u : Option MUnit) (d : Str) :
    opId (.describe kind name u d) = none := rfl

theorem step_nodup (s : St) (op : Op) (hn : (keys s.seen).Nodup) : (keys (step s op).seen).Nodup := by
  rw [step_seen]
  split
  · exact nodup_keys_upsert _ _ _ _ hn
  · exact hn

theorem seen_nodup (ops : List Op) : (keys (run init ops).seen).Nodup :=
  run_keeps step_nodup ops init List.nodup_nil

/-- each registered metric is listed once -/
theorem registered_nodup (ops : List Op) : (registered ops).Nodup :=
  seen_refines ops ▸ seen_nodup ops

theorem specSeen_prefix (acc : List Id) (op : Op) : acc <+: specSeen acc op := by
  unfold specSeen
  cases opId op with
  | none => exact List.prefix_refl _
  | some j => by_cases hj : j ∈ acc <;> simp [hj]

theorem foldl_specSeen_prefix (ops : List Op) : ∀ acc : List Id, acc <+: ops.foldl specSeen acc := by
  induction ops with
  | nil => intro acc; exact List.prefix_refl _
  | cons op ops ih => intro acc; exact List.IsPrefix.trans (specSeen_prefix acc op) (ih _)

/-- **first-registration order**: later calls never reorder the list — metrics registered by the
    continuation of a history are appended behind those already registered -/
theorem registered_prefix_stable (ops more : List Op) : registered ops <+: registered (ops ++ more) := by
  simp only [registered, List.foldl_append]
  exact foldl_specSeen_prefix more _

/-- on every reachable state the registry holds a cell for exactly the seen `(kind, key)`s -/
theorem reach_inv (ops : List Op) (i : Id) : hasVal (run init ops) i = seenHas (run init ops) i :=
  run_keeps (P := fun s => ∀ i, hasVal s i = seenHas s i)
    (fun s op h i => by rw [step_hasVal, step_seenHas, h]) ops init (fun i => by obtain ⟨kind, k⟩ := i; cases kind <;> rfl) i

theorem filterMap_ids (s : St) (l : List (Id × MKey)) (h : ∀ x ∈ l, hasVal s x.1 = true) :
    (l.filterMap (entryOf s)).map Entry.id = keys l := by
  induction l with
  | nil => rfl
  | cons x rest ih =>
    obtain ⟨v, hv⟩ := Option.isSome_iff_exists.mp (h x List.mem_cons_self)
    simp only [List.filterMap_cons, entryOf, hv, Option.map_some, List.map_cons,
      ih (fun y hy => h y (List.mem_cons_of_mem _ hy))]
    rfl

/-- **a snapshot lists exactly the registered metrics, each once, in order of first registration** —
    after any history -/
theorem snapshot_lists_registered (ops : List Op) :
    (snapshotAfter ops).map Entry.id = registered ops := by
  rw [← seen_refines]
  apply filterMap_ids
  intro x hx
  rw [reach_inv]
  unfold seenHas
  apply (lookup_isSome_iff_mem _ _).mpr
  exact List.mem_map_of_mem hx

/-- a metric that no call registered (described only, or registered on another recorder) is not listed -/
theorem snapshot_omits_unregistered (ops : List Op) (i : Id) (h : ∀ op ∈ ops, opId op ≠ some i) :
    ∀ e ∈ snapshotAfter ops, Entry.id e ≠ i := by
  intro e he heq
  have : i ∈ (snapshotAfter ops).map Entry.id := heq ▸ List.mem_map_of_mem he
  rw [snapshot_lists_registered, registered_iff] at this
  obtain ⟨op, hop, h2⟩ := this
  exact h op hop h2

/-- every entry of a snapshot comes from an element of `seen` and shows the cell's current value and the
    metadata stored for its kind and name -/
theorem snapshot_entry_sound (s : St) (e : Entry) (h : e ∈ output s .snapshot) :
    ((e.kind, e.key), e.shown) ∈ s.seen ∧ valueOf s (e.kind, e.key) = some e.value
      ∧ (e.unit, e.desc) = metaOf s (e.kind, e.key) := by
  obtain ⟨⟨⟨kind, key⟩, shown⟩, hx, hex⟩ := List.mem_filterMap.mp h
  obtain ⟨v, hv, rfl⟩ := Option.map_eq_some_iff.mp hex
  exact ⟨hx, hv, rfl⟩

/-- **counter refinement**: after any history the cell of key `k` is the fold of `k`'s own calls
    (increment = wrapping add, absolute = max), whatever happened to other keys, kinds or names -/
theorem counter_refines (ops : List Op) (k : MKey) :
    lookup (run init ops).counters k = ops.foldl (specCounter k) none :=
  run_fold (fun s => lookup s.counters k) (specCounter k) (fun s op => step_counter s op k) ops init

theorem gauge_refines (ops : List Op) (k : MKey) :
    lookup (run init ops).gauges k = ops.foldl (specGauge k) none :=
  run_fold (fun s => lookup s.gauges k) (specGauge k) (fun s op => step_gauge s op k) ops init

/-- a counter entry of a snapshot shows the fold of that key's own calls up to the snapshot -/
theorem snapshot_counter_value (ops : List Op) (e : Entry) (h : e ∈ snapshotAfter ops)
    (hk : e.kind = .counter) :
    ∃ c, e.value = .counter c ∧ ops.foldl (specCounter e.key) none = some c := by
  obtain ⟨_, hv, _⟩ := snapshot_entry_sound _ e h
  rw [hk] at hv
  obtain ⟨c, hc, hcv⟩ := Option.map_eq_some_iff.mp hv
  exact ⟨c, hcv.symm, (counter_refines ops e.key).symm.trans hc⟩

/-- a gauge entry of a snapshot shows the fold of that key's own calls up to the snapshot -/
theorem snapshot_gauge_value (ops : List Op) (e : Entry) (h : e ∈ snapshotAfter ops)
    (hk : e.kind = .gauge) :
    ∃ v, e.value = .gauge v ∧ ops.foldl (specGauge e.key) none = some v := by
  obtain ⟨_, hv, _⟩ := snapshot_entry_sound _ e h
  rw [hk] at hv
  obtain ⟨c, hc, hcv⟩ := Option.map_eq_some_iff.mp hv
  exact ⟨c, hcv.symm, (gauge_refines ops e.key).symm.trans hc⟩

/-- a `set` leaves exactly the value given, whatever came before -/
theorem gauge_set_last (k : MKey) (acc : Option Val) (v : Val) : specGauge (canonKey k) acc (.gset k v) = some v := by
  simp [specGauge]

/-- increments only ⇒ the sum of the increments modulo 2^64 -/
theorem counter_sum (k : MKey) (ns : List Nat) (acc : Nat) :
    (ns.map (fun n => Op.cinc k n)).foldl (specCounter (canonKey k)) (some (acc % two64))
      = some ((acc + ns.sum) % two64) := by
  induction ns generalizing acc with
  | nil => simp
  | cons n ns ih =>
    simp only [List.map_cons, List.foldl_cons, specCounter, if_true, Option.getD_some, List.sum_cons]
    have : (acc % two64 + n) % two64 = (acc + n) % two64 := Nat.mod_add_mod acc two64 n
    rw [this, ih]; congr 2; omega

/-- an absolute update never lowers the counter and leaves it at least at the given value -/
theorem counter_abs_monotone (k : MKey) (acc : Option Nat) (n : Nat) :
    ∃ v, specCounter (canonKey k) acc (.cabs k n) = some v ∧ acc.getD 0 ≤ v ∧ n ≤ v :=
  ⟨max (acc.getD 0) n, by simp [specCounter], Nat.le_max_left _ _, Nat.le_max_right _ _⟩

/-! ## histograms: every recorded value is shown by exactly one snapshot -/

/-- the values the history records under key `k`, in order -/
def recorded (k : MKey) (ops : List Op) : List Val := ops.flatMap (recOf k)

/-- the values all snapshots of the history, started in state `s`, show for key `k` -/
def delivered (k : MKey) : St → List Op → List Val
  | _, [] => []
  | s, op :: ops => histVals (output s op) k ++ delivered k (step s op) ops

/-- one call: shown now + still pending afterwards = pending before + recorded by the call -/
theorem step_conserves (s : St) (op : Op) (k : MKey) (hn : (keys s.seen).Nodup) :
    (histVals (output s op) k ++ pend (step s op) k).Perm (pend s k ++ recOf k op) := by
  by_cases h : op = .snapshot
  · subst h
    simp only [output, histVals_snapshot s k hn, pend_snapshot, recOf, List.append_nil]
    split <;> simp
  · have : output s op = [] := by cases op <;> first | rfl | exact absurd rfl h
    simp only [this, histVals, List.flatMap_nil, List.nil_append]
    exact step_pend s op k h

theorem hist_conserved_gen (k : MKey) (ops : List Op) :
    ∀ s, (keys s.seen).Nodup →
      (delivered k s ops ++ pend (run s ops) k).Perm (pend s k ++ recorded k ops) := by
  induction ops with
  | nil => intro s _; simp [delivered, recorded, run]
  | cons op ops ih =>
    intro s hn
    have h1 := step_conserves s op k hn
    have h2 := ih (step s op) (step_nodup s op hn)
    simp only [delivered, recorded, List.flatMap_cons, run_cons, List.append_assoc] at h2 ⊢
    -- shown(op) ++ (delivered' ++ pend'') ~ shown(op) ++ (pend' ++ rec') ~ (pend ++ recOf) ++ rec'
    refine (List.Perm.append_left _ h2).trans ?_
    rw [← List.append_assoc, ← List.append_assoc]
    exact List.Perm.append_right _ h1

/-- **conservation**: for every key, the values shown by all snapshots so far together with the values still
    pending are, as multisets, exactly the values recorded — nothing lost, nothing shown twice, nothing
    invented — however record and snapshot calls interleave -/
theorem hist_conserved (k : MKey) (ops : List Op) :
    (delivered k init ops ++ pend (run init ops) k).Perm (recorded k ops) := by
  have := hist_conserved_gen k ops init List.nodup_nil
  simpa [pend, init, lookup, blockOrder_nil] using this

/-- the blocks of key `k`'s bucket, newest first -/
def blocksOf (s : St) (k : MKey) : List (List Val) := (lookup s.hists k).getD []

theorem pend_eq_blocks (s : St) (k : MKey) : pend s k = (blocksOf s k).flatten := rfl

/-- a key never registered as a histogram has no bucket -/
theorem blocksOf_unseen (ops : List Op) (k : MKey) (h : seenHas (run init ops) (.histogram, k) = false) :
    blocksOf (run init ops) k = [] := by
  have inv := reach_inv ops (.histogram, k)
  rw [h, hasVal_eq] at inv
  unfold blocksOf
  cases hl : lookup (run init ops).hists k with
  | none => rfl
  | some bs => rw [hl] at inv; cases inv

/-- a snapshot shows, for every key, all values pending at that moment … -/
theorem snapshot_shows_pending (ops : List Op) (k : MKey) :
    histVals (snapshotAfter ops) k = pend (run init ops) k := by
  show histVals (snapshot (run init ops)).2 k = _
  rw [histVals_snapshot _ k (seen_nodup ops)]
  split
  · rfl
  · next h => rw [pend_eq_blocks, blocksOf_unseen ops k (Bool.eq_false_iff.mpr h)]; rfl

/-- … and leaves no block in the bucket of any key -/
theorem snapshot_drains_blocks (ops : List Op) (k : MKey) : blocksOf (run init (ops ++ [.snapshot])) k = [] := by
  rw [run_snoc]
  show (lookup (step (run init ops) .snapshot).hists k).getD [] = []
  rw [hists_snapshot]
  split
  · rfl
  · next h => exact blocksOf_unseen ops k (Bool.eq_false_iff.mpr h)

theorem snapshot_drains (ops : List Op) (k : MKey) : pend (run init (ops ++ [.snapshot])) k = [] := by
  rw [pend_eq_blocks, snapshot_drains_blocks]; rfl

theorem step_blocks (s : St) (op : Op) (k : MKey) (h : op ≠ .snapshot) :
    blocksOf (step s op) k = (recOf k op).foldl pushBlock (blocksOf s k) := step_hists s op k h

/-- between snapshots the bucket of key `k` only has the recorded values pushed, one by one -/
theorem run_blocks_eq (k : MKey) (mid : List Op) (h : ∀ op ∈ mid, op ≠ .snapshot) :
    ∀ s, blocksOf (run s mid) k = (recorded k mid).foldl pushBlock (blocksOf s k) := by
  induction mid with
  | nil => intro s; rfl
  | cons op mid ih =>
    intro s
    rw [run_cons, ih (fun o ho => h o (List.mem_cons_of_mem _ ho)), step_blocks s op k (h op List.mem_cons_self)]
    simp only [recorded, List.flatMap_cons, List.foldl_append]

theorem pend_no_snapshot (k : MKey) (mid : List Op) (h : ∀ op ∈ mid, op ≠ .snapshot) (s : St) :
    (pend (run s mid) k).Perm (pend s k ++ recorded k mid) := by
  rw [pend_eq_blocks, run_blocks_eq k mid h]
  exact blockOrder_foldl_pushBlock _ _

/-- **exactly the values recorded since the previous snapshot**: a snapshot taken after `… snapshot, mid`
    with no snapshot inside `mid` shows for key `k` precisely (as a multiset) the values `mid` recorded -/
theorem hist_since_previous_snapshot (pre mid : List Op) (k : MKey) (h : ∀ op ∈ mid, op ≠ .snapshot) :
    (histVals (snapshotAfter (pre ++ [.snapshot] ++ mid)) k).Perm (recorded k mid) := by
  rw [snapshot_shows_pending, run_append]
  have := pend_no_snapshot k mid h (run init (pre ++ [.snapshot]))
  rwa [snapshot_drains, List.nil_append] at this

/-- the first snapshot shows everything recorded before it -/
theorem hist_first_snapshot (mid : List Op) (k : MKey) (h : ∀ op ∈ mid, op ≠ .snapshot) :
    (histVals (snapshotAfter mid) k).Perm (recorded k mid) := by
  rw [snapshot_shows_pending]
  have := pend_no_snapshot k mid h init
  simpa [pend, init, lookup, blockOrder_nil] using this

/-- the values of a chain of blocks in the order they were recorded: oldest block first -/
def recordOrder (bs : List (List Val)) : List Val := bs.reverse.flatten

theorem recordOrder_pushBlock (bs : List (List Val)) (v : Val) :
    recordOrder (pushBlock bs v) = recordOrder bs ++ [v] := by
  cases bs with
  | nil => simp [pushBlock, recordOrder]
  | cons b rest =>
    simp only [pushBlock, recordOrder]
    split <;> simp

/-- more than one block only when more than `blockSize` values are pending -/
def fewBlocks (bs : List (List Val)) : Prop := bs.length ≤ 1 ∨ blockSize < bs.flatten.length

theorem fewBlocks_pushBlock (bs : List (List Val)) (v : Val) (h : fewBlocks bs) : fewBlocks (pushBlock bs v) := by
  cases bs with
  | nil => left; simp [pushBlock]
  | cons b rest =>
    simp only [pushBlock]
    split
    · rcases h with h | h
      · left; simpa using h
      · right; simp only [List.flatten_cons, List.length_append, List.length_cons, List.length_nil] at h ⊢; omega
    · rename_i hb
      right; simp only [List.flatten_cons, List.length_append, List.length_cons, List.length_nil]; omega

theorem foldl_pushBlock_order (vs : List Val) :
    ∀ bs, recordOrder (vs.foldl pushBlock bs) = recordOrder bs ++ vs ∧ (fewBlocks bs → fewBlocks (vs.foldl pushBlock bs)) := by
  induction vs with
  | nil => intro bs; simp
  | cons v vs ih =>
    intro bs
    obtain ⟨i1, i2⟩ := ih (pushBlock bs v)
    refine ⟨?_, fun h => i2 (fewBlocks_pushBlock bs v h)⟩
    simp only [List.foldl_cons, i1, recordOrder_pushBlock, List.append_assoc, List.singleton_append]

theorem run_blocks (k : MKey) (mid : List Op) (h : ∀ op ∈ mid, op ≠ .snapshot) (s : St) :
    recordOrder (blocksOf (run s mid) k) = recordOrder (blocksOf s k) ++ recorded k mid
      ∧ (fewBlocks (blocksOf s k) → fewBlocks (blocksOf (run s mid) k)) := by
  rw [run_blocks_eq k mid h]
  exact foldl_pushBlock_order _ _

/-- **order inside a snapshot**: a snapshot shows the values recorded since the previous one block by block,
    newest block first, every block in record order; taking the blocks oldest first gives exactly the record
    order (nothing is shuffled inside a block, blocks are only handed over newest first) -/
theorem hist_blocks_in_record_order (pre mid : List Op) (k : MKey) (h : ∀ op ∈ mid, op ≠ .snapshot) :
    ∃ bs : List (List Val), histVals (snapshotAfter (pre ++ [.snapshot] ++ mid)) k = bs.flatten
      ∧ bs.reverse.flatten = recorded k mid := by
  refine ⟨blocksOf (run init (pre ++ [.snapshot] ++ mid)) k, ?_, ?_⟩
  · rw [snapshot_shows_pending]; rfl
  · rw [run_append]
    have := (run_blocks k mid h (run init (pre ++ [.snapshot]))).1
    rwa [snapshot_drains_blocks, show recordOrder [] = [] from rfl, List.nil_append] at this

/-- up to `blockSize` (64) values recorded since the previous snapshot are shown in exactly the order recorded -/
theorem hist_record_order_small (pre mid : List Op) (k : MKey) (h : ∀ op ∈ mid, op ≠ .snapshot)
    (hn : (recorded k mid).length ≤ blockSize) :
    histVals (snapshotAfter (pre ++ [.snapshot] ++ mid)) k = recorded k mid := by
  rw [snapshot_shows_pending, run_append, pend_eq_blocks]
  obtain ⟨h1, h2⟩ := run_blocks k mid h (run init (pre ++ [.snapshot]))
  rw [snapshot_drains_blocks] at h1 h2
  have hf := h2 (Or.inl (Nat.zero_le 1))
  simp only [recordOrder, List.reverse_nil, List.flatten_nil, List.nil_append] at h1
  generalize blocksOf (run (run init (pre ++ [.snapshot])) mid) k = bs at h1 hf
  have hlen : bs.flatten.length = (recorded k mid).length := by
    rw [← h1, List.length_flatten, List.length_flatten, List.map_reverse, List.sum_reverse]
  rcases hf with hf | hf
  · match bs, hf with
    | [], _ => exact h1
    | [b], _ => exact h1
  · omega

/-! ## unit and description: the most recent ones given for that kind and name -/

/-- **metadata refinement**: what is stored for `(kind, name)` is the fold of the describe calls for that
    kind and name — calls for other names or for the same name under another kind do not touch it, and
    it does not matter whether the metric was registered before, after or never -/
theorem meta_refines (ops : List Op) (kn : Kind × Str) :
    lookup (run init ops).metadata kn = ops.foldl (specMeta kn) none :=
  run_fold (fun s => lookup s.metadata kn) (specMeta kn) (fun s op => step_meta s op kn) ops init

/-- the call describes `(kind, name)` -/
def describes (kn : Kind × Str) : Op → Bool
  | .describe kind name _ _ => decide ((kind, name) = kn)
  | _ => false

/-- the call describes `(kind, name)` and gives a unit -/
def givesUnit (kn : Kind × Str) : Op → Bool
  | .describe kind name (some _) _ => decide ((kind, name) = kn)
  | _ => false

theorem specMeta_other (kn : Kind × Str) (acc) (op : Op) (h : describes kn op = false) :
    specMeta kn acc op = acc := by
  cases op <;> simp_all [specMeta, describes]

theorem foldl_specMeta_other (kn : Kind × Str) (ops : List Op) (h : ∀ op ∈ ops, describes kn op = false)
    (acc : Option (Option MUnit × Str)) : ops.foldl (specMeta kn) acc = acc :=
  List.foldlRecOn (motive := fun b => b = acc) ops (specMeta kn) rfl
    fun b hb op ho => (specMeta_other kn b op (h op ho)).trans hb

/-- the rule of `describe_metric` in one line: a description without a unit keeps the stored unit and
    replaces the description; one with a unit replaces both -/
theorem describe_rule (kind : Kind) (name : Str) (u0 : Option MUnit) (d0 : Str) (u : Option MUnit) (d : Str) :
    specMeta (kind, name) (some (u0, d0)) (.describe kind name u d)
      = some (match u with | some x => some x | none => u0, d) := by
  cases u <;> simp [specMeta, describeUpd]

/-- a first description stores its unit (possibly none) and its text -/
theorem describe_first (kind : Kind) (name : Str) (u : Option MUnit) (d : Str) :
    specMeta (kind, name) none (.describe kind name u d) = some (u, d) := by
  cases u <;> simp [specMeta, describeUpd]

theorem specMeta_describe_desc (kn : Kind × Str) (acc) (u : Option MUnit) (d : Str) :
    (specMeta kn acc (.describe kn.1 kn.2 u d)).map (·.2) = some d := by
  simp [specMeta, describeUpd]

/-- **the description shown is the most recent one given for that kind and name** -/
theorem description_most_recent (pre post : List Op) (kind : Kind) (name : Str) (u : Option MUnit) (d : Str)
    (h : ∀ op ∈ post, describes (kind, name) op = false) :
    (lookup (run init (pre ++ [.describe kind name u d] ++ post)).metadata (kind, name)).map (·.2) = some d := by
  rw [meta_refines, List.foldl_append, List.foldl_append, foldl_specMeta_other _ post h]
  exact specMeta_describe_desc (kind, name) _ u d

theorem specMeta_unit (kn : Kind × Str) (acc : Option (Option MUnit × Str)) (op : Op) (h : givesUnit kn op = false) :
    (specMeta kn acc op).bind (·.1) = acc.bind (·.1) := by
  cases op with
  | describe kd n u d =>
    by_cases e : (kd, n) = kn
    · cases u with
      | some uu => simp [givesUnit, e] at h
      | none => cases acc <;> simp [specMeta, describeUpd, e]
    · simp only [specMeta, e, if_false]
  | _ => rfl

theorem foldl_specMeta_unit (kn : Kind × Str) (ops : List Op) (h : ∀ op ∈ ops, givesUnit kn op = false)
    (acc : Option (Option MUnit × Str)) : (ops.foldl (specMeta kn) acc).bind (·.1) = acc.bind (·.1) :=
  List.foldlRecOn (motive := fun b => b.bind (·.1) = acc.bind (·.1)) ops (specMeta kn) rfl
    fun b hb op ho => (specMeta_unit kn b op (h op ho)).trans hb

/-- **the unit shown is the most recent one given**: later descriptions of the same kind and name that give
    no unit keep it (they still replace the description) -/
theorem unit_most_recent_given (pre post : List Op) (kind : Kind) (name : Str) (u : MUnit) (d : Str)
    (h : ∀ op ∈ post, givesUnit (kind, name) op = false) :
    (lookup (run init (pre ++ [.describe kind name (some u) d] ++ post)).metadata (kind, name)).map (·.1)
      = some (some u) := by
  rw [meta_refines, List.foldl_append, List.foldl_append]
  -- the stored unit is `some u`, so something is stored and its unit is `some u`
  obtain ⟨p, hp, hpu⟩ := Option.bind_eq_some_iff.mp ((foldl_specMeta_unit (kind, name) post h
    ([Op.describe kind name (some u) d].foldl (specMeta (kind, name)) (pre.foldl (specMeta (kind, name)) none))).trans
      (show _ = some u by simp [specMeta, describeUpd]))
  rw [hp, Option.map_some, hpu]

/-- no unit was ever given for that kind and name ⇒ none is shown (a unit given for the same name under
    another kind does not leak) -/
theorem unit_none_if_never_given (ops : List Op) (kn : Kind × Str) (h : ∀ op ∈ ops, givesUnit kn op = false) :
    (lookup (run init ops).metadata kn).bind (·.1) = none := by
  rw [meta_refines, foldl_specMeta_unit kn ops h]; rfl

/-- never described ⇒ no unit and no description -/
theorem undescribed_has_no_metadata (ops : List Op) (kn : Kind × Str) (h : ∀ op ∈ ops, describes kn op = false) :
    lookup (run init ops).metadata kn = none := by
  rw [meta_refines]; exact foldl_specMeta_other kn ops h none

/-- unit and description of a snapshot entry are those stored for the entry's kind and name -/
theorem snapshot_meta (ops : List Op) (e : Entry) (h : e ∈ snapshotAfter ops) :
    (e.unit, e.desc) = metaShown (ops.foldl (specMeta (e.kind, e.key.name)) none) := by
  obtain ⟨_, _, hm⟩ := snapshot_entry_sound _ e h
  rw [hm]
  simp only [metaOf, meta_refines]

theorem metaShown_desc {r : Option (Option MUnit × Str)} {d : Str} (h : r.map (·.2) = some d) :
    (metaShown r).2 = some d := by
  cases r with
  | none => cases h
  | some p => cases h; rfl

theorem metaShown_unit {r : Option (Option MUnit × Str)} {x : Option MUnit} (h : r.map (·.1) = some x) :
    (metaShown r).1 = x := by
  cases r with
  | none => cases h
  | some p => cases h; rfl

/-- the wording of the property on a snapshot: an entry of kind `kind` and name `name` shows the most recent
    description given for them … -/
theorem snapshot_description_most_recent (pre post : List Op) (kind : Kind) (name : Str) (u : Option MUnit)
    (d : Str) (h : ∀ op ∈ post, describes (kind, name) op = false) (e : Entry)
    (he : e ∈ snapshotAfter (pre ++ [.describe kind name u d] ++ post)) (hk : e.kind = kind)
    (hn : e.key.name = name) : e.desc = some d := by
  have hm := snapshot_meta _ e he
  have hd := description_most_recent pre post kind name u d h
  rw [meta_refines] at hd
  rw [hk, hn] at hm
  exact (congrArg Prod.snd hm).trans (metaShown_desc hd)

/-- … and the most recent unit given, also when later descriptions gave none -/
theorem snapshot_unit_kept (pre post : List Op) (kind : Kind) (name : Str) (u : MUnit)
    (d : Str) (h : ∀ op ∈ post, givesUnit (kind, name) op = false) (e : Entry)
    (he : e ∈ snapshotAfter (pre ++ [.describe kind name (some u) d] ++ post)) (hk : e.kind = kind)
    (hn : e.key.name = name) : e.unit = some u := by
  have hm := snapshot_meta _ e he
  have hd := unit_most_recent_given pre post kind name u d h
  rw [meta_refines] at hd
  rw [hk, hn] at hm
  exact (congrArg Prod.fst hm).trans (metaShown_unit hd)

/-! ## several recorders never see each other's metrics -/

/-- the calls of an interleaved history that are addressed to recorder `r` -/
def opsFor (r : Nat) (aops : List (Nat × Op)) : List Op :=
  (aops.filter (fun a => decide (a.1 = r))).map (·.2)

/-- **frame**: after any interleaving of calls addressed to any recorders (from any threads), the state of
    recorder `r` is the one its own calls alone produce -/
theorem sysRun_frame (aops : List (Nat × Op)) :
    ∀ (sys : Sys) (r : Nat), sysRun sys aops r = run (sys r) (opsFor r aops) := by
  induction aops with
  | nil => intro sys r; rfl
  | cons a rest ih =>
    intro sys r
    have : sysRun sys (a :: rest) = sysRun (sysStep sys a) rest := rfl
    rw [this, ih]
    by_cases h : a.1 = r
    · simp [opsFor, sysStep, h, run_cons]
    · have h' : ¬ r = a.1 := fun e => h e.symm
      simp [opsFor, sysStep, h, h']

/-- whatever a recorder answers (in particular its snapshots) is a function of its own calls only: metrics
    registered, described or updated on other recorders never show -/
theorem recorders_isolated (pre : List (Nat × Op)) (r : Nat) (op : Op) :
    sysOutput (sysRun sysInit pre) (r, op) = output (run init (opsFor r pre)) op := by
  simp only [sysOutput, sysRun_frame]
  rfl

/-! ## equal keys built differently are one metric -/

/-- the same name and the same labels in any order (label names pairwise distinct) are the same key -/
theorem same_key_any_label_order (name : Str) (l1 l2 : List (Str × Str)) (p : l1.Perm l2)
    (h : (l1.map (·.1)).Nodup) : canonKey ⟨name, l1⟩ = canonKey ⟨name, l2⟩ := by
  simp only [canonKey, canonLabels_perm l1 l2 p h]

/-- a call made with a differently built but equal key addresses the same metric … -/
theorem same_metric_any_label_order (op1 op2 : Op) (kind : Kind) (name : Str) (l1 l2 : List (Str × Str))
    (p : l1.Perm l2) (h : (l1.map (·.1)).Nodup)
    (h1 : regOf op1 = some (kind, ⟨name, l1⟩)) (h2 : regOf op2 = some (kind, ⟨name, l2⟩)) :
    opId op1 = opId op2 := by
  simp only [opId, h1, h2, Option.map_some, same_key_any_label_order name l1 l2 p h]

/-- … so it adds no second entry to the list of registered metrics -/
theorem equal_key_no_second_entry (ops : List Op) (op1 op2 : Op) (h : opId op1 = opId op2) (h1 : op1 ∈ ops) :
    registered (ops ++ [op2]) = registered ops := by
  simp only [registered, List.foldl_append, List.foldl_cons, List.foldl_nil, specSeen]
  cases h2 : opId op2 with
  | none => rfl
  | some i =>
    have : i ∈ List.foldl specSeen [] ops := (registered_iff ops i).mpr ⟨op1, h1, h.trans h2⟩
    simp [this]

/-! ## handles: registering again changes nothing, so an update through a kept handle is the same step -/

theorem register_idem (s : St) (kind : Kind) (k : MKey) :
    register (register s kind k) kind k = register s kind k := by
  cases kind <;> simp only [register, track, upsert_id_upsert]

theorem update_after_register (s : St) (k : MKey) (n : Nat) (v : Val) (m : Int) :
    step (step s (.register .counter k)) (.cinc k n) = step s (.cinc k n)
    ∧ step (step s (.register .counter k)) (.cabs k n) = step s (.cabs k n)
    ∧ step (step s (.register .gauge k)) (.gset k v) = step s (.gset k v)
    ∧ step (step s (.register .gauge k)) (.gadd k m) = step s (.gadd k m)
    ∧ step (step s (.register .histogram k)) (.hrec k v) = step s (.hrec k v) := by
  simp only [step, register_idem, and_self]

/-! ## local scopes and the global recorder: which recorder a call made through the macros reaches -/

/-- what the property says about scopes: per thread the recorders of its open `with_local_recorder` scopes,
    innermost first, and the globally installed recorder -/
structure SpecSc where
  stack : Tid → List Rid := fun _ => []
  global : Option Rid := none

/-- the recorder a call of thread `t` belongs to: that of the innermost open scope, else the global one -/
def specTarget (sp : SpecSc) (t : Tid) : Option Rid :=
  match sp.stack t with
  | r :: _ => some r
  | [] => sp.global

/-- entering pushes, leaving pops — however the scope is left (return or unwinding) -/
def specScStep (sp : SpecSc) (a : Tid × SOp) : SpecSc :=
  match a.2 with
  | .enter r => { sp with stack := upd sp.stack a.1 (r :: sp.stack a.1) }
  | .exit _ => { sp with stack := upd sp.stack a.1 (sp.stack a.1).tail }
  | .install r => { sp with global := match sp.global with | none => some r | some g => some g }
  | _ => sp

def specScRun (sp : SpecSc) (prog : List (Tid × SOp)) : SpecSc := prog.foldl specScStep sp

/-- the recorder call one step of the program amounts to -/
def addressedOne (sp : SpecSc) (a : Tid × SOp) : List (Rid × Op) :=
  match a.2 with
  | .cur op => match specTarget sp a.1 with | some r => [(r, op)] | none => []
  | .direct r op => [(r, op)]
  | _ => []

/-- the program as a list of calls addressed to recorders, by the rule of the property -/
def addressedFrom : SpecSc → List (Tid × SOp) → List (Rid × Op)
  | _, [] => []
  | sp, a :: rest => addressedOne sp a ++ addressedFrom (specScStep sp a) rest

/-- the saved `prev_recorder`s that correspond to a stack of open scopes -/
def prevs : List Rid → List (Option Rid)
  | [] => []
  | _ :: rest => rest.head? :: prevs rest

/-- how the code represents the open scopes: `LOCAL_RECORDER` is the innermost one, each guard holds the one
    below it -/
def ScRel (sc : Scopes) (sp : SpecSc) : Prop :=
  (∀ t, sc.loc t = (sp.stack t).head?) ∧ (∀ t, sc.frames t = prevs (sp.stack t)) ∧ sc.global = sp.global

theorem scRel_init : ScRel ({} : Scopes) ({} : SpecSc) := ⟨fun _ => rfl, fun _ => rfl, rfl⟩

theorem target_of_rel (sc : Scopes) (sp : SpecSc) (h : ScRel sc sp) (t : Tid) : target sc t = specTarget sp t := by
  obtain ⟨h1, _, h3⟩ := h
  unfold target specTarget
  rw [h1 t, h3]
  cases sp.stack t <;> rfl

/-- `f = g ∘ st` pointwise stays so when both are updated at the same thread by values related in the same way -/
theorem upd_eq_of {α β : Type} (g : β → α) {f : Nat → α} {st : Nat → β} (h : ∀ x, f x = g (st x)) (t : Nat)
    {v : α} {w : β} (hv : v = g w) : ∀ x, upd f t v x = g (upd st t w x) := by
  intro x; unfold upd; split
  · exact hv
  · exact h x

theorem upd_self {α : Type} (f : Nat → α) (t : Nat) : upd f t (f t) = f := by
  funext x; unfold upd; split
  · next e => rw [e]
  · rfl

theorem scRel_step (s : SSt) (sp : SpecSc) (a : Tid × SOp) (h : ScRel s.sc sp) :
    ScRel (sStep s a).sc (specScStep sp a) := by
  obtain ⟨t, op⟩ := a
  obtain ⟨h1, h2, h3⟩ := h
  cases op with
  | enter r =>
    -- the guard saves what was current: the head of the stack below the new scope
    show ScRel (scEnter s.sc t r) { sp with stack := upd sp.stack t (r :: sp.stack t) }
    exact ⟨upd_eq_of List.head? h1 t rfl, upd_eq_of prevs h2 t (by rw [h1 t, h2 t]; rfl), h3⟩
  | exit b =>
    show ScRel (scExit s.sc t) { sp with stack := upd sp.stack t (sp.stack t).tail }
    unfold scExit
    cases hs : sp.stack t with
    | nil =>
      have e : upd sp.stack t [] = sp.stack := by rw [← hs]; exact upd_self _ _
      rw [h2 t, hs, List.tail_nil, e]
      exact ⟨h1, h2, h3⟩
    | cons r rest =>
      rw [h2 t, hs]
      exact ⟨upd_eq_of List.head? h1 t rfl, upd_eq_of prevs h2 t rfl, h3⟩
  | cur o =>
    simp only [sStep, specScStep]
    cases target s.sc t <;> exact ⟨h1, h2, h3⟩
  | direct r o => exact ⟨h1, h2, h3⟩
  | install r =>
    simp only [sStep, scInstall, specScStep]
    rw [← h3]
    cases hg : s.sc.global with
    | none => exact ⟨h1, h2, rfl⟩
    | some g => exact ⟨h1, h2, hg⟩

theorem sStep_sys (s : SSt) (sp : SpecSc) (a : Tid × SOp) (h : ScRel s.sc sp) :
    (sStep s a).sys = sysRun s.sys (addressedOne sp a) := by
  obtain ⟨t, op⟩ := a
  cases op with
  | cur o =>
    simp only [sStep, addressedOne]
    rw [target_of_rel _ _ h]
    cases specTarget sp t <;> rfl
  | _ => rfl

theorem sysRun_append (sys : Sys) (a b : List (Nat × Op)) : sysRun sys (a ++ b) = sysRun (sysRun sys a) b := by
  simp [sysRun, List.foldl_append]

theorem sRun_refines_gen (prog : List (Tid × SOp)) :
    ∀ (s : SSt) (sp : SpecSc), ScRel s.sc sp →
      (sRun s prog).sys = sysRun s.sys (addressedFrom sp prog) ∧ ScRel (sRun s prog).sc (specScRun sp prog) := by
  induction prog with
  | nil => intro s sp h; exact ⟨rfl, h⟩
  | cons a rest ih =>
    intro s sp h
    have h' := scRel_step s sp a h
    obtain ⟨i1, i2⟩ := ih (sStep s a) (specScStep sp a) h'
    refine ⟨?_, i2⟩
    show (sRun (sStep s a) rest).sys = _
    rw [i1, sStep_sys s sp a h, addressedFrom, sysRun_append]

/-- **the thread-local recorder is the innermost open scope's**, after any program of scope entries, scope exits
    by return or by unwinding (any nesting, any threads), calls and global installations: the code's
    `LOCAL_RECORDER`/`prev_recorder` chain represents exactly the stack of open scopes -/
theorem scopes_refine (prog : List (Tid × SOp)) : ScRel (sRun sInit prog).sc (specScRun {} prog) :=
  (sRun_refines_gen prog sInit {} scRel_init).2

/-- what `with_recorder` finds for thread `t` is the recorder of `t`'s innermost open scope, else the global
    recorder, else nothing (no-op) -/
theorem current_is_innermost (prog : List (Tid × SOp)) (t : Tid) :
    target (sRun sInit prog).sc t = specTarget (specScRun {} prog) t :=
  target_of_rel _ _ (scopes_refine prog) t

/-- **scoped refinement**: running a program with scopes is running the calls addressed by the scope rule -/
theorem scoped_refines (prog : List (Tid × SOp)) :
    (sRun sInit prog).sys = sysRun sysInit (addressedFrom {} prog) :=
  (sRun_refines_gen prog sInit {} scRel_init).1

/-- **isolation with scopes**: whatever recorder `r` answers (its snapshots) is determined by the calls made
    while `r` was the innermost open scope of the calling thread (or, for the global recorder, while the thread
    had no open scope), plus the calls made on `r` directly — calls made in other recorders' scopes, before
    or after a scope of `r` was left by return or by unwinding, never show -/
theorem scoped_isolated (prog : List (Tid × SOp)) (r : Rid) (op : Op) :
    sysOutput (sRun sInit prog).sys (r, op) = output (run init (opsFor r (addressedFrom {} prog))) op := by
  rw [scoped_refines]
  simp only [sysOutput, sysRun_frame]
  rfl

/-- thread `t`'s part of `body` is well bracketed: starting `d` scopes deep it never leaves more scopes than it
    entered plus `d`, and ends having left exactly `d` more than it entered -/
def closes (t : Tid) : Nat → List (Tid × SOp) → Bool
  | d, [] => d == 0
  | d, (t', .enter _) :: rest => if t' = t then closes t (d + 1) rest else closes t d rest
  | d, (t', .exit _) :: rest =>
    if t' = t then (match d with | 0 => false | d' + 1 => closes t d' rest) else closes t d rest
  | d, _ :: rest => closes t d rest

theorem specScRun_cons (sp : SpecSc) (a : Tid × SOp) (rest : List (Tid × SOp)) :
    specScRun sp (a :: rest) = specScRun (specScStep sp a) rest := rfl

theorem specScStep_other (sp : SpecSc) {t t' : Tid} (op : SOp) (h : t' ≠ t) :
    (specScStep sp (t', op)).stack t = sp.stack t := by
  cases op <;> first | rfl | exact if_neg (fun e => h e.symm)

theorem specScStep_enter (sp : SpecSc) (t : Tid) (r : Rid) :
    (specScStep sp (t, .enter r)).stack t = r :: sp.stack t := if_pos rfl

theorem specScStep_exit (sp : SpecSc) (t : Tid) (b : Bool) :
    (specScStep sp (t, .exit b)).stack t = (sp.stack t).tail := if_pos rfl

theorem closes_other {t t' : Tid} (d : Nat) (op : SOp) (rest : List (Tid × SOp)) (h : t' ≠ t) :
    closes t d ((t', op) :: rest) = closes t d rest := by
  cases op <;> simp only [closes, h, if_false]

theorem closes_stack (t : Tid) (body : List (Tid × SOp)) :
    ∀ (d : Nat) (sp : SpecSc), closes t d body = true → d ≤ (sp.stack t).length →
      (specScRun sp body).stack t = (sp.stack t).drop d := by
  induction body with
  | nil =>
    intro d sp h _
    rw [closes, beq_iff_eq] at h
    subst h; rfl
  | cons a rest ih =>
    intro d sp h hd
    obtain ⟨t', op⟩ := a
    rw [specScRun_cons]
    by_cases e : t' = t
    · subst e
      cases op with
      | enter r =>
        rw [closes, if_pos rfl] at h
        rw [ih (d + 1) _ h (by rw [specScStep_enter]; exact Nat.succ_le_succ hd), specScStep_enter]; rfl
      | exit b =>
        cases d with
        | zero => simp only [closes, if_true, Bool.false_eq_true] at h
        | succ d' =>
          simp only [closes, if_true] at h
          rw [ih d' _ h (by rw [specScStep_exit, List.length_tail]; omega), specScStep_exit, List.drop_tail]
      | _ => exact ih d _ h hd
    · rw [closes_other d op rest e] at h
      have hs := specScStep_other sp op e
      rw [ih d _ h (hs ▸ hd), hs]

/-- **leaving a scope restores the enclosing one — by return or by unwinding**: after
    `with_local_recorder(&r, || body)` (the body well bracketed, anything interleaved on other threads),
    whether the closure returned or a panic unwound through it, the calling thread's recorder is the one it had
    before the scope: calls that follow reach the enclosing scope's recorder (or the global one), not `r` -/
theorem scope_exit_restores (pre body : List (Tid × SOp)) (t : Tid) (r : Rid) (unwinding : Bool)
    (h : closes t 0 body = true) :
    (sRun sInit (pre ++ (t, .enter r) :: body ++ [(t, .exit unwinding)])).sc.loc t
      = (sRun sInit pre).sc.loc t := by
  rw [(scopes_refine _).1 t, (scopes_refine pre).1 t]
  congr 1
  have hb := closes_stack t body 0 (specScStep (specScRun {} pre) (t, .enter r)) h (Nat.zero_le _)
  have e1 : specScRun {} (pre ++ (t, .enter r) :: body ++ [(t, .exit unwinding)])
      = specScStep (specScRun (specScStep (specScRun {} pre) (t, .enter r)) body) (t, .exit unwinding) := by
    simp [specScRun, List.foldl_append]
  rw [e1, specScStep_exit, hb, specScStep_enter]; rfl

/-- … and while the scope is open the calls reach `r` -/
theorem scope_enter_current (pre : List (Tid × SOp)) (t : Tid) (r : Rid) :
    target (sRun sInit (pre ++ [(t, .enter r)])).sc t = some r := by
  rw [current_is_innermost]
  simp [specScRun, List.foldl_append, specScStep, specTarget, upd]

/-! ## facts of the source that no run can observe (tools/extract.py → Generated/SourceFacts.lean) -/

/-- the destructor of `LocalRecorderGuard` is ONE unconditional statement that puts `prev_recorder` back — no
    early return, no test of `thread::panicking()`: what `scExit` does whatever the `unwinding` flag says
    (`scope_exit_restores`) -/
theorem src_guard_drop_unconditional :
    Generated.debug_guard_drop_stmts
      = ["LOCAL_RECORDER.with(|local_recorder| local_recorder.replace(self.prev_recorder.take()))"] := rfl

/-- `register_*` never looks at the metadata (level, target, module path): the parameter is `_metadata` and the
    body does not mention it — the model's `register` has no such argument; and the metric is tracked first,
    then its storage is fetched or created -/
theorem src_register_ignores_metadata :
    Generated.debug_register_uses_metadata = [("counter", false), ("gauge", false), ("histogram", false)]
    ∧ Generated.debug_register_params
        = [("counter", "&self, key: &Key, _metadata: &Metadata<'_>"),
           ("gauge", "&self, key: &Key, _metadata: &Metadata<'_>"),
           ("histogram", "&self, key: &Key, _metadata: &Metadata<'_>")]
    ∧ Generated.debug_register_calls
        = [("counter", ["track_metric", "get_or_create_counter"]),
           ("gauge", ["track_metric", "get_or_create_gauge"]),
           ("histogram", ["track_metric", "get_or_create_histogram"])] := ⟨rfl, rfl, rfl⟩

/-- `track_metric` inserts unconditionally (no bound on the number of metrics) — `track` -/
theorem src_track_unconditional :
    Generated.debug_track_stmts
      = ["let mut seen = self.inner.seen.lock().expect(\"seen lock poisoned\")", "seen.insert(ckey, ())"] := rfl

/-- `describe_metric`: insert `(None, desc)` if absent, replace the unit only when one is given, always replace
    the description — `describeUpd` -/
theorem src_describe_shape :
    Generated.debug_describe_stmts
      = ["let mut metadata = self.inner.metadata.lock().expect(\"metadata lock poisoned\")",
         "let (uentry, dentry) = metadata.entry(rkey).or_insert((None, desc.to_owned()))",
         "if unit.is_some() { *uentry = unit; }",
         "*dentry = desc"] := rfl

/-- `install` hands the recorder itself to `set_global_recorder`, and a `Snapshotter` shares the recorder's
    `Inner` (one `Arc`): a snapshotter taken before the installation shows what the installed recorder receives
    (`SOp.install`, checked on the real code by the first case of every run) -/
theorem src_install_shares_inner :
    Generated.debug_install_stmts = ["metrics::set_global_recorder(self)"]
    ∧ Generated.debug_snapshotter_stmts = ["Snapshotter { inner: Arc::clone(&self.inner) }"] := ⟨rfl, rfl⟩

/-- `snapshot`: the three handle maps are fetched before `seen` and `metadata` are copied, the loop runs over ALL
    of `seen` in its order, a counter is one `SeqCst` load, a histogram is drained with `clear_with`, and an
    entry is pushed exactly when a value was found — `snapshot` / `entryOf` -/
theorem src_snapshot_shape :
    Generated.debug_snapshot_order = ["counters", "gauges", "histograms", "seen", "metadata", "loop"]
    ∧ Generated.debug_snapshot_loop_source = "seen.into_iter()"
    ∧ Generated.debug_snapshot_counter_load
        = "counters.get(ck.key()).map(|c| DebugValue::Counter(c.load(Ordering::SeqCst)))"
    ∧ Generated.debug_snapshot_hist_drain
        = "clear_with(|xs| values.extend(xs.iter().map(|f| OrderedFloat::from(*f))))"
    ∧ Generated.debug_snapshot_push_guard
        = "if let Some(value) = value { snapshot.push((ck, unit, desc, value)); }" := ⟨rfl, rfl, rfl, rfl, rfl⟩

/-- the mechanism behind `register_*`, per kind (`get_or_create_counter / _gauge / _histogram`): the read section
    probes the table once (`raw_entry`), the read lock is dropped BEFORE the write lock is taken (the window of
    `reg.goc.write`), and the write section probes AGAIN (`raw_entry`) before it goes through
    `raw_entry_mut()` and fills only a VACANT entry (`insert_with_hasher`, since fix 838b7f8; `or_insert_with` before) — nothing in it sets an occupied slot (`insert`, `replace…`).  This is the
    shape of `Registry.writeSection` (look up, insert only when absent) on which `conc_handle_is_registry_cell` and
    `conc_same_key_same_cell` rest; the yield points of the concurrent stream sit where the model's PCs are. -/
theorem src_goc_rechecks_under_write_lock :
    Generated.debug_goc_read_section = [["raw_entry"], ["raw_entry"], ["raw_entry"]]
    ∧ Generated.debug_goc_write_section
        = [["raw_entry", "raw_entry_mut", "insert_with_hasher"], ["raw_entry", "raw_entry_mut", "insert_with_hasher"],
           ["raw_entry", "raw_entry_mut", "insert_with_hasher"]]
    ∧ Generated.debug_goc_points
        = [["reg.goc.read", "read", "drop(shard_read)", "reg.goc.write", "write"],
           ["reg.goc.read", "read", "drop(shard_read)", "reg.goc.write", "write"],
           ["reg.goc.read", "read", "drop(shard_read)", "reg.goc.write", "write"]]
    ∧ Generated.debug_goc_op_calls = ["op(v) op(v)", "op(v) op(v)", "op(v) op(v)"] := ⟨rfl, rfl, rfl, rfl⟩

section examples

private def kA : MKey := ⟨['m'], [(['h'], ['1']), (['c'], ['2'])]⟩
/-- the same key with its labels given in the other order -/
private def kA' : MKey := ⟨['m'], [(['c'], ['2']), (['h'], ['1'])]⟩
private def kB : MKey := ⟨['m'], []⟩

example : canonKey kA = canonKey kA' := by decide

private def history : List Op :=
  [ .describe .counter ['m'] (some .seconds) ['o', 'l', 'd'],
    .describe .gauge ['x'] (some .bytes) ['o', 'n', 'l', 'y'],      -- described only
    .hrec kB (.dy 5), .hrec kB (.dy 5),
    .cinc kA 18446744073709551615, .cinc kA' 3,                      -- wraps; same metric
    .describe .counter ['m'] none ['n', 'e', 'w'],                   -- keeps the unit
    .gadd kB (-2048), .snapshot, .hrec kB (.dy 7) ]

example : snapshotAfter history
    = [ ⟨.histogram, kB, kB, none, none, .histogram [.dy 7]⟩,
        ⟨.counter, canonKey kA, kA, some .seconds, some ['n', 'e', 'w'], .counter 2⟩,
        ⟨.gauge, kB, kB, none, none, .gauge (.dy (-2048))⟩ ] := by decide +kernel

/-- the values shown before (5, 5) are not shown again -/
example : histVals (snapshotAfter (history ++ [.snapshot])) kB = [] := by decide +kernel
example : delivered kB init (history ++ [.snapshot]) = [.dy 5, .dy 5, .dy 7] := by decide +kernel

/-- 65 values span two blocks: the newest block is handed over first -/
example : pend (run init ((List.range 65).map (fun n => Op.hrec kB (.dy (Int.ofNat n))))) kB
    = .dy 64 :: (List.range 64).map (fun n => Val.dy (Int.ofNat n)) := by decide +kernel

/-- two recorders, the same key: each shows its own count -/
example : (sysOutput (sysRun sysInit [(0, .cinc kB 1), (1, .cinc kB 10), (0, .cinc kB 2)]) (1, .snapshot)).map
    (·.value) = [.counter 10] := by decide +kernel

/-- scopes: thread 1 enters recorder 0, inside it recorder 1 which is left by UNWINDING; the call that follows
    belongs to recorder 0 again, and the one after the outer scope to the global recorder 7 -/
private def scopedProg : List (Tid × SOp) :=
  [ (0, .install 7), (1, .enter 0), (1, .cur (.cinc kB 1)), (1, .enter 1), (1, .cur (.cinc kB 10)),
    (2, .cur (.cinc kB 1000)),                      -- another thread, no scope: global
    (1, .exit true), (1, .cur (.cinc kB 100)), (1, .exit false), (1, .cur (.cinc kB 10000)) ]

example : addressedFrom {} scopedProg
    = [(0, .cinc kB 1), (1, .cinc kB 10), (7, .cinc kB 1000), (0, .cinc kB 100), (7, .cinc kB 10000)] := rfl
example : ((sysOutput (sRun sInit scopedProg).sys (0, .snapshot)).map (·.value),
           (sysOutput (sRun sInit scopedProg).sys (1, .snapshot)).map (·.value),
           (sysOutput (sRun sInit scopedProg).sys (7, .snapshot)).map (·.value))
    = ([.counter 101], [.counter 10], [.counter 11000]) := by decide +kernel
example : closes 1 0 [(1, .enter 1), (2, .enter 5), (1, .cur .snapshot), (1, .exit true)] = true := by decide
/-- a model of the destructor that skips the restore while unwinding (the `thread::panicking()` early return)
    would leave recorder 1 current: the flag is ignored by `scExit`, as by the code -/
example : target (sRun sInit [(1, .enter 0), (1, .enter 1), (1, .exit true)]).sc 1 = some 0 := by decide

end examples

end MetricsVerif.C19
