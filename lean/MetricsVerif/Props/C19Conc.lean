/-
C19, concurrent part — several threads register / update / snapshot through ONE `DebuggingRecorder` at the same
time (`Model/DebuggingConc.lean`: the registry step machine of `Model/Registry` with the storage cells, `seen`
and per-thread handles on top).

Every theorem is for ANY number of threads, ANY programs of register / update / snapshot calls, ANY keys (a
carrier with `Key::eq` / `Hashable` satisfying `KeyLaws`, which is what C03 establishes), ANY shard count > 0 and
EVERY schedule of the steps between the yield points `c19.call`, `reg.goc.read`, `reg.goc.write` — in particular
every schedule in which two threads register the same NEW key at the same time and both miss under the shard's
read lock.  "Counter and gauge values equal to their state at snapshot time" then reads: whatever a snapshot shows
for a key is the fold of ALL operations that ANY thread made through ANY handle of an equal key, in the order they
took effect; no update is made on a cell the snapshot does not read.

Granularity: `Histogram::record` and `Snapshotter::snapshot` are one step each here; their interleavings inside
the lock-free bucket are C05's machine (K-C05-K1 is inherited from there, see `run_concurrent` in the harness).
-/
import MetricsVerif.Proofs.DebuggingConc

namespace MetricsVerif.C19
open MetricsVerif MetricsVerif.Registry MetricsVerif.DebuggingConc

variable {K : Type}

/-- a state reached from a fresh recorder by some programs under some schedule -/
def ConcReach (ko : KeyOps K) (s : CSys K) : Prop :=
  ∃ count progs sched, 0 < count ∧ s = DebuggingConc.run ko (CSys.init count progs) sched

/-- the invariant holds after every schedule -/
theorem conc_inv {ko : KeyOps K} (L : KeyLaws ko) {s : CSys K} (h : ConcReach ko s) : CInv ko s := by
  obtain ⟨count, progs, sched, hc, rfl⟩ := h
  exact (run_inv L sched _ (init_inv ko count hc progs)).1

/-- **a handle is the registry's cell**: whatever thread holds it, whenever it was obtained (read section hit,
    write section that created the entry, or write section whose re-check found another thread's entry), a handle
    registered for `(kind, key)` is the cell the registry holds for `(kind, key)` NOW -/
theorem conc_handle_is_registry_cell {ko : KeyOps K} (L : KeyLaws ko) {s : CSys K} (h : ConcReach ko s)
    (t : CThread K) (ht : t ∈ s.threads) (hd : Handle K) (hh : hd ∈ t.handles) :
    readSection ko s.reg hd.kd hd.key = some hd.id :=
  ((conc_inv L h).t t ht).handles hd hh

/-- **concurrent registrations of one key share one cell**: two handles of the same kind for equal keys (built in
    any way, on any two threads, under any interleaving of their registrations) are the same cell -/
theorem conc_same_key_same_cell {ko : KeyOps K} (L : KeyLaws ko) {s : CSys K} (h : ConcReach ko s)
    (t₁ t₂ : CThread K) (ht₁ : t₁ ∈ s.threads) (ht₂ : t₂ ∈ s.threads) (h₁ h₂ : Handle K)
    (hh₁ : h₁ ∈ t₁.handles) (hh₂ : h₂ ∈ t₂.handles) (hkd : h₁.kd = h₂.kd) (heq : ko.eqv h₁.key h₂.key = true) :
    h₁.id = h₂.id := by
  have a := conc_handle_is_registry_cell L h t₁ ht₁ h₁ hh₁
  have b := conc_handle_is_registry_cell L h t₂ ht₂ h₂ hh₂
  rw [← hkd, readSection_congr L s.reg h₁.kd heq, a] at b
  exact Option.some.inj b

/-- different kinds or different keys never share a cell -/
theorem conc_other_key_other_cell {ko : KeyOps K} (L : KeyLaws ko) {s : CSys K} (h : ConcReach ko s)
    (t₁ t₂ : CThread K) (ht₁ : t₁ ∈ s.threads) (ht₂ : t₂ ∈ s.threads) (h₁ h₂ : Handle K)
    (hh₁ : h₁ ∈ t₁.handles) (hh₂ : h₂ ∈ t₂.handles) (hid : h₁.id = h₂.id) :
    h₁.kd = h₂.kd ∧ ko.eqv h₁.key h₂.key = true := by
  have a := conc_handle_is_registry_cell L h t₁ ht₁ h₁ hh₁
  have b := conc_handle_is_registry_cell L h t₂ ht₂ h₂ hh₂
  rw [← hid] at b
  exact read_inj L s.reg (conc_inv L h).g.reg a b

/-- **the cell of a key is the fold of all operations of all threads on that key**: the cell the registry holds for
    `(kind, key)` has seen exactly the operations that any thread made through a handle of an equal key (and the
    snapshots' drains), in the order they took effect -/
theorem conc_value_is_fold {ko : KeyOps K} (L : KeyLaws ko) {s : CSys K} (h : ConcReach ko s) (kd : Kind) (k : K)
    (i : Nat) (hr : readSection ko s.reg kd k = some i) :
    s.cells[i]? = some (foldCell kd (keyLog ko s.ulog kd k)) :=
  (conc_inv L h).g.fold kd k i hr

/-- an entry the snapshot loop made from an element of `seen`: that element with the cell the registry holds for it -/
theorem snapEntry_eq_some {ko : KeyOps K} {s : CSys K} {x : Kind × K} {e : SnapEntry K}
    (h : snapEntry ko s x = some e) :
    ∃ i c, readSection ko s.reg x.1 x.2 = some i ∧ s.cells[i]? = some c ∧ e = (x.1, x.2, c) := by
  unfold snapEntry at h
  split at h
  · next i hr =>
    obtain ⟨c, hc, rfl⟩ := Option.map_eq_some_iff.mp h
    exact ⟨i, c, hr, hc, rfl⟩
  · cases h

/-- **what a snapshot shows**: every entry of a snapshot taken in a reachable state is an element of `seen` and
    shows the fold of all operations made on its key by all threads -/
theorem conc_snapshot_shows_fold {ko : KeyOps K} (L : KeyLaws ko) {s : CSys K} (h : ConcReach ko s)
    (e : SnapEntry K) (he : e ∈ (DebuggingConc.snapshot ko s).2) :
    (e.1, e.2.1) ∈ s.seen ∧ e.2.2 = foldCell e.1 (keyLog ko s.ulog e.1 e.2.1) := by
  obtain ⟨x, hx, hs⟩ := List.mem_filterMap.mp he
  obtain ⟨i, c, hr, hc, rfl⟩ := snapEntry_eq_some hs
  rw [conc_value_is_fold L h x.1 x.2 i hr] at hc
  exact ⟨hx, (Option.some.inj hc).symm⟩

/-- **a completed registration is listed, with everything recorded so far**: once any thread holds a handle for
    `(kind, key)`, every snapshot lists an entry of that kind with an equal key, and the entry shows the fold of
    all operations of all threads on that key -/
theorem conc_registered_is_listed {ko : KeyOps K} (L : KeyLaws ko) {s : CSys K} (h : ConcReach ko s)
    (t : CThread K) (ht : t ∈ s.threads) (hd : Handle K) (hh : hd ∈ t.handles) :
    ∃ e ∈ (DebuggingConc.snapshot ko s).2, e.1 = hd.kd ∧ ko.eqv hd.key e.2.1 = true
      ∧ e.2.2 = foldCell hd.kd (keyLog ko s.ulog hd.kd hd.key) := by
  have hr := conc_handle_is_registry_cell L h t ht hd hh
  have hseen := (conc_inv L h).g.tracked hd.kd hd.key (by rw [hr]; simp)
  simp only [seenHas, List.any_eq_true, sameMetric, Bool.and_eq_true, decide_eq_true_eq] at hseen
  obtain ⟨x, hx, hk, hq⟩ := hseen
  have hr' : readSection ko s.reg x.1 x.2 = some hd.id := by rw [hk, readSection_congr L s.reg hd.kd hq]; exact hr
  refine ⟨(x.1, x.2, foldCell hd.kd (keyLog ko s.ulog hd.kd hd.key)), ?_, hk, hq, rfl⟩
  simp only [DebuggingConc.snapshot, List.mem_filterMap]
  refine ⟨x, hx, ?_⟩
  simp only [snapEntry, hr', conc_value_is_fold L h hd.kd hd.key hd.id hr, Option.map_some]

/-- a snapshot lists its entries in the order of `seen` (first `track_metric`), each element at most once -/
theorem conc_snapshot_in_seen_order (ko : KeyOps K) (s : CSys K) :
    ((DebuggingConc.snapshot ko s).2.map (fun e => (e.1, e.2.1))).Sublist s.seen := by
  simp only [DebuggingConc.snapshot]
  induction s.seen with
  | nil => exact List.Sublist.slnil
  | cons x xs ih =>
    simp only [List.filterMap_cons]
    cases hx : snapEntry ko s x with
    | none => exact ih.cons x
    | some e =>
      obtain ⟨_, _, _, _, rfl⟩ := snapEntry_eq_some hx
      simp only [List.map_cons]
      exact ih.cons_cons x

/-- sum of the increments of a list of counter operations -/
def incSum : List Upd → Nat
  | [] => 0
  | .cinc n :: us => n + incSum us
  | _ :: us => incSum us

theorem fold_cinc_gen (us : List Upd) (h : ∀ u ∈ us, ∃ n, u = .cinc n) : ∀ c : Nat,
    us.foldl applyUpd (.counter (c % two64)) = .counter ((c + incSum us) % two64) := by
  induction us with
  | nil => intro c; rfl
  | cons u us ih =>
    intro c
    obtain ⟨n, rfl⟩ := h u (List.mem_cons_self ..)
    simp only [List.foldl_cons, applyUpd, incSum, Nat.mod_add_mod]
    rw [ih (fun u hu => h u (List.mem_cons_of_mem _ hu)) (c + n), Nat.add_assoc]

/-- **a counter that was only incremented shows the sum of all increments of all threads** (mod 2^64), whatever
    the interleaving -/
theorem conc_counter_is_sum {ko : KeyOps K} (L : KeyLaws ko) {s : CSys K} (h : ConcReach ko s) (k : K) (i : Nat)
    (hr : readSection ko s.reg .counter k = some i)
    (honly : ∀ u ∈ keyLog ko s.ulog .counter k, ∃ n, u = .cinc n) :
    s.cells[i]? = some (.counter (incSum (keyLog ko s.ulog .counter k) % two64)) := by
  rw [conc_value_is_fold L h .counter k i hr]
  have := fold_cinc_gen _ honly 0
  simp only [Nat.zero_add] at this
  exact congrArg some this

/-- no operation turns a gauge cell into a cell of another kind … -/
theorem fold_gauge_stays (us : List Upd) (g : Int) : ∃ g', us.foldl applyUpd (.gauge g) = .gauge g' :=
  List.foldlRecOn (motive := fun c => ∃ g', c = .gauge g') us applyUpd ⟨g, rfl⟩
    fun _ ⟨_, hc⟩ u _ => by subst hc; cases u <;> exact ⟨_, rfl⟩

/-- **a gauge shows the last value set by any thread** (when a `set` took effect last).  A fact about `foldCell` on a
    plain operation list; the threads come in through `conc_value_is_fold`, with `keyLog` for `us ++ [.gset v]` -/
theorem conc_gauge_last_set (us : List Upd) (v : Int) : foldCell .gauge (us ++ [.gset v]) = .gauge v := by
  obtain ⟨g', hg⟩ := fold_gauge_stays us 0
  simp only [foldCell, List.foldl_append, List.foldl_cons, List.foldl_nil, fresh, hg, applyUpd]

/-- … nor a histogram cell -/
theorem fold_hist_stays (us : List Upd) (vs : List Int) : ∃ ws, us.foldl applyUpd (.hist vs) = .hist ws :=
  List.foldlRecOn (motive := fun c => ∃ ws, c = .hist ws) us applyUpd ⟨vs, rfl⟩
    fun _ ⟨_, hc⟩ u _ => by subst hc; cases u <;> exact ⟨_, rfl⟩

theorem fold_hrec_gen (vals : List Int) : ∀ vs : List Int,
    (vals.map Upd.hrec).foldl applyUpd (.hist vs) = .hist (vs ++ vals) := by
  induction vals with
  | nil => intro vs; simp
  | cons v vals ih => intro vs; simp only [List.map_cons, List.foldl_cons, applyUpd, ih]; simp

/-- **a histogram holds exactly the values recorded (by any thread) since the last drain**, in the order they took
    effect: a value drained by one snapshot is not shown by the next.  Again about `foldCell` on a plain list, to be
    read with `conc_value_is_fold` -/
theorem conc_hist_since_drain (us : List Upd) (vals : List Int) :
    foldCell .histogram (us ++ [.drain] ++ vals.map Upd.hrec) = .hist vals := by
  obtain ⟨ws, hw⟩ := fold_hist_stays us []
  simp only [foldCell, List.foldl_append, List.foldl_cons, List.foldl_nil, fresh, hw, applyUpd]
  rw [fold_hrec_gen]; rfl

/-- before any snapshot: everything recorded (`foldCell` on a plain list, as above) -/
theorem conc_hist_first (vals : List Int) : foldCell .histogram (vals.map Upd.hrec) = .hist vals := by
  simp only [foldCell, fresh]; rw [fold_hrec_gen]; rfl

/-- keys `(class, how it was built)`; classes 0 and 3 share their full hash -/
def concKo : KeyOps (Nat × Nat) := { eqv := fun a b => a.1 == b.1, hash := fun a => a.1 % 3 }

theorem concLaws : KeyLaws concKo := by
  refine ⟨?_, ?_, ?_, ?_⟩ <;> simp only [concKo, beq_iff_eq]
  · intro a; trivial
  · intro a b h; exact h.symm
  · intro a b c h1 h2; exact h1.trans h2
  · intro a b h; rw [h]

/-- the race in which a write section without its re-check would replace a cell another thread holds: threads 0 and 1
    register the same NEW counter (built differently); both miss under the read lock (grants 0,1 after `track`),
    thread 0 creates the entry, thread 1's write section finds it on its re-check.  Both handles are cell 0, one cell
    exists, the increments 5 and 7 both land in it, the snapshot of thread 2 shows 12 under the key instance tracked
    first. -/
example :
    let s := DebuggingConc.run concKo (CSys.init 4
        [[.register .counter (0, 0), .update 0 (.cinc 5)], [.register .counter (0, 1), .update 0 (.cinc 7)], [.snapshot]])
      [0, 1, 0, 1, 0, 1, 0, 1, 0, 1, 2, 2]
    s.threads.map (fun t => t.handles.map (·.id)) = [[0], [0], []] ∧ s.cells = [.counter 12]
    ∧ s.threads.map (·.snaps) = [[], [], [[(.counter, (0, 0), .counter 12)]]] ∧ s.seen = [(.counter, (0, 0))] := by
  decide +kernel

/-- the same race on a histogram, a snapshot between the two records: each value in exactly one snapshot -/
example :
    let s := DebuggingConc.run concKo (CSys.init 2
        [[.register .histogram (3, 0), .update 0 (.hrec 1024)], [.register .histogram (3, 1), .update 0 (.hrec 2048)],
         [.snapshot, .snapshot]])
      [0, 1, 2, 0, 1, 0, 1, 0, 1, 0, 2, 1, 2]
    s.threads.map (·.snaps) = [[], [], [[(.histogram, (3, 0), .hist [1024])], [(.histogram, (3, 0), .hist [2048])]]]
    ∧ s.cells = [.hist []] := by
  decide +kernel

end MetricsVerif.C19
