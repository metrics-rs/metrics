/-
C13 — layers deliver exactly the transformed operations to exactly the right recorders.

Model: `Model/Layers.lean` (recorder trees over numbered base recorders, handle trees).  All theorems are for
ALL names (empty, non-ASCII, …), label sets, kinds, units, descriptions, pattern sets, route tables (overlapping,
duplicated, per-kind and ALL masks), fan-out widths / nesting depths and layer lists: they are proved by
induction on the strings / route lists / trees / layer lists, nothing is enumerated.

Reading of the property's words: "case-insensitively" = modulo ASCII case (`ascii_case_insensitive`);
"contains" / "prefix" = contiguous substring / prefix of the string; for two routes with the same pattern and
kind the later `add_route` wins (the property leaves this open; `router_longest_prefix` states what the code
does).

The layer VALUES are modelled too — `PrefixLayer::new`, the `FilterLayer` builder
(`default()`, `from_patterns`, `add_pattern`, `case_insensitive`, `use_dfa`) and one layer value applied several
times with changes in between (`filter_builder_*`, `layer_reuse_*`, `prefix_*`); sequences of calls on one handle
(`fanout_all_once_seq`, `handle_stateless`); source facts pinning the trie lookup of `Router::route`, the arms of
`add_route`, the builder bodies, the field lists and loops of the `Fanout*` handles and the three pushes of
`prefix_key*` (`src_*`).
-/
import MetricsVerif.Proofs.Layers
import MetricsVerif.Generated.SourceFacts

namespace MetricsVerif.C13
open MetricsVerif.Layers

/-- **prefix_exact**: the prefix layer forwards every describe / register to its inner recorder with the name
    `<prefix>.<name>` and every other field (describe-or-register, kind, labels, unit, description, metadata)
    unchanged; the handle it returns is the inner recorder's handle for that forwarded operation. -/
theorem prefix_exact (p : Str) (r : Rec) (op : Op) :
    (Rec.pfx p r).deliver op = r.deliver { op with name := p ++ ['.'] ++ op.name }
    ∧ (Rec.pfx p r).handle op = r.handle { op with name := p ++ ['.'] ++ op.name } := by
  simp [Rec.deliver, Rec.handle, prefixOp, prefixName]

/-- a prefix layer directly over base recorder `i`: that recorder receives exactly one operation, the renamed one -/
theorem prefix_exact_base (p : Str) (i : Nat) (op : Op) :
    (Rec.pfx p (.base i)).deliver op = [(i, { op with name := p ++ ['.'] ++ op.name })] := by
  simp [Rec.deliver, prefixOp, prefixName]

/-- ASCII case folding touches nothing but `A`…`Z` (in particular no non-ASCII letter) … -/
theorem asciiLower_other (c : Char) (h : c.toNat < 65 ∨ 90 < c.toNat) : asciiLower c = c := by
  unfold asciiLower
  split
  · omega
  · rfl

/-- … and maps `A`…`Z` to `a`…`z` -/
theorem asciiLower_upper (c : Char) (h : 65 ≤ c.toNat ∧ c.toNat ≤ 90) :
    (asciiLower c).toNat = c.toNat + 32 := by
  have key : ∀ n : Nat, n < 200 → (Char.ofNat n).toNat = n := by
    intro n hn
    have hv : n.isValidChar := by left; omega
    simp [Char.ofNat, hv, Char.ofNatAux, Char.toNat]
  unfold asciiLower
  rw [if_pos h]
  exact key _ (by omega)

/-- **filter_iff_substring**: the filter's decision is exactly "some pattern occurs in the name as a contiguous
    substring" — compared literally when case-sensitive, modulo ASCII case when case-insensitive. -/
theorem filter_iff_substring (pats : List Str) (ci : Bool) (name : Str) :
    shouldFilter pats ci name = true ↔ ∃ p ∈ pats, fold ci p <:+: fold ci name := by
  simp [shouldFilter, List.any_eq_true, isInfixOf_iff]

/-- what is compared: the strings themselves, or their ASCII-lower-cased images -/
theorem fold_spec (s : Str) : fold false s = s ∧ fold true s = s.map asciiLower := by
  simp [fold]

/-- the filter layer drops the operation (nothing reaches any recorder below, the handle is inert) exactly when
    a pattern occurs in the name, and otherwise forwards it unchanged -/
theorem filter_exact (pats : List Str) (ci : Bool) (r : Rec) (op : Op) :
    ((∃ p ∈ pats, fold ci p <:+: fold ci op.name) →
        (Rec.filter pats ci r).deliver op = [] ∧ (Rec.filter pats ci r).handle op = .noop)
    ∧ ((¬ ∃ p ∈ pats, fold ci p <:+: fold ci op.name) →
        (Rec.filter pats ci r).deliver op = r.deliver op ∧ (Rec.filter pats ci r).handle op = r.handle op) := by
  rw [← filter_iff_substring]
  constructor
  · intro h; simp [Rec.deliver, Rec.handle, h]
  · intro h; simp [Rec.deliver, Rec.handle, h]

/-- an inert handle delivers nothing, whatever is done with it -/
theorem noop_inert (u : Upd) : Handle.noop.apply u = [] := by
  simp [Handle.apply]

/-- **router_longest_prefix**: the routing decision for (kind, name) over the routes in `add_route` order.
    If it is route `i`, then that route is for this kind, its pattern is a prefix of the name, no route for this
    kind that is a prefix of the name is longer, and among routes for this kind with the same pattern it is the
    last one added.  If it is the default, no route for this kind is a prefix of the name. -/
theorem router_longest_prefix (routes : List (Mask × Str)) (k : Kind) (name : Str) :
    (∀ i, routeIdx routes k name = some i →
      ∃ m p, routes[i]? = some (m, p) ∧ m.covers k = true ∧ p <+: name ∧
        ∀ j m' p', routes[j]? = some (m', p') → m'.covers k = true → p' <+: name →
          p'.length ≤ p.length ∧ (p' = p → j ≤ i))
    ∧ (routeIdx routes k name = none →
      ∀ m' p', (m', p') ∈ routes → m'.covers k = true → ¬ p' <+: name) := by
  constructor
  · intro i hi
    simp only [routeIdx, Builder.route] at hi
    split at hi
    · cases hi
    · simp only [Option.map_eq_some_iff] at hi
      obtain ⟨⟨key, v⟩, hga, rfl⟩ := hi
      obtain ⟨hpre, hget, hmax⟩ := Trie.getAncestor_some _ _ _ _ hga
      rw [get_built] at hget
      obtain ⟨m, hm1, hm2, hm3⟩ := lastIdx_some k key routes v hget
      refine ⟨m, key, hm1, hm2, hpre, ?_⟩
      intro j m' p' hj hc hp
      have hsome : (Trie.get ((Builder.addRoutes {} routes).routes k) p').isSome = true := by
        rw [get_built]
        cases hl : lastIdx k p' routes with
        | some _ => rfl
        | none =>
          exfalso
          exact lastIdx_none k p' routes hl m' (List.mem_iff_getElem?.mpr ⟨j, hj⟩) hc
      refine ⟨hmax p' hp hsome, ?_⟩
      intro hpp
      subst hpp
      exact hm3 j m' hj hc
  · intro hn m' p' hmem hc hp
    simp only [routeIdx, Builder.route] at hn
    split at hn
    · rename_i hmask
      rw [Builder.maskCovers_addRoutes] at hmask
      have : routes.any (fun r => r.1.covers k) = true := List.any_eq_true.mpr ⟨(m', p'), hmem, hc⟩
      simp [this] at hmask
    · simp only [Option.map_eq_none_iff] at hn
      have hg := Trie.getAncestor_none _ _ hn p' hp
      rw [get_built] at hg
      exact lastIdx_none k p' routes hg m' hmem hc

/-- the index the router uses is always a valid index into its targets -/
theorem routeIdx_lt (routes : List (Mask × Str)) (k : Kind) (name : Str) (i : Nat)
    (h : routeIdx routes k name = some i) : i < routes.length := by
  obtain ⟨m, p, hget, _⟩ := (router_longest_prefix routes k name).1 i h
  exact (List.getElem?_eq_some_iff.mp hget).1

/-- the router forwards the operation, unchanged, to exactly one recorder: the default when the decision is
    `none`, else the target added together with the chosen route -/
theorem router_exact (d : Rec) (routes : List (Mask × Str)) (ts : List Rec) (op : Op)
    (hlen : ts.length = routes.length) :
    ∃ t, (routeIdx routes op.kind op.name = none ∧ t = d
          ∨ ∃ i, routeIdx routes op.kind op.name = some i ∧ ts[i]? = some t)
      ∧ (Rec.router d routes ts).deliver op = t.deliver op
      ∧ (Rec.router d routes ts).handle op = t.handle op := by
  cases h : routeIdx routes op.kind op.name with
  | none => exact ⟨d, Or.inl ⟨rfl, rfl⟩, by simp [Rec.deliver, h], by simp [Rec.handle, h]⟩
  | some i =>
    have hi : i < ts.length := hlen ▸ routeIdx_lt routes op.kind op.name i h
    have hg : ts[i]? = some ts[i] := List.getElem?_eq_getElem hi
    refine ⟨ts[i], Or.inr ⟨i, rfl, hg⟩, ?_, ?_⟩
    · simp [Rec.deliver, h, deliverNth_of_get ts i _ op hg]
    · simp [Rec.handle, h, handleNth_of_get ts i _ op hg]

/-- the fanout forwards the operation, unchanged, to every recorder, in order; its handle is the vector of
    their handles -/
theorem fanout_exact (rs : List Rec) (op : Op) :
    (Rec.fanout rs).deliver op = rs.flatMap (·.deliver op)
    ∧ (Rec.fanout rs).handle op = .fan (rs.map (·.handle op)) := by
  simp [Rec.deliver, Rec.handle, deliverAll_eq, handleAll_eq]

/-- a fanout over base recorders `ids`: each of them receives the operation exactly once -/
theorem fanout_bases (ids : List Nat) (op : Op) :
    (Rec.fanout (ids.map .base)).deliver op = ids.map (fun i => (i, op)) := by
  rw [(fanout_exact _ _).1]
  induction ids with
  | nil => rfl
  | cons i ids ih => simp [Rec.deliver, List.flatMap_cons, ih]

mutual
/-- **fanout_all_once**: through a handle tree of any width and depth, every update reaches every leaf handle
    exactly once — as many times as the leaf occurs in the tree — and nothing else is delivered:
    for each leaf `l` and elementary call `e`, the number of `(l, e)` received equals
    (occurrences of `l` among the leaves) × (occurrences of `e` in the update), where `record_many(v, n)`
    stands for `n` × `record(v)`. -/
theorem fanout_all_once : ∀ (h : Handle) (u : Upd) (l : Nat × Op) (e : Upd),
    ((h.apply u).flatMap normD).count (l, e) = h.leaves.count l * (norm u).count e
  | .noop, u, l, e => (Nat.zero_mul _).symm
  | .leaf b op, u, l, e => by
    simp only [Handle.apply, Handle.leaves, List.flatMap_cons, List.flatMap_nil, List.append_nil, normD,
      count_pair_map, List.count_singleton, beq_iff_eq]
    by_cases hl : (b, op) = l <;> simp [hl]
  | .fan hs, u, l, e => by
    have hall := fun u => fanout_all_once_list hs u l e
    cases u with
    | hmany v n =>
      simp only [Handle.apply, Handle.leaves, rounds_flatMap, count_rounds, hall, norm_hrec_count]
      simp only [norm, List.count_replicate, beq_iff_eq]
      by_cases he : Upd.hrec v = e <;> simp [he, Nat.mul_comm]
    | _ => exact hall _
theorem fanout_all_once_list : ∀ (hs : List Handle) (u : Upd) (l : Nat × Op) (e : Upd),
    ((applyAll hs u).flatMap normD).count (l, e) = (leavesAll hs).count l * (norm u).count e
  | [], u, l, e => by simp [applyAll, leavesAll]
  | h :: hs, u, l, e => by
    simp only [applyAll, leavesAll, List.flatMap_append, List.count_append, fanout_all_once h u l e,
      fanout_all_once_list hs u l e, Nat.add_mul]
end

mutual
/-- the leaf handles of the handle a register returns are exactly the `(recorder, operation)` pairs that
    received the registration: updates through the handle go to those recorders and no others -/
theorem handle_leaves : ∀ (r : Rec) (op : Op), (r.handle op).leaves = r.deliver op
  | .base id, op => rfl
  | .pfx p r, op => handle_leaves r _
  | .filter pats ci r, op => by
    simp only [Rec.handle, Rec.deliver]
    split
    · simp [Handle.leaves]
    · exact handle_leaves r op
  | .router d routes ts, op => by
    simp only [Rec.handle, Rec.deliver]
    split
    · exact handle_leaves d op
    · exact handle_leaves_nth ts _ op
  | .fanout rs, op => handle_leaves_all rs op
theorem handle_leaves_all : ∀ (rs : List Rec) (op : Op), leavesAll (handleAll rs op) = deliverAll rs op
  | [], _ => rfl
  | r :: rs, op => congr (congrArg _ (handle_leaves r op)) (handle_leaves_all rs op)
theorem handle_leaves_nth : ∀ (rs : List Rec) (i : Nat) (op : Op),
    (handleNth rs i op).leaves = deliverNth rs i op
  | [], _, _ => rfl
  | r :: _, 0, op => handle_leaves r op
  | _ :: rs, i + 1, op => handle_leaves_nth rs i op
end

/-- every update through the handle of a fanned-out registration reaches each recorder that received the
    registration once (`fanout_all_once` + `handle_leaves`) -/
theorem fanout_update_reaches_all (r : Rec) (op : Op) (u : Upd) (l : Nat × Op) (e : Upd) :
    (((r.handle op).apply u).flatMap normD).count (l, e) = (r.deliver op).count l * (norm u).count e := by
  rw [fanout_all_once, handle_leaves]

/-- what one layer does to an operation: `some op'` = forwards `op'`, `none` = drops -/
def layerTr : Layer → Op → Option Op
  | .pfx p, op => some (prefixOp p op)
  | .filter pats ci, op => if shouldFilter pats ci op.name then none else some op

/-- a layer as a transformer of "what the recorder below does with an operation" -/
def layerSem {β : Type} (inert : β) (l : Layer) (below : Op → β) : Op → β :=
  fun op => match layerTr l op with
    | none => inert
    | some op' => below op'

/-- composition of the layers of a stack (push order): the last pushed layer sees the operation first -/
def stackTr : List Layer → Op → Option Op
  | [], op => some op
  | l :: ls, op => (stackTr ls op).bind (layerTr l)

/-- forward to `r` or drop -/
def deliverOpt (r : Rec) : Option Op → List (Nat × Op)
  | none => []
  | some op => r.deliver op
def handleOpt (r : Rec) : Option Op → Handle
  | none => .noop
  | some op => r.handle op

theorem layer_sem (l : Layer) (r : Rec) (op : Op) :
    (l.layer r).deliver op = layerSem [] l r.deliver op ∧ (l.layer r).handle op = layerSem .noop l r.handle op := by
  cases l with
  | pfx p => simp [Layer.layer, layerSem, layerTr, Rec.deliver, Rec.handle]
  | filter pats ci =>
    simp only [Layer.layer, layerSem, layerTr, Rec.deliver, Rec.handle]
    split <;> simp

/-- **stack_is_composition**: a stack is the composition of its layers in push order — as functions, pushing
    layer `l` on a stack wraps the stack's behaviour in `l`'s behaviour (by induction on the layer list) -/
theorem stack_is_composition (inner : Rec) (ls : List Layer) :
    (stack inner ls).deliver = ls.foldl (fun below l => layerSem [] l below) inner.deliver
    ∧ (stack inner ls).handle = ls.foldl (fun below l => layerSem .noop l below) inner.handle := by
  induction ls generalizing inner with
  | nil => exact ⟨rfl, rfl⟩
  | cons l ls ih =>
    have h1 : (l.layer inner).deliver = layerSem [] l inner.deliver := funext fun op => (layer_sem l inner op).1
    have h2 : (l.layer inner).handle = layerSem .noop l inner.handle := funext fun op => (layer_sem l inner op).2
    have := ih (l.layer inner)
    simp only [stack, List.foldl_cons] at this ⊢
    rw [this.1, this.2, h1, h2]
    exact ⟨rfl, rfl⟩

/-- the same, operation by operation: the stack applies its layers' transformations, last pushed first, and
    hands the result (if no filter dropped it) to the recorder at the bottom -/
theorem stack_transform (inner : Rec) (ls : List Layer) (op : Op) :
    (stack inner ls).deliver op = deliverOpt inner (stackTr ls op)
    ∧ (stack inner ls).handle op = handleOpt inner (stackTr ls op) := by
  induction ls generalizing inner with
  | nil => exact ⟨rfl, rfl⟩
  | cons l ls ih =>
    have := ih (l.layer inner)
    simp only [stack, List.foldl_cons] at this ⊢
    rw [this.1, this.2]
    simp only [stackTr]
    cases stackTr ls op with
    | none => exact ⟨rfl, rfl⟩
    | some op' =>
      have hl := layer_sem l inner op'
      simp only [deliverOpt, handleOpt, Option.bind_some, hl.1, hl.2, layerSem]
      cases layerTr l op' <;> simp

/-- pushing further layers onto a stack = a stack over the stack built so far -/
theorem stack_append (inner : Rec) (ls₁ ls₂ : List Layer) :
    stack inner (ls₁ ++ ls₂) = stack (stack inner ls₁) ls₂ := by
  simp [stack, List.foldl_append]

/-! ## the layer values: `PrefixLayer::new`, the `FilterLayer` builder, one layer value used several times -/

/-- a layer made by `PrefixLayer::new(p)` behaves as `prefix_exact` says for exactly the `p` it was given … -/
theorem prefix_layer_exact (p : Str) (r : Rec) (op : Op) :
    (prefixLayer p r).deliver op = r.deliver { op with name := p ++ ['.'] ++ op.name }
    ∧ (prefixLayer p r).handle op = r.handle { op with name := p ++ ['.'] ++ op.name } :=
  prefix_exact p r op

/-- … and nothing about the prefix is normalised away: different prefixes (say `a` and `a.`, or `a` and `a` plus a
    blank) give different names for every metric name; the delivered name is exactly one character longer than
    prefix plus name -/
theorem prefix_faithful (p q name : Str) :
    (prefixName p name = prefixName q name → p = q)
    ∧ (prefixName p name).length = p.length + 1 + name.length := by
  constructor
  · intro h
    exact List.append_cancel_right h
  · simp [prefixName]; omega

/-- the patterns a chain of builder calls adds, in call order -/
def addedPats : List FOp → List Str
  | [] => []
  | .add p :: rest => p :: addedPats rest
  | .ci _ :: rest => addedPats rest
  | .dfa _ :: rest => addedPats rest

def isCi : FOp → Bool
  | .ci _ => true
  | _ => false

def isDfa : FOp → Bool
  | .dfa _ => true
  | _ => false

/-- **filter_builder_patterns**: after any chain of builder calls the layer holds the patterns it started with
    followed by every pattern passed to `add_pattern`, in order — none dropped, merged, re-cased or skipped
    (duplicates, case variants of earlier patterns and the empty pattern included). -/
theorem filter_builder_patterns (c : FilterCfg) (ops : List FOp) :
    (c.run ops).patterns = c.patterns ++ addedPats ops := by
  induction ops generalizing c with
  | nil => simp [FilterCfg.run_nil, addedPats]
  | cons o rest ih =>
    rw [FilterCfg.run_cons, ih]
    cases o <;> simp [FilterCfg.step, addedPats]

/-- without a `case_insensitive` call the layer keeps the case sensitivity it started with (`false` for both
    constructors, see `filter_defaults`) … -/
theorem filter_builder_ci_unset (c : FilterCfg) (ops : List FOp) (h : ∀ o ∈ ops, isCi o = false) :
    (c.run ops).ci = c.ci := by
  induction ops generalizing c with
  | nil => rfl
  | cons o rest ih =>
    rw [FilterCfg.run_cons, ih _ (fun o' ho' => h o' (List.mem_cons_of_mem _ ho'))]
    cases o with
    | add p => rfl
    | ci b => exact nomatch h _ (List.mem_cons_self ..)
    | dfa b => rfl

/-- … and otherwise it is what the LAST `case_insensitive(b)` call said (a plain assignment: not sticky, not
    or-ed with earlier calls) -/
theorem filter_builder_ci_last (c : FilterCfg) (pre post : List FOp) (b : Bool)
    (hpost : ∀ o ∈ post, isCi o = false) :
    (c.run (pre ++ .ci b :: post)).ci = b := by
  rw [FilterCfg.run_append, FilterCfg.run_cons, filter_builder_ci_unset _ _ hpost]
  rfl

/-- the two constructors: `from_patterns` keeps the patterns as given and is case-sensitive; `default()` has no
    pattern, is case-sensitive and therefore forwards everything -/
theorem filter_defaults (ps : List Str) (r : Rec) (op : Op) :
    (FilterCfg.fromPatterns ps).layer r = .filter ps false r
    ∧ FilterCfg.dflt.layer r = .filter [] false r
    ∧ (FilterCfg.dflt.layer r).deliver op = r.deliver op
    ∧ (FilterCfg.dflt.layer r).handle op = r.handle op := by
  refine ⟨rfl, rfl, ?_, ?_⟩ <;> simp [FilterCfg.dflt, FilterCfg.layer, Rec.deliver, Rec.handle, shouldFilter]

/-- **filter_builder_exact**: the layer produced by ANY chain of builder calls on either constructor drops an
    operation exactly when one of the patterns it was given — at construction or by `add_pattern` — occurs in the
    name, compared under the case sensitivity in force at the time of `.layer()`; dropped operations reach nobody
    and return inert handles, all others are forwarded unchanged. -/
theorem filter_builder_exact (c : FilterCfg) (ops : List FOp) (r : Rec) (op : Op) :
    ((∃ p ∈ c.patterns ++ addedPats ops, fold (c.run ops).ci p <:+: fold (c.run ops).ci op.name) →
        ((c.run ops).layer r).deliver op = [] ∧ ((c.run ops).layer r).handle op = .noop)
    ∧ ((¬ ∃ p ∈ c.patterns ++ addedPats ops, fold (c.run ops).ci p <:+: fold (c.run ops).ci op.name) →
        ((c.run ops).layer r).deliver op = r.deliver op ∧ ((c.run ops).layer r).handle op = r.handle op) := by
  rw [← filter_builder_patterns]
  exact filter_exact _ _ r op

/-- `use_dfa` never matters: dropping every `use_dfa` call from the chain gives the same layer -/
theorem filter_builder_dfa_irrelevant (c : FilterCfg) (ops : List FOp) (r : Rec) :
    (c.run ops).layer r = (c.run (ops.filter (fun o => !isDfa o))).layer r := by
  -- `layer` reads `patterns` and `ci` only, and no builder call lets `dfa` flow into them
  suffices key : ∀ (ops : List FOp) (c c' : FilterCfg), c.patterns = c'.patterns → c.ci = c'.ci →
      (c.run ops).layer r = (c'.run (ops.filter (fun o => !isDfa o))).layer r from key ops c c rfl rfl
  intro ops
  induction ops with
  | nil =>
    intro c c' h1 h2
    show Rec.filter c.patterns c.ci r = Rec.filter c'.patterns c'.ci r
    rw [h1, h2]
  | cons o rest ih =>
    intro c c' h1 h2
    cases o with
    | add p => exact ih _ _ (congrArg (· ++ [p]) h1) h2
    | ci b => exact ih _ _ h1 rfl
    | dfa b => exact ih _ _ h1 h2

/-- **layer_reuse_snapshot**: `.layer(inner)` takes `&self`; every application of ONE `FilterLayer` value builds
    its filter from the fields as they are at that moment — it sees all builder calls made before it (also those
    made after earlier applications: nothing is cached), none made after it, and applying the layer does not
    change it. -/
theorem layer_reuse_snapshot (c : FilterCfg) (pre post : List LStep) (inner : Rec) :
    c.reuse (pre ++ .layer inner :: post)
      = c.reuse pre ++ (c.run (cfgOps pre)).layer inner :: (c.run (cfgOps pre)).reuse post := by
  induction pre generalizing c with
  | nil => simp [FilterCfg.reuse, cfgOps, FilterCfg.run_nil]
  | cons st rest ih =>
    cases st with
    | cfg o => simp [FilterCfg.reuse, cfgOps, FilterCfg.run_cons, ih]
    | layer i => simp [FilterCfg.reuse, cfgOps, ih]

/-- builder calls after the last application change none of the recorders already built -/
theorem layer_reuse_trailing (c : FilterCfg) (steps : List LStep) (os : List FOp) :
    c.reuse (steps ++ os.map .cfg) = c.reuse steps := by
  induction steps generalizing c with
  | nil =>
    induction os generalizing c with
    | nil => rfl
    | cons o rest ih => simpa [FilterCfg.reuse] using ih (c.step o)
  | cons st rest ih =>
    cases st with
    | cfg o => simpa [FilterCfg.reuse] using ih (c.step o)
    | layer i => simp [FilterCfg.reuse, ih]

/-- one `PrefixLayer` value applied to several recorders prefixes each of them with the same, unchanged prefix -/
theorem prefix_reuse (p : Str) (rs : List Rec) (op : Op) :
    (Rec.fanout (rs.map (prefixLayer p))).deliver op
      = rs.flatMap (·.deliver { op with name := p ++ ['.'] ++ op.name }) := by
  rw [(fanout_exact _ _).1, List.flatMap_map]
  congr 1
  funext r
  exact (prefix_layer_exact p r op).1

/-! ## sequences of calls on one handle -/

/-- **fanout_all_once_seq**: for ANY sequence of calls on one handle (or its clones) — repeated values, `set`
    after `increment`, anything — every call reaches every leaf exactly once: the number of `(leaf, call)` received
    over the whole sequence is (occurrences of the leaf) × (occurrences of the call in the sequence).  No call is
    swallowed because an earlier one looked the same. -/
theorem fanout_all_once_seq (h : Handle) (us : List Upd) (l : Nat × Op) (e : Upd) :
    ((h.applySeq us).flatMap normD).count (l, e) = h.leaves.count l * (us.flatMap norm).count e := by
  induction us with
  | nil => simp [Handle.applySeq]
  | cons u rest ih =>
    rw [Handle.applySeq_cons, List.flatMap_append, List.count_append, fanout_all_once, ih,
      List.flatMap_cons, List.count_append, Nat.mul_add]

/-- what a call causes does not depend on the calls made before it -/
theorem handle_stateless (h : Handle) (before : List Upd) (u : Upd) :
    h.applySeq (before ++ [u]) = h.applySeq before ++ h.apply u := by
  simp [Handle.applySeq]

/-! ## several client threads on one tree (no layer has state: `src_layers_stateless`) -/
theorem advance_rest (tree : Rec) (shared : List Handle) (todo : List Call) :
    ∀ (p : List Ev) (own : List Handle),
      (advance tree shared p own todo).rest tree shared = p ++ seqFrom tree shared own todo := by
  induction todo with
  | nil =>
    intro p own
    cases p <;> simp [advance, Thread.rest, seqFrom]
  | cons c cs ih =>
    intro p own
    cases p with
    | nil => simp [advance, ih, seqFrom]
    | cons e p => simp [advance, Thread.rest]

theorem advance_started (tree : Rec) (shared : List Handle) (todo : List Call) :
    ∀ (p : List Ev) (own : List Handle), (advance tree shared p own todo).started = true := by
  induction todo with
  | nil => intro p own; cases p <;> simp [advance]
  | cons c cs ih =>
    intro p own
    cases p with
    | nil => simp [advance, ih]
    | cons e p => simp [advance]

theorem step_tree (s : Sys) (g : Nat) : (s.step g).tree = s.tree ∧ (s.step g).shared = s.shared := by
  unfold Sys.step
  split
  · exact ⟨rfl, rfl⟩
  · split <;> exact ⟨rfl, rfl⟩

theorem proj_append (l₁ l₂ : List (Nat × Ev)) (t : Nat) : proj (l₁ ++ l₂) t = proj l₁ t ++ proj l₂ t := by
  simp [proj]

/-- one grant: what thread `t` has caused so far plus what it will still cause is unchanged — whoever was granted -/
theorem step_inv (s : Sys) (g t : Nat) :
    proj (s.step g).log t ++ ((s.step g).threads t).rest s.tree s.shared
      = proj s.log t ++ (s.threads t).rest s.tree s.shared := by
  unfold Sys.step
  split
  · -- first grant of g
    by_cases h : t = g
    · subst h
      simp only [if_true, advance_rest]
      rfl
    · simp [h]
  · split
    · rfl
    · rename_i e p hp
      by_cases h : t = g
      · subst h
        simp only [if_true, advance_rest, proj_append]
        simp [proj, Thread.rest, hp]
      · have : (g == t) = false := by simpa using fun h' => h h'.symm
        simp [h, proj, this]

theorem run_tree (sched : List Nat) : ∀ s : Sys, (s.run sched).tree = s.tree ∧ (s.run sched).shared = s.shared := by
  induction sched with
  | nil => intro s; exact ⟨rfl, rfl⟩
  | cons g rest ih =>
    intro s
    have := ih (s.step g)
    simp only [Sys.run, List.foldl_cons] at this ⊢
    rw [this.1, this.2]
    exact step_tree s g

theorem run_inv (sched : List Nat) : ∀ (s : Sys) (t : Nat),
    proj (s.run sched).log t ++ ((s.run sched).threads t).rest s.tree s.shared
      = proj s.log t ++ (s.threads t).rest s.tree s.shared := by
  induction sched with
  | nil => intro s t; rfl
  | cons g rest ih =>
    intro s t
    have h := ih (s.step g) t
    rw [(step_tree s g).1, (step_tree s g).2] at h
    simp only [Sys.run, List.foldl_cons] at h ⊢
    rw [h, step_inv]

/-- **conc_projection**: several client threads on ONE tree, ANY number of threads, ANY schedule (granularity: one
    call into a base recorder per grant).  At every moment, what thread `t` has caused so far followed by what it
    will still cause if it runs to its end is exactly what its script causes when it runs ALONE: no call of another
    thread, at whatever point in between, changes where an operation of `t` goes, under which name, to whom its
    updates are delivered or how often. -/
theorem conc_projection (tree : Rec) (shared : List Handle) (scripts : Nat → List Call) (sched : List Nat) (t : Nat) :
    proj ((Sys.init tree shared scripts).run sched).log t
        ++ (((Sys.init tree shared scripts).run sched).threads t).rest tree shared
      = seqFrom tree shared [] (scripts t) := by
  have := run_inv sched (Sys.init tree shared scripts) t
  simpa [Sys.init, proj, Thread.rest] using this

/-- at every moment each thread's part of the global log is a prefix of its sequential behaviour … -/
theorem conc_no_interference (tree : Rec) (shared : List Handle) (scripts : Nat → List Call) (sched : List Nat) (t : Nat) :
    proj ((Sys.init tree shared scripts).run sched).log t <+: seqFrom tree shared [] (scripts t) :=
  ⟨_, conc_projection tree shared scripts sched t⟩

/-- … and once the thread has finished it is exactly its sequential behaviour: every describe / register went to
    the recorders `Rec.deliver` names (to which `prefix_exact`, `filter_exact`, `router_exact`, `fanout_exact`,
    `stack_transform` apply), every update to the leaves `Handle.apply` names (`fanout_all_once`), also for handles
    SHARED between the threads -/
theorem conc_complete (tree : Rec) (shared : List Handle) (scripts : Nat → List Call) (sched : List Nat) (t : Nat)
    (hfin : (((Sys.init tree shared scripts).run sched).threads t).finished = true) :
    proj ((Sys.init tree shared scripts).run sched).log t = seqFrom tree shared [] (scripts t) := by
  have h := conc_projection tree shared scripts sched t
  simp only [Thread.finished, Bool.and_eq_true, List.isEmpty_iff] at hfin
  obtain ⟨⟨_, hp⟩, ht⟩ := hfin
  simpa [Thread.rest, hp, ht, seqFrom] using h

/-- the sequential behaviour of a thread, call by call: a describe / register causes `Rec.deliver` (and a register
    adds `Rec.handle` to the thread's handles); an update through a handle `h` (shared or own) causes `Handle.apply` -/
theorem seq_calls_exact (tree : Rec) (shared own : List Handle) (cs : List Call) :
    (∀ o, seqFrom tree shared own (.op o :: cs)
        = (tree.deliver o).map (fun d => Ev.got d.1 d.2)
          ++ seqFrom tree shared (if o.reg then own ++ [tree.handle o] else own) cs)
    ∧ (∀ sh i u h, (if sh then shared else own)[i]? = some h →
        seqFrom tree shared own (.upd sh i u :: cs)
          = (h.apply u).map (fun d => Ev.upd d.1 d.2) ++ seqFrom tree shared own cs) := by
  constructor
  · intro o; simp [seqFrom, evalCall]
  · intro sh i u h hh; simp [seqFrom, evalCall, hh]

/-- the global log holds nothing but what the threads cause: every entry belongs to the projection of its thread
    (so, with `conc_no_interference`, to that thread's sequential behaviour) -/
theorem conc_log_mem (log : List (Nat × Ev)) (t : Nat) (e : Ev) (h : (t, e) ∈ log) : e ∈ proj log t := by
  simp only [proj, List.mem_map, List.mem_filter]
  exact ⟨(t, e), ⟨h, by simp⟩, rfl⟩

/-! ## recorder lifetime, raw masks -/

/-- **handle_outlives_recorder**: a handle is a value of its own (`Fanout*` handles OWN their vector of inner
    handles, a leaf handle is the base recorder's own handle, `src_fanout_register`): dropping the recorder tree
    that made it changes nothing about what later calls on the handle cause. -/
theorem handle_outlives_recorder (c : Client) (i : Nat) (us : List Upd) :
    (c.dropTree).update i us = c.update i us ∧ (c.dropTree).tree = none ∧ (c.dropTree).handles = c.handles := by
  exact ⟨rfl, rfl, rfl⟩

/-- updates after the drop still reach every recorder that received the registration exactly once -/
theorem update_after_drop_all_once (r : Rec) (op : Op) (us : List Upd) (l : Nat × Op) (e : Upd) :
    let c : Client := { tree := some r, handles := [r.handle op] }
    (((c.dropTree).update 0 us).flatMap normD).count (l, e) = (r.deliver op).count l * (us.flatMap norm).count e := by
  simp only [Client.dropTree, Client.update, List.getElem?_cons_zero]
  rw [fanout_all_once_seq, handle_leaves]

/-- **mask_ofBits_iff**: `add_route` accepts exactly the bit patterns of COUNTER, GAUGE, HISTOGRAM and ALL; every
    other mask — NONE and the composites COUNTER|GAUGE, COUNTER|HISTOGRAM, GAUGE|HISTOGRAM — is refused (panic),
    never half-applied -/
theorem mask_ofBits_iff (b : Nat) (m : Mask) : Mask.ofBits b = some m ↔ b = m.bits := by
  constructor
  · intro h
    unfold Mask.ofBits at h
    split at h <;> cases h <;> rfl
  · rintro rfl
    cases m <;> rfl

theorem mask_composite_refused : Mask.ofBits 0 = none ∧ Mask.ofBits 3 = none ∧ Mask.ofBits 5 = none ∧ Mask.ofBits 6 = none :=
  ⟨rfl, rfl, rfl, rfl⟩

/-! ## source facts (`tools/extract.py`, regenerated from the working tree on every run) -/

/-- `Router::route` consults the global mask first and then asks the trie for the deepest ancestor node THAT HOLDS
    A VALUE (`get_ancestor`, whose result always has a value — hence the `unwrap`), falling back to the default
    only when there is none: the model's `Builder.route` / `Trie.getAncestor`.  (`get_raw_ancestor`, `get`,
    `get_ancestor_value` on another key … would be a different function.) -/
theorem src_router_lookup :
    Generated.layers_route_body =
      "{if!self.global_mask.matches(kind){self.default.as_ref()}else{search_routes.get_ancestor(key).map(|st|unsafe{self.targets.get_unchecked(*st.value().unwrap()).as_ref()}).unwrap_or_else(||self.default.as_ref())}}" :=
  rfl

/-- `add_route` takes the target index BEFORE pushing the target, or-s the mask into the global mask, and inserts
    the pattern (as given) with that index into all three tries for ALL and into the kind's own trie otherwise: the
    model's `Builder.addRoute` -/
theorem src_add_route :
    Generated.layers_add_route_prologue
      = "lettarget_idx=self.targets.len();self.targets.push(Box::new(recorder));self.global_mask=self.global_mask|mask;"
    ∧ Generated.layers_add_route_arms
      = ["ALL:counter,gauge,histogram", "COUNTER:counter", "GAUGE:gauge", "HISTOGRAM:histogram"] :=
  ⟨rfl, rfl⟩

/-- `FilterLayer`: `Default` is derived over `(Vec, bool, bool)` (⇒ no pattern, case-sensitive, no DFA —
    `FilterCfg.dflt`); `from_patterns` stores the patterns as given with `case_insensitive: false, use_dfa: true`
    (`FilterCfg.fromPatterns`); the three builder methods are a push and two plain assignments (`FilterCfg.step`);
    `layer()` builds the automaton from exactly these three fields and `should_filter` is `is_match` on the name -/
theorem src_filter_builder :
    Generated.layers_filter_layer_derives = "Default,Debug"
    ∧ Generated.layers_filter_layer_fields = "{patterns:Vec<String>,case_insensitive:bool,use_dfa:bool,}"
    ∧ Generated.layers_filter_from_patterns_body
      = "{FilterLayer{patterns:patterns.into_iter().map(|s|s.as_ref().to_string()).collect(),case_insensitive:false,use_dfa:true,}}"
    ∧ Generated.layers_filter_add_pattern_body = "{self.patterns.push(pattern.as_ref().to_string());self}"
    ∧ Generated.layers_filter_case_insensitive_body = "{self.case_insensitive=case_insensitive;self}"
    ∧ Generated.layers_filter_use_dfa_body = "{self.use_dfa=dfa;self}"
    ∧ Generated.layers_filter_automaton_chain
      = [".ascii_case_insensitive(self.case_insensitive)", ".kind(self.use_dfa.then_some(AhoCorasickKind::DFA))",
         ".build(&self.patterns)"]
    ∧ Generated.layers_filter_layer_result = "Filter{inner,automaton}"
    ∧ Generated.layers_filter_should_filter_body = "{self.automaton.is_match(key)}" :=
  ⟨rfl, rfl, rfl, rfl, rfl, rfl, rfl, rfl, rfl⟩

/-- the `Fanout*` handles have no field but their vector of inner handles (nothing to remember between calls:
    `handle_stateless`), every method is the plain loop calling the same method with the same argument on each
    inner handle (`Handle.apply` on `.fan`), and `FanoutHistogram` defines `record` only, so `record_many` is the
    trait's default loop of `count` × `record` (`rounds`) -/
theorem src_fanout_handles :
    Generated.layers_fanout_counter_fields = "{counters:Vec<Counter>,}"
    ∧ Generated.layers_fanout_gauge_fields = "{gauges:Vec<Gauge>,}"
    ∧ Generated.layers_fanout_histogram_fields = "{histograms:Vec<Histogram>,}"
    ∧ Generated.layers_fanout_counter_methods
      = ["increment:{forcounterin&self.counters{counter.increment(value);}}",
         "absolute:{forcounterin&self.counters{counter.absolute(value);}}"]
    ∧ Generated.layers_fanout_gauge_methods
      = ["increment:{forgaugein&self.gauges{gauge.increment(value);}}",
         "decrement:{forgaugein&self.gauges{gauge.decrement(value);}}",
         "set:{forgaugein&self.gauges{gauge.set(value);}}"]
    ∧ Generated.layers_fanout_histogram_methods
      = ["record:{forhistogramin&self.histograms{histogram.record(value);}}"]
    ∧ Generated.histogram_fn_record_many_default = "{for_in0..count{self.record(value);}}" :=
  ⟨rfl, rfl, rfl, rfl, rfl, rfl, rfl⟩

/-- `PrefixLayer::new` keeps the prefix as given, `layer()` hands it on unchanged, and both key functions build
    the new name from exactly three pushes — prefix, `'.'`, name — with the labels passed through
    (`prefixName`, `prefixOp`) -/
theorem src_prefix :
    Generated.layers_prefix_new_body = "{PrefixLayer(Box::leak(prefix.into().into_boxed_str()))}"
    ∧ Generated.layers_prefix_layer_body = "{Prefix{prefix:self.0.into(),inner}}"
    ∧ Generated.layers_prefix_key_pushes = ["push_str(self.prefix.as_ref())", "push('.')", "push_str(key.name())"]
    ∧ Generated.layers_prefix_key_result = "Key::from_parts(new_name,key.labels())"
    ∧ Generated.layers_prefix_key_name_pushes
      = ["push_str(self.prefix.as_ref())", "push('.')", "push_str(key_name.as_str())"]
    ∧ Generated.layers_prefix_key_name_result = "KeyName::from(new_name)" :=
  ⟨rfl, rfl, rfl, rfl, rfl, rfl⟩

/-! ### the call sites of the helpers, the fields, the builders -/

/-- every `Recorder` method of `Router` asks `route` — with ITS OWN kind and ITS OWN trie, and the name of the key — for the
    target and forwards the call, arguments unchanged, to that target and to nobody else (`Rec.deliver` / `Rec.handle` on
    `.router`; a `route_fast`, a cache in front of `route`, a wrong trie for a kind would be a different text) -/
theorem src_recorder_impl_router :
    Generated.layers_router_recorder_impl =
      ["fndescribe_counter(&self,key_name:KeyName,unit:Option<Unit>,description:SharedString){lettarget=self.route(MetricKind::Counter,key_name.as_str(),&self.counter_routes);target.describe_counter(key_name,unit,description)}",
       "fndescribe_gauge(&self,key_name:KeyName,unit:Option<Unit>,description:SharedString){lettarget=self.route(MetricKind::Gauge,key_name.as_str(),&self.gauge_routes);target.describe_gauge(key_name,unit,description)}",
       "fndescribe_histogram(&self,key_name:KeyName,unit:Option<Unit>,description:SharedString){lettarget=self.route(MetricKind::Histogram,key_name.as_str(),&self.histogram_routes);target.describe_histogram(key_name,unit,description)}",
       "fnregister_counter(&self,key:&Key,metadata:&Metadata<'_>)->Counter{lettarget=self.route(MetricKind::Counter,key.name(),&self.counter_routes);target.register_counter(key,metadata)}",
       "fnregister_gauge(&self,key:&Key,metadata:&Metadata<'_>)->Gauge{lettarget=self.route(MetricKind::Gauge,key.name(),&self.gauge_routes);target.register_gauge(key,metadata)}",
       "fnregister_histogram(&self,key:&Key,metadata:&Metadata<'_>)->Histogram{lettarget=self.route(MetricKind::Histogram,key.name(),&self.histogram_routes);target.register_histogram(key,metadata)}"] :=
  rfl

/-- every `Recorder` method of `Filter` asks `should_filter` about the NAME, returns at once (describe) / returns the
    `noop()` handle of its kind (register) when it says yes, and otherwise forwards the call unchanged to `inner` -/
theorem src_recorder_impl_filter :
    Generated.layers_filter_recorder_impl =
      ["fndescribe_counter(&self,key_name:KeyName,unit:Option<Unit>,description:SharedString){ifself.should_filter(key_name.as_str()){return;}self.inner.describe_counter(key_name,unit,description)}",
       "fndescribe_gauge(&self,key_name:KeyName,unit:Option<Unit>,description:SharedString){ifself.should_filter(key_name.as_str()){return;}self.inner.describe_gauge(key_name,unit,description)}",
       "fndescribe_histogram(&self,key_name:KeyName,unit:Option<Unit>,description:SharedString){ifself.should_filter(key_name.as_str()){return;}self.inner.describe_histogram(key_name,unit,description)}",
       "fnregister_counter(&self,key:&Key,metadata:&Metadata<'_>)->Counter{ifself.should_filter(key.name()){returnCounter::noop();}self.inner.register_counter(key,metadata)}",
       "fnregister_gauge(&self,key:&Key,metadata:&Metadata<'_>)->Gauge{ifself.should_filter(key.name()){returnGauge::noop();}self.inner.register_gauge(key,metadata)}",
       "fnregister_histogram(&self,key:&Key,metadata:&Metadata<'_>)->Histogram{ifself.should_filter(key.name()){returnHistogram::noop();}self.inner.register_histogram(key,metadata)}"] :=
  rfl

/-- every `Recorder` method of `Prefix` builds the new name with `prefix_key_name` / `prefix_key` and forwards the call with
    it, unit / description / metadata unchanged, to `inner` -/
theorem src_recorder_impl_prefix :
    Generated.layers_prefix_recorder_impl =
      ["fndescribe_counter(&self,key_name:KeyName,unit:Option<Unit>,description:SharedString){letnew_key_name=self.prefix_key_name(key_name);self.inner.describe_counter(new_key_name,unit,description)}",
       "fndescribe_gauge(&self,key_name:KeyName,unit:Option<Unit>,description:SharedString){letnew_key_name=self.prefix_key_name(key_name);self.inner.describe_gauge(new_key_name,unit,description)}",
       "fndescribe_histogram(&self,key_name:KeyName,unit:Option<Unit>,description:SharedString){letnew_key_name=self.prefix_key_name(key_name);self.inner.describe_histogram(new_key_name,unit,description)}",
       "fnregister_counter(&self,key:&Key,metadata:&Metadata<'_>)->Counter{letnew_key=self.prefix_key(key);self.inner.register_counter(&new_key,metadata)}",
       "fnregister_gauge(&self,key:&Key,metadata:&Metadata<'_>)->Gauge{letnew_key=self.prefix_key(key);self.inner.register_gauge(&new_key,metadata)}",
       "fnregister_histogram(&self,key:&Key,metadata:&Metadata<'_>)->Histogram{letnew_key=self.prefix_key(key);self.inner.register_histogram(&new_key,metadata)}"] :=
  rfl

/-- every `Recorder` method of `Fanout` loops over ALL `recorders` in order (no `take`, no bounded collection); a register
    collects the handles of all of them into the `Fanout*` handle of its kind -/
theorem src_recorder_impl_fanout :
    Generated.layers_fanout_recorder_impl =
      ["fndescribe_counter(&self,key_name:KeyName,unit:Option<Unit>,description:SharedString){forrecorderin&self.recorders{recorder.describe_counter(key_name.clone(),unit,description.clone());}}",
       "fndescribe_gauge(&self,key_name:KeyName,unit:Option<Unit>,description:SharedString){forrecorderin&self.recorders{recorder.describe_gauge(key_name.clone(),unit,description.clone());}}",
       "fndescribe_histogram(&self,key_name:KeyName,unit:Option<Unit>,description:SharedString){forrecorderin&self.recorders{recorder.describe_histogram(key_name.clone(),unit,description.clone());}}",
       "fnregister_counter(&self,key:&Key,metadata:&Metadata<'_>)->Counter{letcounters=self.recorders.iter().map(|recorder|recorder.register_counter(key,metadata)).collect();FanoutCounter::from_counters(counters).into()}",
       "fnregister_gauge(&self,key:&Key,metadata:&Metadata<'_>)->Gauge{letgauges=self.recorders.iter().map(|recorder|recorder.register_gauge(key,metadata)).collect();FanoutGauge::from_gauges(gauges).into()}",
       "fnregister_histogram(&self,key:&Key,metadata:&Metadata<'_>)->Histogram{lethistograms=self.recorders.iter().map(|recorder|recorder.register_histogram(key,metadata)).collect();FanoutHistogram::from_histograms(histograms).into()}"] :=
  rfl

/-- every `Recorder` method of `Stack` only delegates to what it wraps -/
theorem src_recorder_impl_stack :
    Generated.layers_stack_recorder_impl =
      ["fndescribe_counter(&self,key_name:KeyName,unit:Option<Unit>,description:SharedString){self.inner.describe_counter(key_name,unit,description);}",
       "fndescribe_gauge(&self,key_name:KeyName,unit:Option<Unit>,description:SharedString){self.inner.describe_gauge(key_name,unit,description);}",
       "fndescribe_histogram(&self,key_name:KeyName,unit:Option<Unit>,description:SharedString){self.inner.describe_histogram(key_name,unit,description);}",
       "fnregister_counter(&self,key:&Key,metadata:&Metadata<'_>)->Counter{self.inner.register_counter(key,metadata)}",
       "fnregister_gauge(&self,key:&Key,metadata:&Metadata<'_>)->Gauge{self.inner.register_gauge(key,metadata)}",
       "fnregister_histogram(&self,key:&Key,metadata:&Metadata<'_>)->Histogram{self.inner.register_histogram(key,metadata)}"] :=
  rfl

/-- **src_layers_stateless**: the layer structs hold nothing but their configuration and what they wrap — no atomic, lock,
    cell or other interior-mutable field —, the five files contain no `static`, `thread_local!`, lock, cell, atomic, `Weak`
    or `Rc` at all, and the single `unsafe` is the `get_unchecked` of `Router::route`.  With every `Recorder` method taking
    `&self` (`src_recorder_impl_*`) no call can leave anything behind for a later or a concurrent call: the model of
    several client threads (`Sys`) has no shared state besides the read-only tree, and a handle needs nothing of the
    recorder that made it. -/
theorem src_layers_stateless :
    Generated.layers_struct_fields =
      ["Router{default:Box<dynRecorder+Sync>,global_mask:MetricKindMask,targets:Vec<Box<dynRecorder+Sync>>,counter_routes:Trie<String,usize>,gauge_routes:Trie<String,usize>,histogram_routes:Trie<String,usize>,}",
       "RouterBuilder{default:Box<dynRecorder+Sync>,global_mask:MetricKindMask,targets:Vec<Box<dynRecorder+Sync>>,counter_routes:Trie<String,usize>,gauge_routes:Trie<String,usize>,histogram_routes:Trie<String,usize>,}",
       "Filter<R>{inner:R,automaton:AhoCorasick,}",
       "Prefix<R>{prefix:SharedString,inner:R,}",
       "Fanout{recorders:Vec<Box<dynRecorder+Sync>>,}",
       "FanoutBuilder{recorders:Vec<Box<dynRecorder+Sync>>,}",
       "Stack<R>{inner:R,}",
       "pubstructPrefixLayer(&'staticstr);"]
    ∧ Generated.layers_state_tokens = ["router:unsafe"] :=
  ⟨rfl, rfl⟩

/-- **src_fanout_register**: the `Fanout*` handles are built from the OWNED vector of inner handles and wrapped in an `Arc`
    of their own (`handle_outlives_recorder`); `FanoutBuilder::add_recorder` pushes, `build` moves the vector as it is -/
theorem src_fanout_register :
    Generated.layers_fanout_conversions =
      ["implFrom<FanoutCounter>forCounter{fnfrom(counter:FanoutCounter)->Counter{Counter::from_arc(Arc::new(counter))}}",
       "{pubfnfrom_counters(counters:Vec<Counter>)->Self{Self{counters}}}",
       "implFrom<FanoutGauge>forGauge{fnfrom(gauge:FanoutGauge)->Gauge{Gauge::from_arc(Arc::new(gauge))}}",
       "{pubfnfrom_gauges(gauges:Vec<Gauge>)->Self{Self{gauges}}}",
       "implFrom<FanoutHistogram>forHistogram{fnfrom(histogram:FanoutHistogram)->Histogram{Histogram::from_arc(Arc::new(histogram))}}",
       "{pubfnfrom_histograms(histograms:Vec<Histogram>)->Self{Self{histograms}}}"]
    ∧ Generated.layers_fanout_builder_impl =
      ["fnadd_recorder<R>(mutself,recorder:R)->FanoutBuilderwhereR:Recorder+Sync+'static,{self.recorders.push(Box::new(recorder));self}",
       "fnbuild(self)->Fanout{Fanout{recorders:self.recorders}}"] :=
  ⟨rfl, rfl⟩

/-- **src_router_builder**: `from_recorder` starts with the NONE mask, no target and three empty tries; `build` moves every
    field into the `Router` unchanged; the wildcard arm of `add_route` is the `panic!` (`Mask.ofBits` = `none`) and nothing
    follows the `match` but returning `self`.  `Stack::new` wraps, `push` wraps what the layer makes of the current inner
    recorder (`stack`), `install` hands the stack to `set_global_recorder`. -/
theorem src_router_builder :
    Generated.layers_router_builder_impl =
      ["fnfrom_recorder<R>(recorder:R)->SelfwhereR:Recorder+Sync+'static,{RouterBuilder{default:Box::new(recorder),global_mask:MetricKindMask::NONE,targets:Vec::new(),counter_routes:Trie::new(),gauge_routes:Trie::new(),histogram_routes:Trie::new(),}}",
       "fnbuild(self)->Router{Router{default:self.default,global_mask:self.global_mask,targets:self.targets,counter_routes:self.counter_routes,gauge_routes:self.gauge_routes,histogram_routes:self.histogram_routes,}}"]
    ∧ Generated.layers_add_route_wildcard = "panic!(\"cannotaddrouteforunknownoremptymetrickindmask\")"
    ∧ Generated.layers_add_route_epilogue = "self"
    ∧ Generated.layers_stack_impl =
      ["fnnew(inner:R)->Self{Stack{inner}}",
       "fnpush<L:Layer<R>>(self,layer:L)->Stack<L::Output>{Stack::new(layer.layer(self.inner))}"]
    ∧ Generated.layers_stack_install_impl =
      ["fninstall(self)->Result<(),SetRecorderError<Self>>{metrics::set_global_recorder(self)}"] :=
  ⟨rfl, rfl, rfl, rfl, rfl⟩

/-! ## non-vacuity: concrete, non-trivial inputs -/

section examples

private def opc (name : String) : Op :=
  { reg := true, kind := .counter, name := name.toList, labels := [(['k'], ['v'])], unit := none, desc := [], metadata := ['m'] }
private def oph (name : String) : Op := { opc name with kind := .histogram }

/-- overlapping routes "a" (ALL), "ab" (counter), "abc" (ALL), "ab" (counter, duplicate), "" (gauge) -/
private def routes : List (Mask × Str) :=
  [(.all, ['a']), (.counter, ['a', 'b']), (.all, ['a', 'b', 'c']), (.counter, ['a', 'b']), (.gauge, [])]

-- longest prefix for the kind; the later duplicate wins; other kinds' routes are ignored; default otherwise
example : routeIdx routes .counter ['a', 'b', 'd'] = some 3 := by decide
example : routeIdx routes .histogram ['a', 'b', 'd'] = some 0 := by decide
example : routeIdx routes .counter ['a', 'b', 'c', 'd'] = some 2 := by decide
example : routeIdx routes .gauge ['x'] = some 4 := by decide
example : routeIdx routes .counter ['x'] = none := by decide
example : routeIdx routes .counter [] = none := by decide
example : routeIdx [(.counter, ['a'])] .gauge ['a'] = none := by decide

-- case-insensitive filter: ASCII folded, non-ASCII not
example : shouldFilter [['a', 'B']] true ['x', 'A', 'b', 'y'] = true := by decide
example : shouldFilter [['a', 'B']] false ['x', 'A', 'b', 'y'] = false := by decide
example : shouldFilter [['É']] true ['é'] = false := by decide
example : shouldFilter [[]] false [] = true := by decide
example : shouldFilter [] true ['a'] = false := by decide

-- a stack [prefix "in", filter "out.a", prefix "out"] over a router over a fanout: the filter sees "out.<name>"
private def tree : Rec :=
  stack (.router (.base 0) [(.all, ['i', 'n', '.', 'o'])] [.fanout [.base 1, .fanout [.base 2, .base 3]]])
    [.pfx ['i', 'n'], .filter [['o', 'u', 't', '.', 'a']] false, .pfx ['o', 'u', 't']]

example : (tree.deliver (opc "b")).map (·.1) = [1, 2, 3] := by decide +kernel
example : (tree.deliver (opc "b")).map (·.2.name) = List.replicate 3 "in.out.b".toList := by decide +kernel
example : tree.deliver (opc "a") = [] := by decide +kernel
example : tree.handle (opc "a") = .noop := by rfl

-- record_many(7, 2) through the nested fanout handle: each of the three leaves gets two samples
example : ((tree.handle (oph "b")).apply (.hmany 7 2)).map (fun d => (d.1.1, d.2))
    = [(1, .hrec 7), (2, .hrec 7), (3, .hrec 7), (1, .hrec 7), (2, .hrec 7), (3, .hrec 7)] := by decide +kernel
-- … while a leaf handle reached without a fanout receives record_many itself
example : ((Rec.pfx ['p'] (.base 0)).handle (oph "b")).apply (.hmany 7 2)
    = [((0, { oph "b" with name := "p.b".toList }), .hmany 7 2)] := by decide +kernel

-- the builder: default() + add_pattern "t", "T" keeps both (case-sensitive), so "T.x" is dropped; setters are
-- plain assignments (true, then false ⇒ false); from_patterns without any call is case-sensitive
example : (FilterCfg.dflt.run [.add ['t'], .dfa true, .add ['T']]).patterns = [['t'], ['T']] := by decide +kernel
example : ((FilterCfg.dflt.run [.add ['t'], .add ['T']]).layer (.base 0)).deliver (opc "T.x") = [] := by decide +kernel
example : ((FilterCfg.fromPatterns [['t']]).run [.ci true, .dfa false, .ci false]).ci = false := by decide +kernel
example : ((FilterCfg.fromPatterns [['t']]).layer (.base 0)).deliver (opc "T.x") = [(0, opc "T.x")] := by decide +kernel
example : (((FilterCfg.fromPatterns [['t']]).run [.ci true]).layer (.base 0)).deliver (opc "T.x") = [] := by decide +kernel

-- one FilterLayer value, applied, extended, applied again, changed afterwards: two different filters
example : (FilterCfg.fromPatterns [['t']]).reuse
      [.layer (.base 0), .cfg (.add ['h']), .layer (.base 1), .cfg (.ci true)]
    = [.filter [['t']] false (.base 0), .filter [['t'], ['h']] false (.base 1)] := by rfl
example : ((Rec.fanout ((FilterCfg.fromPatterns [['t']]).reuse
      [.layer (.base 0), .cfg (.add ['h']), .layer (.base 1), .cfg (.ci true)])).deliver (opc "h")).map (·.1) = [0] := by
  decide +kernel

-- a prefix ending in a dot is kept: "a." + "." + "x"
example : ((prefixLayer ['a', '.'] (.base 0)).deliver (opc "x")).map (·.2.name) = ["a..x".toList] := by decide +kernel

-- set(5), increment(1), set(5) through a fan-out handle over two recorders: all six calls arrive, in order
example : ((Handle.fan [.leaf 0 (opc "g"), .leaf 1 (opc "g")]).applySeq [.gset 5, .ginc 1, .gset 5]).map (fun d => (d.1.1, d.2))
    = [(0, .gset 5), (1, .gset 5), (0, .ginc 1), (1, .ginc 1), (0, .gset 5), (1, .gset 5)] := by decide +kernel

-- sibling routes "fo", "fo.a", "fo.b" (the radix trie has a value-less node for "fo."): "fo.c" still goes to "fo"
example : routeIdx [(.all, ['f', 'o']), (.all, ['f', 'o', '.', 'a']), (.all, ['f', 'o', '.', 'b'])] .counter
    ['f', 'o', '.', 'c'] = some 0 := by decide +kernel

-- two client threads on one tree (router over a 2-wide fan-out): thread 0 registers "a1" (→ recorders 1 and 2), thread 1
-- registers "b" (→ default 0); under the schedule 0,1,0,1,0 thread 1's call lands BETWEEN the two deliveries of thread 0's
private def ctree : Rec := .router (.base 0) [(.all, ['a'])] [.fanout [.base 1, .base 2]]
private def cscripts : Nat → List Call
  | 0 => [.op (opc "a1"), .upd false 0 (.cinc 5)]
  | 1 => [.op (opc "b")]
  | _ => []
private def evBase : Ev → Nat
  | .got b _ => b
  | .upd l _ => l.1
example : ((Sys.init ctree [] cscripts).run [0, 1, 0, 1, 0]).log.map (fun x => (x.1, evBase x.2)) = [(0, 1), (1, 0), (0, 2)] := by
  decide +kernel
-- … and run to the end each thread has caused exactly what it causes alone (register to 1, 2, then the update to 1, 2)
example : (proj ((Sys.init ctree [] cscripts).run [0, 1, 0, 1, 0, 0, 0]).log 0).map evBase = [1, 2, 1, 2] := by decide +kernel
example : (((Sys.init ctree [] cscripts).run [0, 1, 0, 1, 0, 0, 0]).threads 0).finished = true := by decide +kernel
-- a handle used after its tree is gone; a composite mask
example : ((({ tree := some ctree, handles := [ctree.handle (opc "a1")] } : Client).dropTree).update 0 [.cinc 1]).map (·.1.1) = [1, 2] := by
  decide +kernel
example : Mask.ofBits 3 = none ∧ Mask.ofBits 7 = some .all := by decide +kernel

end examples

end MetricsVerif.C13
