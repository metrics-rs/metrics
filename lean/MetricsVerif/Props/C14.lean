/-
C14 — shared strings and label slices own their memory correctly on every path.

Model: `Model/Cow.lean` — a heap of `Vec` buffers, `Arc` blocks and statics; a `Cow` value is the three words
`(ptr, len, capacity)` and its kind is decoded from the capacity word exactly as `Metadata::kind` does.
Every theorem below is for ALL operation sequences over any number of values (construct borrowed / owned
with any length and capacity incl. empty and capacity 0 / shared; clone; clone_from; deref; compare; into_owned;
into std Cow; drop; clone, clone_from, into_owned and comparisons also with the element type's code panicking;
the caller creating and dropping its own `Arc`s), proved through one invariant (`Inv`,
`Proofs/Cow.lean`): every live value fits what its pointer really points to and reads back what it was built
from; a buffer is live iff exactly one value points to it and has been freed once iff it is not live; an
`Arc` block's strong count is the caller's references plus the number of values pointing to it.

What the proof is about: the bookkeeping discipline of cow.rs.  That `Vec::from_raw_parts` / `Arc::from_raw`
are used with the right *byte* layouts, that `Arc`'s counter is atomic and the allocator thread-safe (so the
same operations may run on another thread) is checked dynamically (tracking allocator) or trusted (DESIGN §2).
-/
import MetricsVerif.Proofs.Cow
import MetricsVerif.Proofs.CowSend
import MetricsVerif.Generated.SourceFacts

namespace MetricsVerif.C14
open MetricsVerif.Cow

/-- the invariant survives any operation sequence; a failing sequence fails with a caller error -/
theorem run_inv (ops : List Op) : ∀ (s : St), Inv s →
    match run s ops with
    | .ok s' => Inv s'
    | .error e => e.isMisuse = true := by
  induction ops with
  | nil => intro s hI; exact hI
  | cons op ops ih =>
    intro s hI
    have h1 := step_good hI op
    simp only [run]
    cases hs : step s op with
    | error e => rw [hs] at h1; exact h1.1
    | ok r => rw [hs] at h1; exact ih r.1 h1

/-- **memory safety**: no sequence of operations, well-formed or not, reaches a memory error (double free,
    free of something that is not a live buffer, `from_raw_parts` with a foreign length/capacity, read of
    freed or unowned memory, strong-count underflow, `Arc` use after free).  The only way a sequence can
    stop is a caller error that safe Rust cannot express or that panics before any unsafe code runs. -/
theorem cow_safe (ops : List Op) :
    match run init ops with
    | .ok _ => True
    | .error e => e.isMisuse = true := by
  have := run_inv ops init inv_init
  cases h : run init ops with
  | ok s => trivial
  | error e => rw [h] at this; exact this

def isOk {α} : Except Err α → Bool
  | .ok _ => true
  | .error _ => false

def errIs {α} (x : Except Err α) (e : Err) : Bool :=
  match x with
  | .error e' => e' == e
  | .ok _ => false

/-- the step is rejected as a use of a dead / foreign `Arc` block -/
def errIsArc {α} : Except Err α → Prop
  | .error .arcUseAfterFree => True
  | _ => False

instance {α} (x : Except Err α) : Decidable (errIsArc x) := by
  unfold errIsArc; split <;> infer_instance

/-- a well-formed operation (live handles, held `Arc`s, owned values that are `Vec`s) always succeeds -/
theorem step_wf {s : St} (hI : Inv s) (op : Op) (hw : wfOp s op = true) : isOk (step s op) = true := by
  obtain ⟨s', a, hs, _⟩ := (hw ▸ step_good hI op).ok
  rw [hs]; rfl

/-- **every well-formed sequence runs to the end**: if each operation refers to live handles / held `Arc`s
    in the state in which it executes (`wfRun`, a decidable check), no error of any kind occurs. -/
theorem cow_wf_runs (ops : List Op) : ∀ (s : St), Inv s → wfRun s ops = true → ∃ s', run s ops = .ok s' ∧ Inv s' := by
  induction ops with
  | nil => intro s hI _; exact ⟨s, rfl, hI⟩
  | cons op ops ih =>
    intro s hI hw
    simp only [wfRun, Bool.and_eq_true] at hw
    obtain ⟨s', a, hs, hI'⟩ := (hw.1 ▸ step_good hI op).ok
    have hw2 := hw.2
    rw [hs] at hw2
    obtain ⟨s'', hr, hI''⟩ := ih s' hI' hw2
    exact ⟨s'', by simp only [run, hs, hr], hI''⟩

theorem reachable_inv {ops : List Op} {s : St} (h : run init ops = .ok s) : Inv s := by
  have := run_inv ops init inv_init
  rw [h] at this
  exact this

/-- **content**: in every reachable state, dereferencing any live value returns exactly the content it was
    built from (`built` is set by the constructor to its argument — see `construct_reads_back` — and copied
    by `clone` / `into_owned` / conversion to `std::borrow::Cow`). -/
theorem deref_reads_built {ops : List Op} {s : St} (hr : run init ops = .ok s) {h : Nat} {e : Entry}
    (he : s.vals[h]? = some (some e)) : step s (.deref h) = .ok (s, .content e.built) := by
  simp only [step, getVal_of_some he, bind, Except.bind, read_ok ((reachable_inv hr).ent h e he)]

/-- comparing two live values compares the contents they were built from -/
theorem eq_compares_built {ops : List Op} {s : St} (hr : run init ops = .ok s) {h1 h2 : Nat} {e1 e2 : Entry}
    (he1 : s.vals[h1]? = some (some e1)) (he2 : s.vals[h2]? = some (some e2)) :
    step s (.eq h1 h2) = .ok (s, .bool (e1.built == e2.built)) := by
  have hI := reachable_inv hr
  simp only [step, getVal_of_some he1, getVal_of_some he2, bind, Except.bind,
    read_ok (hI.ent h1 e1 he1), read_ok (hI.ent h2 e2 he2)]

/-- a freshly constructed owned value — any length, any capacity, empty, capacity 0 — reads back the content
    it was given, under the next handle -/
theorem construct_reads_back {ops : List Op} {s : St} (hr : run init ops = .ok s) (c : Content) (cap : Nat)
    {s' : St} {a : Ans} (hs : step s (.fromOwned c cap) = .ok (s', a)) :
    a = .handle s.vals.length c ∧ ∃ v, s'.vals[s.vals.length]? = some (some ⟨v, c⟩) := by
  simp only [step] at hs
  by_cases hw : c.length ≤ cap ∧ cap < usizeMax
  · have hI' := inv_ownedIntoParts (reachable_inv hr) c cap hw.1 hw.2
    simp only [fromOwned_ok hw.1 hw.2, bind, Except.bind, bindNew_ok hI', ownedIntoParts_vals, Except.ok.injEq,
      Prod.mk.injEq] at hs
    obtain ⟨rfl, rfl⟩ := hs
    refine ⟨rfl, (ownedIntoParts s c cap).2, ?_⟩
    rw [pushVal_vals, ownedIntoParts_vals]
    exact List.getElem?_concat_length
  · obtain ⟨e, he, _⟩ := fromOwned_err (s := s) hw
    rw [he] at hs
    cases hs

/-- a clone reads back what its source was built from, and the source is untouched -/
theorem clone_reads_same {ops : List Op} {s : St} (hr : run init ops = .ok s) {h : Nat} {e : Entry}
    (he : s.vals[h]? = some (some e)) :
    ∃ s' h', step s (.clone h) = .ok (s', .handle h' e.built) ∧ step s' (.deref h) = .ok (s', .content e.built) := by
  obtain ⟨s1, v, _, hv, hI', hst⟩ := stepClone_spec (reachable_inv hr) he
  have he' : (pushVal s1 v e.built).vals[h]? = some (some e) := by
    rw [pushVal_vals, hv]
    exact getElem?_append_of_some he
  exact ⟨_, _, hst, by simp only [step, getVal_of_some he', bind, Except.bind, read_ok (hI'.ent h e he')]⟩

/-! ## no leak, no double free -/

/-- all values have been dropped or consumed -/
def AllDropped (s : St) : Prop := ∀ (h : Nat) (e : Entry), s.vals[h]? ≠ some (some e)

theorem refs_zero_of_allDropped {s : St} (hd : AllDropped s) (p : Option Entry → Bool) (hp : p none = false) :
    s.vals.countP p = 0 :=
  count_eq_zero hp fun h e hh => absurd hh (hd h e)

/-- **no leak, no double free**: after any operation sequence that ran to its end, once every value has
    been dropped (or consumed by `into_owned` and its result dropped),
    * every `Vec` buffer that ever existed — the ones handed to `from_owned`, the ones made by `clone`,
      `into_owned`, conversion to `std::borrow::Cow` — is not live and has been freed exactly once;
    * every `Arc` block's strong count equals the number of references the caller still holds; a block the
      caller no longer holds has been freed exactly once, a block it still holds has not been freed;
    * no element of a slice was left undestroyed by a `from_raw_parts` with a short length. -/
theorem cow_no_leak {ops : List Op} {s : St} (hr : run init ops = .ok s) (hd : AllDropped s) :
    (∀ (i : Nat) (c : VecCell), s.vecs[i]? = some c → c.live = false ∧ c.frees = 1)
    ∧ (∀ (i : Nat) (c : ArcCell), s.arcs[i]? = some c →
        c.strong = c.ext ∧ (c.ext = 0 → c.live = false ∧ c.frees = 1) ∧ (0 < c.ext → c.live = true ∧ c.frees = 0))
    ∧ s.leaked = 0 := by
  have hI := reachable_inv hr
  refine ⟨fun i c hc => ?_, fun i c hc => ?_, hI.leak⟩
  · obtain ⟨h1, h2⟩ := hI.vec i c hc
    rw [vecRefs, refs_zero_of_allDropped hd (refVec i) rfl] at h1
    cases hl : c.live with
    | true => rw [hl] at h1; cases h1
    | false => rw [hl] at h2; exact ⟨rfl, h2⟩
  · obtain ⟨h1, h2, h3⟩ := hI.arc i c hc
    rw [arcRefs, refs_zero_of_allDropped hd (refArc i) rfl] at h1
    refine ⟨h1, fun he => ?_, fun he => ?_⟩
    · have hl : c.live = false := by rw [h2, h1, he]; rfl
      rw [hl] at h3
      exact ⟨hl, h3⟩
    · have hl : c.live = true := h2.trans (decide_eq_true (h1 ▸ he))
      rw [hl] at h3
      exact ⟨hl, h3⟩

/-- the tracking allocator's view: with all values dropped, the live allocations are exactly the `Arc`
    blocks the caller still holds -/
theorem cow_no_leak_count {ops : List Op} {s : St} (hr : run init ops = .ok s) (hd : AllDropped s) :
    liveAllocs s = (s.arcs.filter (fun c => decide (0 < c.ext))).length := by
  obtain ⟨hv, ha, _⟩ := cow_no_leak hr hd
  unfold liveAllocs
  have h1 : s.vecs.filter (·.live) = [] := by
    rw [List.filter_eq_nil_iff]
    intro c hc
    obtain ⟨i, hi⟩ := List.getElem?_of_mem hc
    simp [(hv i c hi).1]
  have h2 : s.arcs.filter (·.live) = s.arcs.filter (fun c => decide (0 < c.ext)) := by
    apply List.filter_congr
    intro c hc
    obtain ⟨i, hi⟩ := List.getElem?_of_mem hc
    obtain ⟨_, hz, hp⟩ := ha i c hi
    by_cases he : 0 < c.ext
    · simp [(hp he).1, he]
    · have : c.ext = 0 := by omega
      simp [(hz this).1, this]
  rw [h1, h2]; simp

/-- **at most one free, at any time**: in every reachable state — not only at the end — no buffer or block has
    been freed more than once, and it has been freed iff it is no longer live -/
theorem freed_at_most_once {ops : List Op} {s : St} (hr : run init ops = .ok s) :
    (∀ (i : Nat) (c : VecCell), s.vecs[i]? = some c → c.frees = if c.live then 0 else 1)
    ∧ (∀ (i : Nat) (c : ArcCell), s.arcs[i]? = some c → c.frees = if c.live then 0 else 1) := by
  have hI := reachable_inv hr
  exact ⟨fun i c hc => (hI.vec i c hc).2, fun i c hc => (hI.arc i c hc).2.2⟩

/-- **exactly one owner**: in every reachable state a live buffer is pointed to by exactly one live value, a
    freed one by none; an `Arc` block's strong count is the caller's references plus the values pointing to it -/
theorem unique_owner {ops : List Op} {s : St} (hr : run init ops = .ok s) :
    (∀ (i : Nat) (c : VecCell), s.vecs[i]? = some c → vecRefs s i = if c.live then 1 else 0)
    ∧ (∀ (i : Nat) (c : ArcCell), s.arcs[i]? = some c → c.strong = c.ext + arcRefs s i) := by
  have hI := reachable_inv hr
  exact ⟨fun i c hc => (hI.vec i c hc).1, fun i c hc => (hI.arc i c hc).1⟩

/-! ## capacity 0 and empty owned values, as the code treats them -/

/-- an owned value of capacity 0 (`String::new()`, `Vec::new()`): `from_owned` allocates nothing, the value
    decodes as Borrowed, its pointer dangles and is never read through (length 0), clone / drop /
    into_owned touch no allocation — in any state whatsoever -/
theorem cap0_owned_is_borrowed (s : St) :
    fromOwned s [] 0 = .ok (s, ⟨.dangling, 0, 0⟩)
    ∧ (⟨.dangling, 0, 0⟩ : CowVal).kind = .borrowed
    ∧ readPtr s .dangling 0 = .ok []
    ∧ cloneFromParts s ⟨.dangling, 0, 0⟩ = .ok (s, ⟨.dangling, 0, 0⟩)
    ∧ dropFromParts s ⟨.dangling, 0, 0⟩ = .ok s
    ∧ ownedFromParts s ⟨.dangling, 0, 0⟩ 0 = .ok (s, ⟨.dangling, 0, 0⟩) := by
  have hk : (⟨.dangling, 0, 0⟩ : CowVal).kind = .borrowed := by decide
  have h0 : ¬ (0 = usizeMax) := by decide
  refine ⟨?_, hk, rfl, ?_, ?_, ?_⟩
  · simp [fromOwned, ownedIntoParts, allocVec, h0]
  · simp [cloneFromParts, hk]
  · simp [dropFromParts, hk]
  · simp [ownedFromParts, hk, readPtr, bind, Except.bind, ownedIntoParts, allocVec, freshCap]

/-- an empty owned value *with* capacity (`String::with_capacity(n)`) is Owned: it owns the buffer, its clone
    is a capacity-0 value that owns nothing, and dropping it frees the buffer with the capacity it was given -/
theorem empty_with_capacity (cap : Nat) (h0 : cap ≠ 0) (hm : cap < usizeMax) :
    let v : CowVal := ⟨.vec 0, 0, cap⟩
    let d : CowVal := ⟨.dangling, 0, 0⟩
    let s1 : St := { vecs := [⟨cap, [], true, 0⟩], vals := [some ⟨v, []⟩] }
    let s2 : St := { vecs := [⟨cap, [], true, 0⟩], vals := [some ⟨v, []⟩, some ⟨d, []⟩] }
    let s3 : St := { vecs := [⟨cap, [], false, 1⟩], vals := [none, some ⟨d, []⟩] }
    step init (.fromOwned [] cap) = .ok (s1, .handle 0 [])
      ∧ step s1 (.clone 0) = .ok (s2, .handle 1 [])
      ∧ step s2 (.drop 0) = .ok (s3, .unit) := by
  have hm' : cap ≠ usizeMax := by omega
  have hlt : ¬ usizeMax < cap := by omega
  have hk : kindOf cap = .owned := kindOf_owned h0 hm'
  refine ⟨?_, ?_, ?_⟩
  · simp [step, fromOwned, ownedIntoParts, allocVec, h0, hm', hlt, bindNew, pushVal, readPtr, init, bind, Except.bind]
  · simp [step, stepClone, getVal, cloneFromParts, CowVal.kind, hk, readPtr, ownedIntoParts, allocVec, bindNew, pushVal,
      bind, Except.bind]
  · simp [step, getVal, dropFromParts, CowVal.kind, hk, freeVec, h0, killVal, bind, Except.bind]

/-! ## unwinding: the element type's `Clone` panics inside `into_owned` / `clone` and the caller catches it

`run_inv`, `cow_safe`, `cow_no_leak`, `freed_at_most_once`, `unique_owner` above quantify over ALL `Op` sequences,
with `intoOwnedUnwind` and `cloneUnwind` anywhere: a caught panic leaves a state from which every
further sequence is still safe and leak-free.  The two theorems below say what exactly such a call leaves. -/

/-- **a failed `into_owned` gives back exactly what it held**: in every reachable state, for a live value `h`,
    * Owned: no user code runs — the call cannot unwind and is the ordinary `into_owned`;
    * Borrowed: the value is consumed, the heap is untouched (the partial copy is never a buffer);
    * Shared: the value is consumed and the block's strong count goes down by exactly ONE (not zero: that would
      leak the reference `self` held; not two: that is what running `self`'s destructor as well would do) —
      no buffer, no other block, no other value changes. -/
theorem intoOwnedUnwind_gives_back_once {ops : List Op} {s : St} (hr : run init ops = .ok s) {h : Nat} {e : Entry}
    (he : s.vals[h]? = some (some e)) (fc : Nat) :
    (e.val.kind = .owned ∧ step s (.intoOwnedUnwind h fc) = step s (.intoOwned h fc)) ∨
    (e.val.kind = .borrowed ∧ step s (.intoOwnedUnwind h fc) = .ok (killVal s h, .unwound)) ∨
    (e.val.kind = .shared ∧ ∃ i c, e.val.ptr = .arc i ∧ s.arcs[i]? = some c ∧ (c.dec 0).strong + 1 = c.strong ∧
      (c.dec 0).ext = c.ext ∧
      step s (.intoOwnedUnwind h fc) = .ok (killVal { s with arcs := s.arcs.set i (c.dec 0) } h, .unwound)) := by
  have hg := getVal_of_some he
  rcases ownedFromPartsUnwind_spec (reachable_inv hr) he with ⟨hk, hu⟩ | ⟨hk, hu, _⟩ | ⟨hk, i, c, hp, hc, _, hpos, hu, _⟩
  · exact .inl ⟨hk, by simp only [step, stepIntoOwnedUnwind, hg, hu]⟩
  · exact .inr (.inl ⟨hk, by simp only [step, stepIntoOwnedUnwind, hg, hu]⟩)
  · exact .inr (.inr ⟨hk, i, c, hp, hc, Nat.sub_add_cancel hpos, rfl, by simp only [step, stepIntoOwnedUnwind, hg, hu]⟩)

/-- **a failed `clone` changes nothing**: for an Owned source the state is untouched (the source keeps its buffer
    and content, no new value or buffer exists); Borrowed and Shared clones run no user code and are the ordinary
    `clone` -/
theorem cloneUnwind_changes_nothing {ops : List Op} {s : St} (hr : run init ops = .ok s) {h : Nat} {e : Entry}
    (he : s.vals[h]? = some (some e)) :
    (e.val.kind = .owned ∧ step s (.cloneUnwind h) = .ok (s, .unwound)) ∨
    (e.val.kind ≠ .owned ∧ step s (.cloneUnwind h) = step s (.clone h)) := by
  rcases cloneFromPartsUnwind_spec (reachable_inv hr) he with ⟨hk, hu⟩ | ⟨hk, hu⟩
  · exact .inl ⟨hk, by simp only [step, stepCloneUnwind, getVal_of_some he, hu]⟩
  · exact .inr ⟨hk, by simp only [step, stepCloneUnwind, getVal_of_some he, hu]⟩

/-- the variant `let owned = T::owned_from_parts(..); mem::forget(self); owned` of `into_owned` (the
    `ManuallyDrop` taken AFTER the call that may unwind): when the copy unwinds, `self` is still armed and
    `Cow::drop` runs on top of what `owned_from_parts` already gave back -/
def stepIntoOwnedUnwindLate (s : St) (h : Nat) : Except Err (St × Ans) :=
  match getVal s h with
  | .error er => .error er
  | .ok e =>
    match ownedFromPartsUnwind s e.val with
    | .error er => .error er
    | .ok (some s1) =>
      match dropFromParts s1 e.val with
      | .ok s2 => .ok (killVal s2 h, .unwound)
      | .error er => .error er
    | .ok none => stepIntoOwned s h 0

/-- **why the `ManuallyDrop` must come first** (negation by witness): with the forget-after variant, one caller
    `Arc` shared with one value, then a failed `into_owned`: the block is freed while the caller still holds its
    reference (`ext = 1`, not live) — the caller's next use of its `Arc` is a use after free; with two values
    sharing it, the count says 1 for two holders.  Both states violate `unique_owner`. -/
theorem forget_after_call_unsound :
    (∃ s s' c, run init [.newArc [1, 2], .fromShared 0] = .ok s ∧ stepIntoOwnedUnwindLate s 0 = .ok (s', .unwound)
        ∧ s'.arcs[0]? = some c ∧ c.ext = 1 ∧ c.live = false ∧ errIsArc (step s' (.dropArc 0)))
    ∧ (∃ s s' c, run init [.newArc [1, 2], .fromShared 0, .clone 0] = .ok s
        ∧ stepIntoOwnedUnwindLate s 0 = .ok (s', .unwound)
        ∧ s'.arcs[0]? = some c ∧ c.strong = 1 ∧ c.ext + arcRefs s' 0 = 2) := by
  refine ⟨?_, ?_⟩
  · refine ⟨_, _, _, rfl, rfl, rfl, ?_⟩
    decide
  · refine ⟨_, _, _, rfl, rfl, rfl, ?_⟩
    decide

/-- the variant of `From<Cow<T>> for std::borrow::Cow<T>` that hands out a Shared value as `Borrowed(&*ptr)`
    ("no copy for shared"): `value` is dropped at the end of `from`, the reference outlives it -/
def intoStdSharedAsBorrowed (s : St) (h : Nat) : Except Err (St × Nat × Content) := do
  let e ← getVal s h
  let s1 ← dropFromParts s e.val
  bindNew (killVal s1 h) { e.val with cap := 0 } e.built

/-- **a Shared value must be copied on the way into `std::borrow::Cow`** (negation by witness): when the value is
    the last owner of the block, the `Borrowed` reference of the variant reads freed memory at once -/
theorem into_std_shared_must_copy :
    ∃ s, run init [.newArc [7], .fromShared 0, .dropArc 0] = .ok s
      ∧ errIs (intoStdSharedAsBorrowed s 0) .readFreed = true
      ∧ isOk (step s (.intoStdCow 0 1)) = true := ⟨_, rfl, by decide, by decide⟩

/-! ## provided trait methods: `clone_from`, and comparisons / hashes whose element operation unwinds

`impl Clone for Cow` defines only `clone` (`src_trait_methods`), so `a.clone_from(&b)` — also reached through
`Vec<Cow>::clone_from` and `Option<Cow>::clone_from` — is the standard library's `*self = source.clone()`.
`Op.cloneFrom` / `Op.cloneFromUnwind` / `Op.readUnwind` are ordinary members of `Op`: `run_inv`, `cow_safe`,
`cow_no_leak`, `freed_at_most_once`, `unique_owner` above quantify over sequences that contain them anywhere. -/

/-- **`clone_from` is clone-then-drop**: in every reachable state, for live destination `hd` and source `hs`,
    `hd.clone_from(&hs)` is exactly `clone hs` followed by `drop hd` — the clone is complete before anything of the
    destination is released, the destination's old buffer / reference is released exactly as `Cow::drop` does
    (never reused, never freed by anything else), and the destination then reads what the SOURCE was built from. -/
theorem cloneFrom_is_clone_then_drop {ops : List Op} {s : St} (hr : run init ops = .ok s) {hd hs : Nat}
    {ed es : Entry} (hed : s.vals[hd]? = some (some ed)) (hes : s.vals[hs]? = some (some es)) :
    ∃ s1 s2, step s (.clone hs) = .ok (s1, .handle s.vals.length es.built)
      ∧ step s1 (.drop hd) = .ok (s2, .unit)
      ∧ step s (.cloneFrom hd hs) = .ok (s2, .handle s.vals.length es.built)
      ∧ step s2 (.deref s.vals.length) = .ok (s2, .content es.built) := by
  obtain ⟨s1, v, s2, _, hv, _, hcl, hdp, hv2, hI2, hst⟩ := stepCloneFrom_spec (reachable_inv hr) hed hes
  have hed' : (pushVal s1 v es.built).vals[hd]? = some (some ed) := by
    rw [pushVal_vals, hv]
    exact getElem?_append_of_some hed
  -- the clone sits in the slot after the old table, which the kill of `hd` does not touch
  have hnew : (killVal s2 hd).vals[s.vals.length]? = some (some ⟨v, es.built⟩) := by
    rw [killVal_vals, hv2, List.getElem?_set_ne (Nat.ne_of_lt (lt_of_getElem?_some hed))]
    exact List.getElem?_concat_length
  refine ⟨pushVal s1 v es.built, killVal s2 hd, hcl, ?_, hst, ?_⟩
  · simp only [step, getVal_of_some hed', hdp, bind, Except.bind]
  · have hrd : readPtr (killVal s2 hd) v.ptr v.len = .ok es.built := read_ok (hI2.ent _ _ hnew)
    simp only [step, getVal_of_some hnew, bind, Except.bind, hrd]

/-- **a failed `clone_from` changes nothing**: when the element type's `Clone` panics inside `hd.clone_from(&hs)`
    (Owned source — the only kind whose clone runs user code) the state is untouched: the destination still holds
    its old value, buffer and elements, the source is intact, no new value or buffer exists.  For Borrowed / Shared
    sources nothing can unwind and the call is the ordinary `clone_from`. -/
theorem cloneFromUnwind_changes_nothing {ops : List Op} {s : St} (hr : run init ops = .ok s) {hd hs : Nat}
    {ed es : Entry} (hed : s.vals[hd]? = some (some ed)) (hes : s.vals[hs]? = some (some es)) :
    (es.val.kind = .owned ∧ step s (.cloneFromUnwind hd hs) = .ok (s, .unwound)) ∨
    (es.val.kind ≠ .owned ∧ step s (.cloneFromUnwind hd hs) = step s (.cloneFrom hd hs)) := by
  rcases cloneFromPartsUnwind_spec (reachable_inv hr) hes with ⟨hk, hu⟩ | ⟨hk, hu⟩
  · exact Or.inl ⟨hk, by simp only [step, stepCloneFromUnwind, getVal_of_some hed, getVal_of_some hes, hu]⟩
  · exact Or.inr ⟨hk, by simp only [step, stepCloneFromUnwind, getVal_of_some hed, getVal_of_some hes, hu]⟩

/-- **a comparison or hash that unwinds changes nothing**: `eq`, `ne`, `lt`, `le`, `gt`, `ge`, `partial_cmp`, `cmp`,
    `hash`, `hash_slice` only read both values through `deref`; when the element operation panics the state is
    exactly what it was, in every reachable state and for any two live values -/
theorem readUnwind_changes_nothing {ops : List Op} {s : St} (hr : run init ops = .ok s) {h1 h2 : Nat}
    {e1 e2 : Entry} (he1 : s.vals[h1]? = some (some e1)) (he2 : s.vals[h2]? = some (some e2)) :
    step s (.readUnwind h1 h2) = .ok (s, .unwound) := by
  simp only [step, stepReadUnwind_spec (reachable_inv hr) he1 he2]

/-- the variant of `clone_from` that REUSES the destination's buffer (`source.deref().clone_into(&mut owned)` on a
    `Vec` rebuilt from `self`'s words and kept in `ManuallyDrop`, the words written back only afterwards), at the
    moment the element copy unwinds: `clone_into` has already truncated the buffer to the source's length — the
    surplus elements are destroyed — and `self` still carries its OLD words -/
def stepCloneFromInPlaceUnwind (s : St) (hd hs : Nat) : Except Err (St × Ans) :=
  match getVal s hd, getVal s hs with
  | .ok ed, .ok es =>
    match ed.val.kind, es.val.kind, ed.val.ptr with
    | .owned, .owned, .vec i =>
      match s.vecs[i]? with
      | some c => .ok ({ s with vecs := s.vecs.set i { c with content := c.content.take es.val.len } }, .unwound)
      | none => .error .wildRead
    | _, _, _ => stepCloneFromUnwind s hd hs
  | .error er, _ => .error er
  | _, .error er => .error er

/-- **why `clone_from` must not write into the destination's buffer before it owns the result** (negation by
    witness; a `clone_from` override that reuses the destination's allocation, `seeded/C14-7`): destination
    `[1,2,3]`, source `[7]`, the copy unwinds after the truncate — the destination's words still say three elements
    over a buffer that holds one, so its destructor rebuilds a `Vec` of a length the buffer does not have (the two
    surplus elements are destroyed a second time): a memory error on the next `drop`, while the provided `clone_from`
    leaves a state in which the same `drop` is fine -/
theorem clone_from_in_place_unsound :
    ∃ s s', run init [.fromOwned [1, 2, 3] 4, .fromOwned [7] 2] = .ok s
      ∧ stepCloneFromInPlaceUnwind s 0 1 = .ok (s', .unwound)
      ∧ errIs (step s' (.drop 0)) .badLayout = true
      ∧ step s (.cloneFromUnwind 0 1) = .ok (s, .unwound)
      ∧ isOk (step s (.drop 0)) = true := ⟨_, _, rfl, rfl, by decide, rfl, by decide⟩

/-! ## facts of the source that no run can observe (tools/extract.py → Generated/SourceFacts.lean) -/

/-- reading of the arms of `Metadata::kind` as a first-match decision on the capacity word -/
def kindByArms : List (String × String) → Nat → Option Kind
  | [], _ => none
  | (pat, val) :: rest, cap =>
    let hit : Option Bool :=
      if pat = "(_, usize::MAX)" then some (decide (cap = usizeMax))
      else if pat = "(_, 0)" then some (decide (cap = 0))
      else if pat = "_" then some true
      else none
    let k : Option Kind :=
      if val = "Kind::Shared" then some .shared
      else if val = "Kind::Borrowed" then some .borrowed
      else if val = "Kind::Owned" then some .owned
      else none
    match hit, k with
    | some true, some k => some k
    | some false, some _ => kindByArms rest cap
    | _, _ => none

/-- **kind decoding**: the arms of `Metadata::kind` in the source, read in source order as a first-match decision
    on the capacity word, are `kindOf` for EVERY capacity (so reordering, dropping or re-targeting an arm breaks
    this theorem) -/
theorem src_kind_decoding (cap : Nat) : kindByArms Generated.cow_kind_arms cap = some (kindOf cap) := by
  have h : Generated.cow_kind_arms
      = [("(_, usize::MAX)", "Kind::Shared"), ("(_, 0)", "Kind::Borrowed"), ("_", "Kind::Owned")] := rfl
  rw [h]
  unfold kindOf
  have hz : ¬ ((0 : Nat) = usizeMax) := by decide
  by_cases h1 : cap = usizeMax
  · simp [kindByArms, h1]
  · by_cases h2 : cap = 0
    · subst h2
      simp [kindByArms, hz]
    · simp [kindByArms, h1, h2]

/-- **`into_owned` disarms `self` before anything that can unwind**: its statements are exactly
    `ManuallyDrop::new(self)` and then `owned_from_parts` on the wrapped value — `stepIntoOwnedUnwind`
    (not `stepIntoOwnedUnwindLate`, see `forget_after_call_unsound`); `Cow::drop` is one unconditional
    `drop_from_parts`, `from_owned` checks the capacity word after taking the value apart -/
theorem src_into_owned_manuallydrop_first :
    Generated.cow_into_owned_stmts
      = ["let cow = ManuallyDrop::new(self)", "T::owned_from_parts(cow.ptr, &cow.metadata)"]
    ∧ Generated.cow_drop_stmts = ["T::drop_from_parts(self.ptr, &self.metadata)"]
    ∧ Generated.cow_from_owned_stmts
      = ["let (ptr, metadata) = T::owned_into_parts(owned)",
         "if metadata.capacity() == usize::MAX { panic!(\"Invalid capacity of `usize::MAX` for owned value.\"); } Self::from_parts(ptr, metadata)"] :=
  ⟨rfl, rfl, rfl⟩

/-- **per-kind dispatch of `impl Cowable for str`** — `ownedFromParts` / `cloneFromParts` / `dropFromParts`:
    Borrowed copies / copies the words / does nothing; Owned rebuilds from `(ptr, len, capacity)` / deep-copies
    and takes the parts OF THE COPY (`owned_into_parts(s.to_string())`: pointer and metadata both from the new
    value) / frees with `(len, capacity)`; Shared re-materialises the `Arc` BEFORE copying / increments / decrements -/
theorem src_dispatch_str :
    Generated.cow_str_owned_from_parts_arms
      = [("Kind::Borrowed", "{ let s = UNSAFE { &*Self::borrowed_from_parts(ptr, metadata) }; s.to_owned() }"),
         ("Kind::Owned", "UNSAFE { String::from_raw_parts(ptr.as_ptr(), metadata.len(), metadata.capacity()) }"),
         ("Kind::Shared", "{ let s = UNSAFE { Arc::from_raw(Self::borrowed_from_parts(ptr, metadata)) }; s.to_string() }")]
    ∧ Generated.cow_str_clone_from_parts_arms
      = [("Kind::Borrowed", "(ptr, *metadata)"),
         ("Kind::Owned", "{ let s = UNSAFE { &*Self::borrowed_from_parts(ptr, metadata) }; Self::owned_into_parts(s.to_string()) }"),
         ("Kind::Shared", "clone_shared::<Self>(ptr, metadata)")]
    ∧ Generated.cow_str_drop_from_parts_arms
      = [("Kind::Borrowed", "{}"),
         ("Kind::Owned", "UNSAFE { drop(Vec::from_raw_parts(ptr.as_ptr(), metadata.len(), metadata.capacity())) }"),
         ("Kind::Shared", "UNSAFE { drop(Arc::from_raw(Self::borrowed_from_parts(ptr, metadata))) }")] :=
  ⟨rfl, rfl, rfl⟩

/-- **per-kind dispatch of `impl<T: Clone> Cowable for [T]`** — the same three functions of the model -/
theorem src_dispatch_slice :
    Generated.cow_slice_owned_from_parts_arms
      = [("Kind::Borrowed", "{ let data = UNSAFE { &*Self::borrowed_from_parts(ptr, metadata) }; data.to_vec() }"),
         ("Kind::Owned", "UNSAFE { Vec::from_raw_parts(ptr.as_ptr(), metadata.len(), metadata.capacity()) }"),
         ("Kind::Shared", "{ let arc = UNSAFE { Arc::from_raw(Self::borrowed_from_parts(ptr, metadata)) }; arc.to_vec() }")]
    ∧ Generated.cow_slice_clone_from_parts_arms
      = [("Kind::Borrowed", "(ptr, *metadata)"),
         ("Kind::Owned", "{ let vec_ptr = Self::borrowed_from_parts(ptr, metadata); let new_vec = UNSAFE { vec_ptr.as_ref().unwrap().to_vec() }; Self::owned_into_parts(new_vec) }"),
         ("Kind::Shared", "clone_shared::<Self>(ptr, metadata)")]
    ∧ Generated.cow_slice_drop_from_parts_arms
      = [("Kind::Borrowed", "{}"),
         ("Kind::Owned", "UNSAFE { drop(Vec::from_raw_parts(ptr.as_ptr(), metadata.len(), metadata.capacity())) }"),
         ("Kind::Shared", "UNSAFE { drop(Arc::from_raw(Self::borrowed_from_parts(ptr, metadata))) }")]
    ∧ Generated.cow_clone_shared_stmts
      = ["let arc_ptr = T::borrowed_from_parts(ptr, metadata)",
         "UNSAFE { Arc::increment_strong_count(arc_ptr); } (ptr, *metadata)"] :=
  ⟨rfl, rfl, rfl, rfl⟩

/-- **taking values apart** — `borrowedIntoParts` / `ownedIntoParts` / the `fromShared` arm of `step`: the length
    word is the ELEMENT count (`len()`, never a byte size) for both implementors, the capacity word is the
    value's own capacity / `usize::MAX` / 0, owned values are wrapped in `ManuallyDrop`, `Arc::into_raw` keeps
    the reference -/
theorem src_into_parts :
    Generated.cow_str_shared_into_parts_stmts
      = ["let metadata = Metadata::shared(arc.len())",
         "let ptr = UNSAFE { NonNull::new_unchecked(Arc::into_raw(arc) as *mut _) }", "(ptr, metadata)"]
    ∧ Generated.cow_slice_shared_into_parts_stmts = Generated.cow_str_shared_into_parts_stmts
    ∧ Generated.cow_str_owned_into_parts_stmts
      = ["let mut owned = ManuallyDrop::new(owned.into_bytes())",
         "let ptr = UNSAFE { NonNull::new_unchecked(owned.as_mut_ptr()) }",
         "let metadata = Metadata::owned(owned.len(), owned.capacity())", "(ptr, metadata)"]
    ∧ Generated.cow_slice_owned_into_parts_stmts
      = ["let mut owned = ManuallyDrop::new(owned)",
         "let ptr = UNSAFE { NonNull::new_unchecked(owned.as_mut_ptr()) }",
         "let metadata = Metadata::owned(owned.len(), owned.capacity())", "(ptr, metadata)"]
    ∧ Generated.cow_str_borrowed_into_parts_stmts
      = ["let ptr = UNSAFE { NonNull::new_unchecked(self.as_ptr() as *mut _) }",
         "let metadata = Metadata::borrowed(self.len())", "(ptr, metadata)"]
    ∧ Generated.cow_slice_borrowed_into_parts_stmts = Generated.cow_str_borrowed_into_parts_stmts
    ∧ Generated.cow_str_borrowed_from_parts_stmts = ["slice_from_raw_parts(ptr.as_ptr(), metadata.len()) as *const _"]
    ∧ Generated.cow_slice_borrowed_from_parts_stmts = Generated.cow_str_borrowed_from_parts_stmts :=
  ⟨rfl, rfl, rfl, rfl, rfl, rfl, rfl, rfl⟩

/-- **constructor lifetimes**: the three borrowing constructors take `&'a _` where `'a` is the lifetime
    parameter of the `Cow<'a, _>` they return (their bodies go through raw pointers, so the compiler would accept
    an unconstrained `&T` just as well — and every borrow the harness can make is `'static`); the owning
    constructors and `into_owned` live in the lifetime-agnostic block — the model's statics are immortal
    *because* of this -/
theorem src_ctor_lifetimes :
    Generated.cow_ctor_sigs
      = [("impl<'a, T> Cow<'a, T> where T: Cowable + ?Sized,", "pub fn from_borrowed(borrowed: &'a T) -> Self"),
         ("impl<'a, T> Cow<'a, [T]> where T: Clone,", "pub const fn const_slice(val: &'a [T]) -> Cow<'a, [T]>"),
         ("impl<'a> Cow<'a, str>", "pub const fn const_str(val: &'a str) -> Self"),
         ("impl<T> Cow<'_, T> where T: Cowable + ?Sized,", "pub fn from_owned(owned: T::Owned) -> Self"),
         ("impl<T> Cow<'_, T> where T: Cowable + ?Sized,", "pub fn from_shared(arc: Arc<T>) -> Self"),
         ("impl<T> Cow<'_, T> where T: Cowable + ?Sized,", "pub fn into_owned(self) -> <T as ToOwned>::Owned")] := rfl

/-- **`Send` / `Sync`**: the only `unsafe impl`s of the file, and the bounds each puts on `T` as the thread model
    reads them (`CowSend.Bound.ofTokens`): BOTH ask for `T: Sync + Send`, the bounds of `std::sync::Arc<T>` — the
    only sound ones (`sound_iff_arc_bounds`).  The code as found asked `Sync` for `Sync` and `Send` for `Send` only
    (`CowSend.sameTraitBounds`): `sameTraitBounds_unsound`.  The instantiations the harness can run (`str`, `Label`,
    `D`) are all `Send + Sync` and cannot tell; the decision table over element types that lack one or both traits is
    compared with the compiler's on every run (ops `cow autotrait`, type probes). -/
theorem src_send_sync_bounds :
    Generated.cow_auto_trait_impls
      = ["UNSAFE impl<T: Cowable + Sync + Send + ?Sized> Sync for Cow<'_, T>",
         "UNSAFE impl<T: Cowable + Sync + Send + ?Sized> Send for Cow<'_, T>"]
    ∧ (⟨CowSend.Bound.ofTokens Generated.cow_send_bound_tokens,
        CowSend.Bound.ofTokens Generated.cow_sync_bound_tokens⟩ : CowSend.Impls) = CowSend.arcBounds :=
  ⟨rfl, by decide⟩

/-- **conversion to `std::borrow::Cow`**: the impl still has the implicit `T: Sized` bound (no `?Sized`), which no
    implementor of `Cowable` meets — it cannot be called, which is why no correspondence stream drives it; and
    its arms are the model's `intoStdCow`: Owned and Shared go through `into_owned` (a copy for Shared — see
    `into_std_shared_must_copy`), only Borrowed hands the reference out.  If the bound is relaxed this theorem
    breaks and the conversion has to be driven by the harness. -/
theorem src_into_std_uncallable :
    Generated.cow_into_std_header = "impl<'a, T: Cowable> From<Cow<'a, T>> for std::borrow::Cow<'a, T>"
    ∧ Generated.cow_into_std_arms
      = [("Kind::Owned | Kind::Shared", "Self::Owned(value.into_owned())"),
         ("Kind::Borrowed", "{ Self::Borrowed(UNSAFE { &*T::borrowed_from_parts(value.ptr, &value.metadata) }) }")] :=
  ⟨rfl, rfl⟩

/-- **which methods the impls define** — every `impl` block of cow.rs with the methods it DEFINES, in source order.
    `Clone` defines only `clone`; `PartialEq` only `eq`; `PartialOrd` only `partial_cmp`; `Ord` only `cmp`; `Hash`
    only `hash`; `Eq` nothing: every other method of these traits (`clone_from`, `ne`, `lt` `le` `gt` `ge`, `max` `min`
    `clamp`, `hash_slice`) is the standard library's provided one, which is what `Op.cloneFrom` (= clone, then
    drop) and `Op.eq` / `Op.deref` / `Op.readUnwind` (reads) model.  An override, a new trait impl or a new inherent
    method breaks this theorem and has to be modelled and driven before the check passes again. -/
theorem src_trait_methods :
    Generated.cow_impl_methods
      = [("impl<T> Cow<'_, T> where T: Cowable + ?Sized,", "from_parts from_owned from_shared into_owned"),
         ("impl<'a, T> Cow<'a, T> where T: Cowable + ?Sized,", "from_borrowed"),
         ("impl<'a, T> Cow<'a, [T]> where T: Clone,", "const_slice"),
         ("impl<'a> Cow<'a, str>", "const_str"),
         ("impl<T> Deref for Cow<'_, T> where T: Cowable + ?Sized,", "deref"),
         ("impl<T> Clone for Cow<'_, T> where T: Cowable + ?Sized,", "clone"),
         ("impl<T> Drop for Cow<'_, T> where T: Cowable + ?Sized,", "drop"),
         ("impl<T> Hash for Cow<'_, T> where T: Hash + Cowable + ?Sized,", "hash"),
         ("impl<'a, T> Default for Cow<'a, T> where T: Cowable + ?Sized, &'a T: Default,", "default"),
         ("impl<T> Eq for Cow<'_, T> where T: Eq + Cowable + ?Sized", "-"),
         ("impl<A, B> PartialOrd<Cow<'_, B>> for Cow<'_, A> where A: Cowable + ?Sized + PartialOrd<B>, B: Cowable + ?Sized,", "partial_cmp"),
         ("impl<T> Ord for Cow<'_, T> where T: Ord + Cowable + ?Sized,", "cmp"),
         ("impl<'a, T> From<&'a T> for Cow<'a, T> where T: Cowable + ?Sized,", "from"),
         ("impl<'a, T> From<Arc<T>> for Cow<'a, T> where T: Cowable + ?Sized,", "from"),
         ("impl<'a> From<std::borrow::Cow<'a, str>> for Cow<'a, str>", "from"),
         ("impl<'a, T: Cowable> From<Cow<'a, T>> for std::borrow::Cow<'a, T>", "from"),
         ("impl From<String> for Cow<'_, str>", "from"),
         ("impl<T> From<Vec<T>> for Cow<'_, [T]> where T: Clone,", "from"),
         ("impl<T> AsRef<T> for Cow<'_, T> where T: Cowable + ?Sized,", "as_ref"),
         ("impl<T> Borrow<T> for Cow<'_, T> where T: Cowable + ?Sized,", "borrow"),
         ("impl<A, B> PartialEq<Cow<'_, B>> for Cow<'_, A> where A: Cowable + ?Sized, B: Cowable + ?Sized, A: PartialEq<B>,", "eq"),
         ("impl<T> fmt::Debug for Cow<'_, T> where T: Cowable + fmt::Debug + ?Sized,", "fmt"),
         ("impl<T> fmt::Display for Cow<'_, T> where T: Cowable + fmt::Display + ?Sized,", "fmt"),
         ("UNSAFE impl<T: Cowable + Sync + Send + ?Sized> Sync for Cow<'_, T>", "-"),
         ("UNSAFE impl<T: Cowable + Sync + Send + ?Sized> Send for Cow<'_, T>", "-"),
         ("impl Metadata", "len capacity kind shared borrowed owned"),
         ("impl Cowable for str", "borrowed_into_parts owned_into_parts shared_into_parts borrowed_from_parts owned_from_parts clone_from_parts drop_from_parts"),
         ("impl<T> Cowable for [T] where T: Clone,", "borrowed_into_parts owned_into_parts shared_into_parts borrowed_from_parts owned_from_parts clone_from_parts drop_from_parts")] := rfl

/-- **what the trait methods forward to**: every comparison, hash and formatting method reads both sides through
    `deref` and hands them to the element type's own implementation (they own nothing, so an unwinding element
    operation leaves nothing behind — `readUnwind_changes_nothing`); `clone` builds the new value from
    `clone_from_parts` alone -/
theorem src_forwarding :
    Generated.cow_forwarding_bodies
      = [("Deref::deref", "let borrowed_ptr = T::borrowed_from_parts(self.ptr, &self.metadata); UNSAFE { borrowed_ptr.as_ref().unwrap() }"),
         ("Clone::clone", "#[cfg(metrics_verif)] crate::key::verif_key_hook::point(\"cow-clone\"); let (ptr, metadata) = T::clone_from_parts(self.ptr, &self.metadata); Self { ptr, metadata, _lifetime: PhantomData }"),
         ("Hash::hash", "self.deref().hash(state)"),
         ("Default::default", "Cow::from_borrowed(Default::default())"),
         ("PartialOrd::partial_cmp", "PartialOrd::partial_cmp(self.deref(), other.deref())"),
         ("Ord::cmp", "Ord::cmp(self.deref(), other.deref())"),
         ("AsRef::as_ref", "self.borrow()"),
         ("Borrow::borrow", "self.deref()"),
         ("PartialEq::eq", "self.deref() == other.deref()"),
         ("fmt::Debug::fmt", "self.deref().fmt(f)"),
         ("fmt::Display::fmt", "self.deref().fmt(f)")] := rfl

/-! ## threads: which element types may cross (`Model/CowSend.lean`)

The clause "values can be sent to and dropped on other threads".  `Cow` holds a `NonNull`, so what may cross a
thread boundary is decided by the two `unsafe impl`s alone; the model takes their bounds as a parameter, lets any
number of threads construct, clone, move (`Send`), lend (`Sync`), give back and drop values of all three kinds, and
asks whether a state is reachable in which the promise of an auto trait of the ELEMENT type is broken: two threads
holding `&T` to the same `T: !Sync` objects at once (`racy`), or `T: !Send` objects owned / destroyed by a thread
that did not create them (`misplaced`). -/

section Threads
open MetricsVerif.CowSend

/-- **the repaired bounds are sound**: with `T: Sync + Send` asked by both impls (the bounds of `Arc<T>`), for EVERY
    element type (whatever auto traits it has or lacks), every number of threads and every sequence of
    constructions, clones, moves, loans and drops, no two threads ever reach the same `!Sync` objects and no `!Send`
    object is ever owned or destroyed away from its thread -/
theorem arc_bounds_safe (e : Elem) (ops : List CowSend.Op) :
    violates e (CowSend.run arcBounds e CowSend.init ops) = false := by
  cases he : (e.send && e.sync) with
  | false => exact atHome_not_violates (run_atHome he ops _ atHome_init) e
  | true =>
    obtain ⟨h1, h2⟩ := Bool.and_eq_true_iff.1 he
    simp [violates, racy, misplaced, h1, h2]

/-- **`Send` must ask for `T: Sync`** (the defect found in the code; RUSTSEC-2020-0122 class): whatever else the impls
    ask, if `Send for Cow` does not ask for `Sync`, then for `T = Cell<_>` (`Send`, not `Sync`) a Shared value is
    cloned and the clone MOVED to thread 1 — threads 0 and 1 now both hold `&T` to the same cells.
    Replayed on the real code: `reports/C14-witness/` (lost updates, heap corruption with `RefCell<String>`). -/
theorem send_needs_sync (im : Impls) (h : im.send.needSync = false) :
    racy ⟨true, false⟩ (CowSend.run im ⟨true, false⟩ CowSend.init [.fromShared 0 false, .clone 0 0, .send 1 1]) = true := by
  obtain ⟨⟨a, b⟩, ⟨c, d⟩⟩ := im
  simp only at h; subst h
  cases a <;> cases c <;> cases d <;> decide

/-- the same through the Borrowed kind: the caller keeps the `Vec` it borrowed from, the value goes to thread 1 -/
theorem send_needs_sync_borrowed (im : Impls) (h : im.send.needSync = false) :
    racy ⟨true, false⟩ (CowSend.run im ⟨true, false⟩ CowSend.init [.fromBorrowed 0, .send 0 1]) = true := by
  obtain ⟨⟨a, b⟩, ⟨c, d⟩⟩ := im
  simp only at h; subst h
  cases a <;> cases c <;> cases d <;> decide

/-- `Send` must ask for `T: Send`: an Owned value of `!Send` elements moved to another thread -/
theorem send_needs_send (im : Impls) (h : im.send.needSend = false) :
    misplaced ⟨false, true⟩ (CowSend.run im ⟨false, true⟩ CowSend.init [.fromOwned 0, .send 0 1]) = true := by
  obtain ⟨⟨a, b⟩, ⟨c, d⟩⟩ := im
  simp only at h; subst h
  cases b <;> cases c <;> cases d <;> decide

/-- `Sync` must ask for `T: Sync`: a `&Cow` handed to thread 1 is a `&T` there, while thread 0 keeps its own -/
theorem sync_needs_sync (im : Impls) (h : im.sync.needSync = false) :
    racy ⟨true, false⟩ (CowSend.run im ⟨true, false⟩ CowSend.init [.fromOwned 0, .lend 0 1]) = true := by
  obtain ⟨⟨a, b⟩, ⟨c, d⟩⟩ := im
  simp only at h; subst h
  cases a <;> cases b <;> cases c <;> decide

/-- `Sync` must ask for `T: Send` (as `Arc<T>: Sync` does): through a lent `&Cow` thread 1 clones a Shared value —
    an `Arc::increment_strong_count` — and keeps the clone; thread 0 drops the original first; the LAST reference is
    dropped on thread 1, which destroys `!Send` objects made on thread 0 -/
theorem sync_needs_send (im : Impls) (h : im.sync.needSend = false) :
    (CowSend.run im ⟨false, true⟩ CowSend.init
        [.fromShared 0 false, .lend 0 1, .clone 1 0, .unlend 0 1, .drop 0 0, .drop 1 1]).destroyed = [(⟨0, 0⟩, 1)]
    ∧ misplaced ⟨false, true⟩ (CowSend.run im ⟨false, true⟩ CowSend.init
        [.fromShared 0 false, .lend 0 1, .clone 1 0, .unlend 0 1, .drop 0 0, .drop 1 1]) = true := by
  obtain ⟨⟨a, b⟩, ⟨c, d⟩⟩ := im
  simp only at h; subst h
  cases a <;> cases b <;> cases d <;> decide

/-- **exactly the `Arc` bounds**: a pair of impls is sound for every element type, thread count and operation
    sequence if and only if both ask for `T: Sync + Send` -/
theorem sound_iff_arc_bounds (im : Impls) :
    (∀ (e : Elem) (ops : List CowSend.Op), violates e (CowSend.run im e CowSend.init ops) = false) ↔ im = arcBounds := by
  constructor
  · intro hall
    obtain ⟨⟨a, b⟩, ⟨c, d⟩⟩ := im
    -- a model without violations refutes each of the four witnesses, so each bound is asked for
    have hv := fun e ops => Bool.or_eq_false_iff.1 (hall e ops)
    have hb : b = true := Bool.of_not_eq_false fun h =>
      absurd (send_needs_sync ⟨⟨a, b⟩, ⟨c, d⟩⟩ h) (ne_true_of_eq_false (hv _ _).1)
    have ha : a = true := Bool.of_not_eq_false fun h =>
      absurd (send_needs_send ⟨⟨a, b⟩, ⟨c, d⟩⟩ h) (ne_true_of_eq_false (hv _ _).2)
    have hd : d = true := Bool.of_not_eq_false fun h =>
      absurd (sync_needs_sync ⟨⟨a, b⟩, ⟨c, d⟩⟩ h) (ne_true_of_eq_false (hv _ _).1)
    have hc : c = true := Bool.of_not_eq_false fun h =>
      absurd (sync_needs_send ⟨⟨a, b⟩, ⟨c, d⟩⟩ h).2 (ne_true_of_eq_false (hv _ _).2)
    subst ha hb hc hd
    rfl
  · intro h e ops
    subst h
    exact arc_bounds_safe e ops

/-- **the bounds the code had** (`Sync` for `Sync`, `Send` for `Send`) are unsound, in both directions:
    a Shared `Cow<[Cell<_>]>` is cloned and one copy sent away (two threads, one set of cells), and a Shared value
    of `Sync + !Send` elements is cloned through a `&Cow` on another thread which then drops last -/
theorem sameTraitBounds_unsound :
    (∃ e ops, violates e (CowSend.run sameTraitBounds e CowSend.init ops) = true)
    ∧ racy ⟨true, false⟩ (CowSend.run sameTraitBounds ⟨true, false⟩ CowSend.init
        [.fromShared 0 false, .clone 0 0, .send 1 1]) = true
    ∧ racy ⟨true, false⟩ (CowSend.run sameTraitBounds ⟨true, false⟩ CowSend.init [.fromBorrowed 0, .send 0 1]) = true
    ∧ misplaced ⟨false, true⟩ (CowSend.run sameTraitBounds ⟨false, true⟩ CowSend.init
        [.fromShared 0 false, .lend 0 1, .clone 1 0, .unlend 0 1, .drop 0 0, .drop 1 1]) = true :=
  ⟨⟨⟨true, false⟩, [.fromShared 0 false, .clone 0 0, .send 1 1], by decide⟩, by decide, by decide, by decide⟩

/-- **the impls of the source tree are sound**: the bounds the translator reads from cow.rs, fed to the thread
    model, admit no violation — for every element type, thread count and operation sequence -/
theorem cow_send_sync_sound (e : Elem) (ops : List CowSend.Op) :
    violates e (CowSend.run ⟨Bound.ofTokens Generated.cow_send_bound_tokens,
                            Bound.ofTokens Generated.cow_sync_bound_tokens⟩ e CowSend.init ops) = false := by
  rw [src_send_sync_bounds.2]
  exact arc_bounds_safe e ops

/-- non-vacuity: with sound bounds and `Send + Sync` elements values really do travel — moved, lent, cloned and
    dropped on other threads (the last drop of a Shared value happens away from home) — and nothing is violated -/
example : (let s := CowSend.run arcBounds ⟨true, true⟩ CowSend.init
                     [.fromShared 0 false, .clone 0 0, .send 1 1, .lend 0 2, .clone 2 0, .unlend 0 2, .drop 0 0, .drop 1 1, .drop 2 2]
           s.destroyed == [(⟨0, 0⟩, 2)] && !violates ⟨true, true⟩ s && s.vals.all (·.isNone)) = true := by decide

/-- non-vacuity: for `Cell` elements the sound bounds refuse the move — the value stays where it was -/
example : (CowSend.run arcBounds ⟨true, false⟩ CowSend.init [.fromShared 0 false, .clone 0 0, .send 1 1]).vals
    = [some ⟨⟨0, 0⟩, .shared, 0, []⟩, some ⟨⟨0, 0⟩, .shared, 0, []⟩] := by decide

end Threads

/-! ## non-vacuity: concrete sequences (evaluated by the kernel) -/

/-- the sequences below are well-formed, so the hypotheses of the theorems above are satisfiable -/
def demo : List Op :=
  [ .newArc [104, 105],          -- a0 = Arc "hi"
    .fromShared 0,               -- h0 shared
    .clone 0,                    -- h1 shared (strong 3)
    .fromOwned [97, 98, 99] 8,   -- h2 owned "abc" cap 8
    .clone 2,                    -- h3 owned exact
    .fromOwned [] 16,            -- h4 empty with capacity
    .fromOwned [] 0,             -- h5 capacity 0 → borrowed
    .fromBorrowed [120],         -- h6 static "x"
    .clone 6,                    -- h7
    .intoOwned 1 8,              -- h8 String "hi" (cap 8), gives a strong ref back
    .intoOwned 2 0,              -- h9 the same buffer as h2
    .intoStdCow 6 1,             -- h10 std Borrowed
    .intoStdCow 3 3,             -- h11 std Owned
    .eq 8 0,
    .dropArc 0,                  -- caller lets go: h0 is now the last owner
    .drop 0, .drop 4, .drop 5, .drop 7, .drop 8, .drop 9, .drop 10, .drop 11 ]

example : wfRun init demo = true := by decide +kernel

example : (match run init demo with
    | .ok s => s.vals.all (·.isNone) && liveAllocs s == 0 && s.vecs.all (fun c => !c.live && c.frees == 1)
                && s.arcs.all (fun c => !c.live && c.frees == 1 && c.strong == 0) && s.vecs.length == 4
    | .error _ => false) = true := by decide +kernel

/-- the error states are reachable by *ill-behaved* callers of the primitives — the model can tell: freeing
    the same buffer twice is caught, so `cow_safe` is not true by construction -/
example : errIs (do
    let (s1, v) ← fromOwned init [1, 2] 4
    let s2 ← dropFromParts s1 v
    dropFromParts s2 v) .doubleFree = true := by decide

/-- reading through a value after its buffer was freed is caught -/
example : errIs (do
    let (s1, v) ← fromOwned init [1, 2] 4
    let s2 ← dropFromParts s1 v
    readPtr s2 v.ptr v.len) .readFreed = true := by decide

/-- a value whose capacity word lies about its pointer (Shared word on a `Vec` buffer) is caught -/
example : errIs (do
    let (s1, v) ← fromOwned init [1, 2] 4
    dropFromParts s1 { v with cap := usizeMax }) .arcUseAfterFree = true := by decide

/-- a `from_raw_parts` with a capacity that is not the buffer's is caught -/
example : errIs (do
    let (s1, v) ← fromOwned init [1, 2] 4
    dropFromParts s1 { v with cap := 2 }) .badLayout = true := by decide

/-- unwinding ops inside a longer sequence: the failed `into_owned` of a shared value gives one reference back,
    the failed `clone` of an owned value leaves it usable; everything is released exactly once at the end -/
def demoUnwind : List Op :=
  [ .newArc [1, 2, 3], .fromShared 0, .clone 0,      -- a0, h0, h1 (strong 3)
    .intoOwnedUnwind 0 3,                            -- unwinds: strong 2, h0 consumed
    .fromOwned [4, 5] 6, .cloneUnwind 2,             -- h2 owned; its clone unwinds: nothing changes
    .cloneUnwind 1,                                  -- shared: no user code, ordinary clone → h3 (strong 3)
    .intoOwnedUnwind 2 0,                            -- owned: cannot unwind, ordinary into_owned → h4
    .fromBorrowed [9], .intoOwnedUnwind 5 1,         -- h5 borrowed: consumed
    .drop 1, .drop 3, .drop 4, .dropArc 0 ]

example : wfRun init demoUnwind = true := by decide +kernel

example : (match run init demoUnwind with
    | .ok s => s.vals.all (·.isNone) && liveAllocs s == 0 && s.vecs.all (fun c => !c.live && c.frees == 1)
                && s.arcs.all (fun c => !c.live && c.frees == 1 && c.strong == 0) && s.vecs.length == 1
    | .error _ => false) = true := by decide +kernel

/-- `clone_from` and unwinding comparisons inside a longer sequence: every kind as destination and as source,
    a failed `clone_from` in between; everything is released exactly once at the end -/
def demoCloneFrom : List Op :=
  [ .newArc [1, 2], .fromShared 0,                   -- a0, h0 shared (strong 2)
    .fromOwned [3, 4, 5] 8, .fromOwned [6] 1,        -- h1, h2 owned
    .fromBorrowed [9, 9],                            -- h3 borrowed
    .cloneFromUnwind 1 2,                            -- unwinds: h1 keeps [3,4,5]
    .readUnwind 1 2,
    .cloneFrom 1 2,                                  -- h1 dies, h4 = copy of [6] (exact capacity); old buffer freed
    .cloneFrom 2 0,                                  -- owned ← shared: h2's buffer freed, h5 shared (strong 3)
    .cloneFrom 0 3,                                  -- shared ← borrowed: one reference given back, h6 borrowed
    .cloneFromUnwind 3 5,                            -- shared source: no user code, ordinary clone_from → h7
    .deref 4, .eq 5 7,
    .drop 4, .drop 5, .drop 6, .drop 7, .dropArc 0 ]

example : wfRun init demoCloneFrom = true := by decide +kernel

example : (match run init demoCloneFrom with
    | .ok s => s.vals.all (·.isNone) && liveAllocs s == 0 && s.vecs.all (fun c => !c.live && c.frees == 1)
                && s.arcs.all (fun c => !c.live && c.frees == 1 && c.strong == 0) && s.vecs.length == 3
    | .error _ => false) = true := by decide +kernel

/-- a caller error is reported as such, not as a memory error -/
example : (match run init [.fromOwned [1] 4, .drop 0, .deref 0] with
    | .error e => e.isMisuse | .ok _ => false) = true := by decide

end MetricsVerif.C14
