import MetricsVerif.Generated.CfgFacts

/-!
The conditional-compilation inventory of the files C17 is anchored in (`inventory_C17`, regenerated from the source by
`tools/extract_cfg.py` on every run).  A conditionally compiled second definition of a modelled function, which the one build
configuration that is translated and run does not show, changes the list and breaks `cfg_C17`.
-/

namespace MetricsVerif.SrcCfg
open MetricsVerif.Generated.Cfg

/-- SOURCE FACT: conditional compilation and duplicate definitions in the files C17 is anchored in are exactly these -/
theorem cfg_C17 : inventory_C17 = [
  ("metrics-tracing-context/src/lib.rs", ["cfg_attr(docsrs,feature(doc_cfg),deny(rustdoc::broken_intra_doc_links))"], []),
  ("metrics-tracing-context/src/tracing_integration.rs", [], []),
  ("metrics-tracing-context/src/label_filter.rs", [], ["should_include_label x3"])] :=
  rfl

end MetricsVerif.SrcCfg
