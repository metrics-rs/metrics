import MetricsVerif.Generated.CfgFacts

/-!
The conditional-compilation inventory of the files C09 is anchored in (`inventory_C09`, regenerated from the source by
`tools/extract_cfg.py` on every run).  A conditionally compiled second definition of a modelled function, which the one build
configuration that is translated and run does not show, changes the list and breaks `cfg_C09`.
-/

namespace MetricsVerif.SrcCfg
open MetricsVerif.Generated.Cfg

/-- SOURCE FACT: conditional compilation and duplicate definitions in the files C09 is anchored in are exactly these -/
theorem cfg_C09 : inventory_C09 = [
  ("metrics-exporter-dogstatsd/src/writer.rs", ["cfg(test)"], ["new x2"]),
  ("metrics-exporter-dogstatsd/src/state.rs", [], []),
  ("metrics-exporter-dogstatsd/src/builder.rs", ["cfg(test)", "cfg(unix)"], []),
  ("metrics-exporter-dogstatsd/src/forwarder/mod.rs", ["cfg(test)", "cfg(unix) x12"], [])] :=
  rfl

end MetricsVerif.SrcCfg
