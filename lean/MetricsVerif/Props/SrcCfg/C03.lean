import MetricsVerif.Generated.CfgFacts

/-!
The conditional-compilation inventory of the files C03 is anchored in (`inventory_C03`, regenerated from the source by
`tools/extract_cfg.py` on every run).  A conditionally compiled second definition of a modelled function, which the one build
configuration that is translated and run does not show, changes the list and breaks `cfg_C03`.
-/

namespace MetricsVerif.SrcCfg
open MetricsVerif.Generated.Cfg

/-- SOURCE FACT: conditional compilation and duplicate definitions in the files C03 is anchored in are exactly these -/
theorem cfg_C03 : inventory_C03 = [
  ("metrics/src/key.rs", ["cfg(test)"], ["from x3"]),
  ("metrics/src/label.rs", ["cfg(test)"], ["from x2", "into_labels x4"]),
  ("metrics/src/cow.rs", [], ["borrowed_from_parts x3", "borrowed_into_parts x3", "clone_from_parts x3", "drop_from_parts x3", "fmt x2", "from x6", "owned_from_parts x3", "owned_into_parts x3", "shared_into_parts x3"]),
  ("metrics/src/common.rs", ["cfg(test)"], ["into_f64 x4"]),
  ("metrics-util/src/common.rs", [], ["hashable x3"]),
  ("metrics-util/src/key.rs", ["cfg(test)"], [])] :=
  rfl

end MetricsVerif.SrcCfg
