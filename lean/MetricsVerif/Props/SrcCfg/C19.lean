import MetricsVerif.Generated.CfgFacts

/-!
The conditional-compilation inventory of the files C19 is anchored in (`inventory_C19`, regenerated from the source by
`tools/extract_cfg.py` on every run).  A conditionally compiled second definition of a modelled function, which the one build
configuration that is translated and run does not show, changes the list and breaks `cfg_C19`.
-/

namespace MetricsVerif.SrcCfg
open MetricsVerif.Generated.Cfg

/-- SOURCE FACT: conditional compilation and duplicate definitions in the files C19 is anchored in are exactly these -/
theorem cfg_C19 : inventory_C19 = [
  ("metrics-util/src/debugging.rs", [], ["new x3"]),
  ("metrics-util/src/key.rs", ["cfg(test)"], []),
  ("metrics-util/src/registry/mod.rs", ["cfg(feature=\"recency\") x3", "cfg(test)", "cfg_attr(docsrs,doc(cfg(feature=\"recency\")))"], [])] :=
  rfl

end MetricsVerif.SrcCfg
