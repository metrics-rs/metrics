import MetricsVerif.Generated.CfgFacts

/-!
The conditional-compilation inventory of the files C04 is anchored in (`inventory_C04`, regenerated from the source by
`tools/extract_cfg.py` on every run).  A conditionally compiled second definition of a modelled function, which the one build
configuration that is translated and run does not show, changes the list and breaks `cfg_C04`.
-/

namespace MetricsVerif.SrcCfg
open MetricsVerif.Generated.Cfg

/-- SOURCE FACT: conditional compilation and duplicate definitions in the files C04 is anchored in are exactly these -/
theorem cfg_C04 : inventory_C04 = [
  ("metrics/src/atomics.rs", ["cfg(not(target_pointer_width=\"32\"))", "cfg(target_pointer_width=\"32\")"], ["increment x2"]),
  ("metrics/src/handles.rs", [], ["absolute x3", "decrement x3", "fmt x3", "from x3", "from_arc x3", "increment x6", "noop x3", "record x3", "record_many x2", "set x3"]),
  ("metrics/src/common.rs", ["cfg(test)"], ["into_f64 x4"])] :=
  rfl

end MetricsVerif.SrcCfg
