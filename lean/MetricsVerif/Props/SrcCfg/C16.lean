import MetricsVerif.Generated.CfgFacts

/-!
The conditional-compilation inventory of the files C16 is anchored in (`inventory_C16`, regenerated from the source by
`tools/extract_cfg.py` on every run).  A conditionally compiled second definition of a modelled function, which the one build
configuration that is translated and run does not show, changes the list and breaks `cfg_C16`.
-/

namespace MetricsVerif.SrcCfg
open MetricsVerif.Generated.Cfg

/-- SOURCE FACT: conditional compilation and duplicate definitions in the files C16 is anchored in are exactly these -/
theorem cfg_C16 : inventory_C16 = [
  ("metrics-util/src/storage/reservoir.rs", [], ["push x2"]),
  ("metrics-exporter-dogstatsd/src/storage.rs", ["cfg(test)"], ["flush x3", "increment x2", "new x4", "record x2"]),
  ("metrics-exporter-dogstatsd/src/builder.rs", ["cfg(test)", "cfg(unix)"], [])] :=
  rfl

end MetricsVerif.SrcCfg
