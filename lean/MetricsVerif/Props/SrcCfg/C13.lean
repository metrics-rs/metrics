import MetricsVerif.Generated.CfgFacts

/-!
The conditional-compilation inventory of the files C13 is anchored in (`inventory_C13`, regenerated from the source by
`tools/extract_cfg.py` on every run).  A conditionally compiled second definition of a modelled function, which the one build
configuration that is translated and run does not show, changes the list and breaks `cfg_C13`.
-/

namespace MetricsVerif.SrcCfg
open MetricsVerif.Generated.Cfg

/-- SOURCE FACT: conditional compilation and duplicate definitions in the files C13 is anchored in are exactly these -/
theorem cfg_C13 : inventory_C13 = [
  ("metrics-util/src/layers/mod.rs", ["cfg(feature=\"layer-filter\") x2", "cfg(feature=\"layer-router\") x2"], []),
  ("metrics-util/src/layers/prefix.rs", ["cfg(test)"], []),
  ("metrics-util/src/layers/filter.rs", ["cfg(test)"], []),
  ("metrics-util/src/layers/router.rs", ["cfg(test)"], ["fmt x2"]),
  ("metrics-util/src/layers/fanout.rs", ["cfg(test)"], ["fmt x2", "from x3", "increment x2"]),
  ("metrics-util/src/kind.rs", ["cfg(test)"], [])] :=
  rfl

end MetricsVerif.SrcCfg
