import MetricsVerif.Generated.CfgFacts

/-!
The conditional-compilation inventory of the files C18 is anchored in (`inventory_C18`, regenerated from the source by
`tools/extract_cfg.py` on every run).  A conditionally compiled second definition of a modelled function, which the one build
configuration that is translated and run does not show, changes the list and breaks `cfg_C18`.
-/

namespace MetricsVerif.SrcCfg
open MetricsVerif.Generated.Cfg

/-- SOURCE FACT: conditional compilation and duplicate definitions in the files C18 is anchored in are exactly these -/
theorem cfg_C18 : inventory_C18 = [
  ("metrics-exporter-prometheus/src/exporter/http_listener.rs", ["cfg(feature=\"uds-listener\") x7"], []),
  ("metrics-exporter-prometheus/src/exporter/builder.rs", ["cfg(any(feature=\"http-listener\",feature=\"push-gateway\")) x6", "cfg(feature=\"http-listener\") x11", "cfg(feature=\"push-gateway\") x5", "cfg(feature=\"uds-listener\") x3", "cfg(not(feature=\"http-listener\"))", "cfg(test)", "cfg_attr(docsrs,doc(cfg(any(feature=\"http-listener\",feature=\"push-gateway\")))) x2", "cfg_attr(docsrs,doc(cfg(feature=\"http-listener\"))) x2", "cfg_attr(docsrs,doc(cfg(feature=\"push-gateway\")))", "cfg_attr(docsrs,doc(cfg(feature=\"uds-listener\")))", "cfg_attr(not(any(feature=\"http-listener\",feature=\"push-gateway\")),allow(dead_code))", "cfg_attr(not(feature=\"http-listener\"),allow(unused_mut))"], []),
  ("metrics-exporter-prometheus/src/exporter/mod.rs", ["cfg(any(feature=\"http-listener\",feature=\"push-gateway\")) x4", "cfg(feature=\"http-listener\") x7", "cfg(feature=\"push-gateway\") x5", "cfg(feature=\"uds-listener\")", "cfg_attr(not(any(feature=\"http-listener\",feature=\"push-gateway\")),allow(dead_code))"], [])] :=
  rfl

end MetricsVerif.SrcCfg
