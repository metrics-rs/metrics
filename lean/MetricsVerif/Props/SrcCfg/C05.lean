import MetricsVerif.Generated.CfgFacts

/-!
The conditional-compilation inventory of the files C05 is anchored in (`inventory_C05`, regenerated from the source by
`tools/extract_cfg.py` on every run).  A conditionally compiled second definition of a modelled function, which the one build
configuration that is translated and run does not show, changes the list and breaks `cfg_C05`.
-/

namespace MetricsVerif.SrcCfg
open MetricsVerif.Generated.Cfg

/-- SOURCE FACT: conditional compilation and duplicate definitions in the files C05 is anchored in are exactly these -/
theorem cfg_C05 : inventory_C05 = [
  ("metrics-util/src/storage/bucket.rs", ["cfg(target_pointer_width=\"16\")", "cfg(target_pointer_width=\"32\")", "cfg(target_pointer_width=\"64\")", "cfg(test)"], ["data x2", "new x2", "push x2"]),
  ("metrics-util/src/storage/mod.rs", [], ["record x2"])] :=
  rfl

end MetricsVerif.SrcCfg
