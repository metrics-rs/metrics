import MetricsVerif.Generated.CfgFacts

/-!
The conditional-compilation inventory of the files C15 is anchored in (`inventory_C15`, regenerated from the source by
`tools/extract_cfg.py` on every run).  A conditionally compiled second definition of a modelled function, which the one build
configuration that is translated and run does not show, changes the list and breaks `cfg_C15`.
-/

namespace MetricsVerif.SrcCfg
open MetricsVerif.Generated.Cfg

/-- SOURCE FACT: conditional compilation and duplicate definitions in the files C15 is anchored in are exactly these -/
theorem cfg_C15 : inventory_C15 = [
  ("metrics-util/src/storage/histogram.rs", ["cfg(test)"], []),
  ("metrics-exporter-prometheus/src/distribution.rs", ["cfg(test) x2"], ["new x2"]),
  ("metrics-exporter-prometheus/src/common.rs", [], []),
  ("metrics-exporter-prometheus/src/exporter/builder.rs", ["cfg(any(feature=\"http-listener\",feature=\"push-gateway\")) x6", "cfg(feature=\"http-listener\") x11", "cfg(feature=\"push-gateway\") x5", "cfg(feature=\"uds-listener\") x3", "cfg(not(feature=\"http-listener\"))", "cfg(test)", "cfg_attr(docsrs,doc(cfg(any(feature=\"http-listener\",feature=\"push-gateway\")))) x2", "cfg_attr(docsrs,doc(cfg(feature=\"http-listener\"))) x2", "cfg_attr(docsrs,doc(cfg(feature=\"push-gateway\")))", "cfg_attr(docsrs,doc(cfg(feature=\"uds-listener\")))", "cfg_attr(not(any(feature=\"http-listener\",feature=\"push-gateway\")),allow(dead_code))", "cfg_attr(not(feature=\"http-listener\"),allow(unused_mut))"], []),
  ("metrics-util/src/storage/summary.rs", ["cfg(test)"], ["fmt x2"]),
  ("metrics-util/src/quantile.rs", ["cfg(test)"], [])] :=
  rfl

end MetricsVerif.SrcCfg
