import MetricsVerif.Generated.CfgFacts

/-!
The conditional-compilation inventory of the files C20 is anchored in (`inventory_C20`, regenerated from the source by
`tools/extract_cfg.py` on every run).  A conditionally compiled second definition of a modelled function, which the one build
configuration that is translated and run does not show, changes the list and breaks `cfg_C20`.
-/

namespace MetricsVerif.SrcCfg
open MetricsVerif.Generated.Cfg

/-- SOURCE FACT: conditional compilation and duplicate definitions in the files C20 is anchored in are exactly these -/
theorem cfg_C20 : inventory_C20 = [
  ("metrics-util/src/recoverable.rs", ["cfg(test)"], [])] :=
  rfl

end MetricsVerif.SrcCfg
