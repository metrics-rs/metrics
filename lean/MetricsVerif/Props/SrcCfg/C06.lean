import MetricsVerif.Generated.CfgFacts

/-!
The conditional-compilation inventory of the files C06 is anchored in (`inventory_C06`, regenerated from the source by
`tools/extract_cfg.py` on every run).  A conditionally compiled second definition of a modelled function, which the one build
configuration that is translated and run does not show, changes the list and breaks `cfg_C06`.
-/

namespace MetricsVerif.SrcCfg
open MetricsVerif.Generated.Cfg

/-- SOURCE FACT: conditional compilation and duplicate definitions in the files C06 is anchored in are exactly these -/
theorem cfg_C06 : inventory_C06 = [
  ("metrics-util/src/registry/mod.rs", ["cfg(feature=\"recency\") x3", "cfg(test)", "cfg_attr(docsrs,doc(cfg(feature=\"recency\")))"], []),
  ("metrics-util/src/registry/storage.rs", [], ["counter x2", "gauge x2", "histogram x2"]),
  ("metrics-util/src/common.rs", [], ["hashable x3"]),
  ("metrics/src/key.rs", ["cfg(test)"], ["from x3"])] :=
  rfl

end MetricsVerif.SrcCfg
