import MetricsVerif.Generated.CfgFacts

/-!
The conditional-compilation inventory of the files C10 is anchored in (`inventory_C10`, regenerated from the source by
`tools/extract_cfg.py` on every run).  A conditionally compiled second definition of a modelled function, which the one build
configuration that is translated and run does not show, changes the list and breaks `cfg_C10`.
-/

namespace MetricsVerif.SrcCfg
open MetricsVerif.Generated.Cfg

/-- SOURCE FACT: conditional compilation and duplicate definitions in the files C10 is anchored in are exactly these -/
theorem cfg_C10 : inventory_C10 = [
  ("metrics-exporter-dogstatsd/src/storage.rs", ["cfg(test)"], ["flush x3", "increment x2", "new x4", "record x2"]),
  ("metrics-exporter-dogstatsd/src/state.rs", [], []),
  ("metrics-exporter-dogstatsd/src/forwarder/sync.rs", ["cfg(unix) x7"], ["new x2", "try_send x2"]),
  ("metrics-exporter-dogstatsd/src/telemetry.rs", [], []),
  ("metrics-exporter-dogstatsd/src/recorder.rs", [], [])] :=
  rfl

end MetricsVerif.SrcCfg
