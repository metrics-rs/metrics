import MetricsVerif.Generated.CfgFacts

/-!
The conditional-compilation inventory of the files C02 is anchored in (`inventory_C02`, regenerated from the source by
`tools/extract_cfg.py` on every run).  A conditionally compiled second definition of a modelled function, which the one build
configuration that is translated and run does not show, changes the list and breaks `cfg_C02`.
-/

namespace MetricsVerif.SrcCfg
open MetricsVerif.Generated.Cfg

/-- SOURCE FACT: conditional compilation and duplicate definitions in the files C02 is anchored in are exactly these -/
theorem cfg_C02 : inventory_C02 = [
  ("metrics/src/recorder/cell.rs", [], []),
  ("metrics/src/recorder/mod.rs", ["cfg(test)"], ["describe_counter x2", "describe_gauge x2", "describe_histogram x2", "register_counter x2", "register_gauge x2", "register_histogram x2"]),
  ("metrics/src/recorder/errors.rs", [], ["fmt x2"])] :=
  rfl

end MetricsVerif.SrcCfg
