import MetricsVerif.Generated.CfgFacts

/-!
The conditional-compilation inventory of the files C08 is anchored in (`inventory_C08`, regenerated from the source by
`tools/extract_cfg.py` on every run).  A conditionally compiled second definition of a modelled function, which the one build
configuration that is translated and run does not show, changes the list and breaks `cfg_C08`.
-/

namespace MetricsVerif.SrcCfg
open MetricsVerif.Generated.Cfg

/-- SOURCE FACT: conditional compilation and duplicate definitions in the files C08 is anchored in are exactly these -/
theorem cfg_C08 : inventory_C08 = [
  ("metrics-exporter-prometheus/src/formatting.rs", ["cfg(test)"], []),
  ("metrics-exporter-prometheus/src/recorder.rs", [], ["render x2", "run_upkeep x2"]),
  ("metrics-exporter-prometheus/src/common.rs", [], [])] :=
  rfl

end MetricsVerif.SrcCfg
