import MetricsVerif.Generated.CfgFacts

/-!
The conditional-compilation inventory of the files C11 is anchored in (`inventory_C11`, regenerated from the source by
`tools/extract_cfg.py` on every run).  A conditionally compiled second definition of a modelled function, which the one build
configuration that is translated and run does not show, changes the list and breaks `cfg_C11`.
-/

namespace MetricsVerif.SrcCfg
open MetricsVerif.Generated.Cfg

/-- SOURCE FACT: conditional compilation and duplicate definitions in the files C11 is anchored in are exactly these -/
theorem cfg_C11 : inventory_C11 = [
  ("metrics-exporter-tcp/src/lib.rs", ["cfg(not(metrics_verif))", "cfg_attr(docsrs,feature(doc_cfg),deny(rustdoc::broken_intra_doc_links))"], ["from x2", "increment x2", "new x3", "write_to_client x2"])] :=
  rfl

end MetricsVerif.SrcCfg
