/-
C01 — emissions reach exactly the recorder in scope, never one whose scope ended.

Model: `Model/LocalRec.lean` (LOCAL_RECORDER per thread, the table of `LocalRecorderGuard`s with their saved
`prev_recorder`, `with_local_recorder` frames, `with_recorder` dispatch, `set_global_recorder`, the macro arms).
All theorems are about op sequences of ANY length over ANY number of threads (ops carry their thread id),
by the inductive invariant `Proofs/LocalRec.lean: Inv`.

The full property ("any order of guard drops, guards leaked with mem::forget") is FALSE of the code:
`fifo_drop_leaves_stale`, `forget_leaves_stale`, `closure_escape_leaves_stale` (kernel-evaluated witnesses,
replayed on the real code by the harness as known findings K-C01-fifo / K-C01-forget).  What is proved for
all programs is therefore named `…_partial`: it assumes the discipline `disc` — every guard drop (explicit,
closure return, unwinding) closes the newest live guard of its thread and nothing is forgotten.  Every
program built only from `with_local_recorder` closures, at any depth, with panics, satisfies the discipline
(`closures_only_disciplined`).  `thread_isolation` and `delivered_fields` need no discipline.
-/
import MetricsVerif.Proofs.LocalRec
import MetricsVerif.Generated.SourceFacts

namespace MetricsVerif.C01
open MetricsVerif.LocalRec

theorem reachable_inv (g : Option RecId) (ops : List (Tid × Op)) (h : disc (init g) ops = true) :
    LocalRec.Inv (run (init g) ops) := run_inv ops _ (init_inv g) h

/-- **the stack invariant**: in every state reached by a disciplined program, on every thread, LOCAL_RECORDER
    is the recorder of the newest live guard, each live guard saved the recorder of the live guard below it,
    and the oldest saved "nothing" -/
theorem stack_invariant_partial (g : Option RecId) (ops : List (Tid × Op)) (h : disc (init g) ops = true) (t : Tid) :
    Chain ((run (init g) ops).loc t) (liveGuards (run (init g) ops) t) := (reachable_inv g ops h).chain t

/-- **dispatch to the innermost recorder, exactly once**: after any disciplined program `pre`, a macro call
    on thread `t` makes exactly one recorder call (one entry appended to the log), and it goes to the recorder
    of the newest live installation of THAT thread, else to the global recorder, else to the no-op recorder;
    and that recorder's borrow has not ended -/
theorem dispatch_innermost_partial (g : Option RecId) (pre : List (Tid × Op)) (t : Tid) (c : Call)
    (h : disc (init g) pre = true) :
    (step (run (init g) pre) t (.emit c)).2
        = .emitted { tid := t, target := innermost (run (init g) pre) t, stale := false, call := c }
    ∧ (step (run (init g) pre) t (.emit c)).1.log
        = (run (init g) pre).log ++ [{ tid := t, target := innermost (run (init g) pre) t, stale := false, call := c }] := by
  have e := step_emit _ t c (reachable_inv g pre h)
  exact ⟨congrArg Prod.snd e, congrArg (·.1.log) e⟩

/-- the same for an emission anywhere inside a disciplined program -/
theorem dispatch_innermost_anywhere_partial (g : Option RecId) (ops pre post : List (Tid × Op)) (t : Tid) (c : Call)
    (h : disc (init g) ops = true) (e : ops = pre ++ (t, .emit c) :: post) :
    (step (run (init g) pre) t (.emit c)).2
        = .emitted { tid := t, target := innermost (run (init g) pre) t, stale := false, call := c } := by
  rw [e, disc_append] at h
  simp only [Bool.and_eq_true] at h
  exact (dispatch_innermost_partial g pre t c h.1).1

/-- **ending a scope restores the recorder that was in scope before it**: a disciplined explicit drop pops the
    thread's stack; LOCAL_RECORDER becomes the recorder of the guard below (none if there is none) -/
theorem drop_restores_partial (s : St) (t : Tid) (g : GuardId) (h : LocalRec.Inv s)
    (hok : opOk s t (.dropGuard g) = true) (hacc : (step s t (.dropGuard g)).2 = .ok) :
    liveGuards (step s t (.dropGuard g)).1 t = (liveGuards s t).tail
    ∧ (step s t (.dropGuard g)).1.loc t = (liveGuards s t).tail.head?.map Guard.rcd := by
  obtain ⟨s', out, hs, e⟩ := step_eff s t (.dropGuard g)
  rw [hs] at hacc ⊢
  cases e with
  | rejected => cases hacc
  | drop _ x hx => exact (inv_dropG s t g x h (by simpa [opOk] using hok) hx).2

/-- the same when a `with_local_recorder` closure returns or a panic unwinds through it -/
theorem exit_restores_partial (s : St) (t : Tid) (p : Bool) (h : LocalRec.Inv s)
    (hok : opOk s t (.exit p) = true) (hacc : (step s t (.exit p)).2 = .ok) :
    liveGuards (step s t (.exit p)).1 t = (liveGuards s t).tail
    ∧ (step s t (.exit p)).1.loc t = (liveGuards s t).tail.head?.map Guard.rcd := by
  obtain ⟨s', out, hs, e⟩ := step_eff s t (.exit p)
  rw [hs] at hacc ⊢
  cases e with
  | rejected => cases hacc
  | exit _ g rest x hsc hx =>
    exact (inv_dropG { s with scopes := upd s.scopes t rest } t g x (inv_scopes s _ h) (opOk_exit hok hsc :) hx).2

/-- **no use after scope**: in a disciplined program no emission is ever dispatched to a local recorder
    after the `endBorrow` of that recorder (`Emission.stale` is computed at dispatch time as
    "the target is a local recorder that is in `ended`") -/
theorem no_use_after_scope_partial (g : Option RecId) (ops : List (Tid × Op)) (h : disc (init g) ops = true) :
    ∀ e ∈ (run (init g) ops).log, e.stale = false := (reachable_inv g ops h).fresh

/-- … because in a disciplined program the borrow of every recorder that is still installed is still alive:
    no guard value that exists borrows an ended recorder, and LOCAL_RECORDER is always such a guard's recorder -/
theorem installed_is_borrowed_partial (g : Option RecId) (ops : List (Tid × Op)) (h : disc (init g) ops = true)
    (t : Tid) (r : RecId) (hl : (run (init g) ops).loc t = some r) :
    (run (init g) ops).ended.contains r = false := by
  have h2 := dispatch_fresh _ t (reachable_inv g ops h)
  unfold dispatch at h2
  rwa [hl] at h2

/-- for ALL programs (no discipline): the model never accepts an `endBorrow r` while a guard value borrowing
    `r` exists, nor an installation of an ended recorder — in every reachable state no existing guard value
    borrows an ended recorder.  This is the sense in which the witnesses below are "borrow-checker-legal":
    the stale recorder is reachable only through LOCAL_RECORDER, never through a guard the program still owns -/
theorem borrow_respected (g : Option RecId) (ops : List (Tid × Op)) :
    ∀ x ∈ (run (init g) ops).guards, x.live = true → (run (init g) ops).ended.contains x.rcd = false :=
  (base_run ops _ ⟨(init_inv g).wf, (init_inv g).nle⟩).nle

/-- **thread isolation** (ALL states, ALL ops — no discipline): an op of thread `t` never changes the
    LOCAL_RECORDER of another thread -/
theorem thread_isolation (s : St) (t t' : Tid) (op : Op) (h : t' ≠ t) : (step s t op).1.loc t' = s.loc t' := by
  obtain ⟨s', out, hs, e⟩ := step_eff s t op
  rw [hs]
  cases e with
  | install | enter | drop | exit => exact upd_other _ _ _ _ h
  | _ => rfl

/-- … so whatever the other threads do (any ops, any order, disciplined or not), thread `t'` keeps its recorder:
    a locally installed recorder is never visible to, or disturbed by, another thread -/
theorem thread_isolation_run (ops : List (Tid × Op)) (t' : Tid) (h : ∀ o ∈ ops, o.1 ≠ t') :
    ∀ s, (run s ops).loc t' = s.loc t' := by
  induction ops with
  | nil => intro s; rfl
  | cons o rest ih =>
    intro s
    rw [run_cons, ih (fun o' ho' => h o' (List.mem_cons_of_mem _ ho'))]
    exact thread_isolation s o.1 t' o.2 (fun e => h o List.mem_cons_self e.symm)

/-- a thread with no local installation dispatches to the global recorder or the no-op recorder, never to a
    recorder another thread installed -/
theorem no_local_no_foreign (s : St) (t : Tid) (h : s.loc t = none) :
    dispatch s t = fallback s ∧ ∀ r, fallback s ≠ .loc r := by
  refine ⟨by simp [dispatch, h], ?_⟩
  intro r; unfold fallback; cases s.global <;> simp

/-- the labels as written at the call site, in the written order -/
def written : LabelsArg → List (String × String)
  | .none => []
  | .litPairs kv => kv
  | .exprPairs kv => kv
  | .collection kv => kv

theorem keyVar_written (n : NameArg) (l : LabelsArg) : keyVar n l = (n.val, written l) := by
  cases n <;> cases l <;> rfl

/-- every macro call is logged as one recorder call carrying the call it was given, made on the calling thread to
    `dispatch s t` (no discipline needed). Which row of fields that call hands to the recorder is `register_row` /
    `describe_row`; this statement does not mention `expand`. -/
theorem delivered_fields (s : St) (t : Tid) (c : Call) :
    ∃ e, (step s t (.emit c)).2 = .emitted e ∧ e.call = c ∧ e.tid = t ∧ e.target = dispatch s t
      ∧ (step s t (.emit c)).1.log = s.log ++ [e] :=
  ⟨_, rfl, rfl, rfl, rfl, rfl⟩

/-- **the delivered record is what the call site spelled**: the arms of `counter!/gauge!/histogram!` + `key_var!` +
    `metadata_var!` hand over the written name, the written labels in order, the written `target:` or else the
    module path, the written `level:` or else INFO, the module path of the call site; no unit, no description -/
theorem register_row (mp : String) (c : RegCall) :
    expand mp (.reg c) =
      { describe := false, kind := c.kind, name := c.name.val, labels := written c.labels,
        target := some (c.target.getD mp), level := some (c.level.getD .info), modulePath := some mp,
        unit := none, desc := none } := by
  show expandReg mp c = _
  unfold expandReg metadataVar
  rw [keyVar_written]
  cases c.target <;> cases c.level <;> rfl

/-- the two arms of `describe!`: the written name, the written unit (or none), the written description -/
theorem describe_row (mp : String) (d : DescCall) :
    expand mp (.desc d) =
      { describe := true, kind := d.kind, name := d.name.val, labels := [], target := none, level := none,
        modulePath := none, unit := d.unit, desc := some d.desc } := rfl

/-- `ops`, run from `s`, keeps the discipline and the invariant, ends no borrow, and gives thread `t` back its stack
    of installations and its closure frames -/
def Balanced (t : Tid) (s : St) (ops : List (Tid × Op)) : Prop :=
  disc s ops = true ∧ LocalRec.Inv (run s ops) ∧ (run s ops).ended = []
    ∧ liveGuards (run s ops) t = liveGuards s t ∧ (run s ops).scopes t = s.scopes t

theorem Balanced.append {t : Tid} {s : St} {a b : List (Tid × Op)} (ha : Balanced t s a)
    (hb : Balanced t (run s a) b) : Balanced t s (a ++ b) := by
  unfold Balanced
  rw [disc_append, run_append, ha.1, hb.1]
  exact ⟨rfl, hb.2.1, hb.2.2.1, hb.2.2.2.1.trans ha.2.2.2.1, hb.2.2.2.2.trans ha.2.2.2.2⟩

/-- a `with_local_recorder` frame around a balanced body is balanced: the guard `enter` creates is on top of the
    stack again when the body is over, so `exit` finds it, pops it, and the frame's id with it -/
theorem Balanced.frame {t : Tid} {s : St} (r : RecId) (p : Bool) {body : List (Tid × Op)} (h : LocalRec.Inv s)
    (he : s.ended = []) (hb : ∀ s1, LocalRec.Inv s1 → s1.ended = [] → Balanced t s1 body) :
    Balanced t s ((t, .enter r) :: (body ++ [(t, .exit p)])) := by
  have hnot : s.ended.contains r = false := by rw [he]; rfl
  obtain ⟨s1, hs1, i1, l1, c1, e1⟩ := enter_spec s t r h hnot
  obtain ⟨db, ib, eb, lb, sb⟩ := hb s1 i1 (e1.trans he)
  obtain ⟨ok3, s3, hs3, i3, l3, c3, e3⟩ := exit_spec _ t p _ _ _ ib (lb.trans l1) (sb.trans c1)
  unfold Balanced
  rw [run_cons, run_append, run_cons, hs1, hs3]
  refine ⟨?_, i3, e3.trans eb, l3, c3⟩
  show (true && disc (step s t (.enter r)).1 (body ++ [(t, .exit p)])) = true
  rw [hs1, disc_append, db]
  simp [disc, ok3]

theorem closures_only_aux (t : Tid) (p : Prog) :
    ∀ s, LocalRec.Inv s → s.ended = [] → Balanced t s (compile t p) := by
  induction p with
  | done => exact fun s h he => ⟨rfl, h, he, rfl, rfl⟩
  | panic => exact fun s h he => ⟨rfl, h, he, rfl, rfl⟩
  | emit c rest ih =>
    intro s h he
    have one : Balanced t s [(t, .emit c)] := ⟨rfl, step_inv s t _ h rfl, he, rfl, rfl⟩
    exact one.append (ih _ one.2.1 one.2.2.1)
  | withLocal r body rest ihb ihr =>
    intro s h he
    have fr := Balanced.frame r body.panics h he ihb
    have := fr.append (ihr _ fr.2.1 fr.2.2.1)
    rwa [List.cons_append, List.append_assoc] at this

/-- **every program built only from `with_local_recorder` closures and macro calls — any nesting depth, panics
    anywhere — keeps the discipline**, from any disciplined state in which no borrow has ended yet; so
    `dispatch_innermost_partial` and `no_use_after_scope_partial` hold for it, and when it is over the thread's stack of installations is what it was before -/
theorem closures_only_disciplined (t : Tid) (p : Prog) (s : St) (h : LocalRec.Inv s) (he : s.ended = []) :
    disc s (compile t p) = true ∧ liveGuards (run s (compile t p)) t = liveGuards s t
      ∧ (run s (compile t p)).loc t = s.loc t := by
  obtain ⟨a, b, _, d, _⟩ := closures_only_aux t p s h he
  refine ⟨a, d, ?_⟩
  rw [chain_loc (b.chain t), chain_loc (h.chain t), d]

/-- a closure-only program run from the initial state: disciplined, and none of its emissions is stale -/
theorem closures_only_from_init (g : Option RecId) (t : Tid) (p : Prog) :
    disc (init g) (compile t p) = true ∧ ∀ e ∈ (run (init g) (compile t p)).log, e.stale = false := by
  have := closures_only_disciplined t p (init g) (init_inv g) rfl
  exact ⟨this.1, no_use_after_scope_partial g _ this.1⟩

/-! ### the full statement, without the discipline, is FALSE of the code (known findings) -/

def c0 : Call := .reg { kind := .counter, target := none, level := none, name := .lit "c_lit", labels := .none }

/-- `let g0 = set_default_local_recorder(&r1); let g1 = set_default_local_recorder(&r2); drop(g0); drop(g1);`
    then both borrows end, then one macro call -/
def fifoWitness : List (Tid × Op) :=
  [(0, .install 1), (0, .install 2), (0, .dropGuard 0), (0, .dropGuard 1), (0, .endBorrow 1), (0, .endBorrow 2),
   (0, .emit c0)]

/-- `let g0 = set_default_local_recorder(&r1); mem::forget(g0);` then the borrow ends, then one macro call -/
def forgetWitness : List (Tid × Op) := [(0, .install 1), (0, .forget 0), (0, .endBorrow 1), (0, .emit c0)]

/-- `with_local_recorder(&r1, || { slot = Some(set_default_local_recorder(&r2)); }); drop(slot.take());`
    then both borrows end, then one macro call -/
def closureEscapeWitness : List (Tid × Op) :=
  [(0, .enter 1), (0, .install 2), (0, .exit false), (0, .dropGuard 1), (0, .endBorrow 1), (0, .endBorrow 2),
   (0, .emit c0)]

/-- K-C01-fifo: the program is accepted by the borrow checker, every scope and every borrow has ended, and
    the emission is dispatched to recorder 1 — after its borrow ended -/
theorem fifo_drop_leaves_stale :
    borrowChecked (init none) fifoWitness = true
    ∧ liveGuards (run (init none) fifoWitness) 0 = []
    ∧ (run (init none) fifoWitness).ended = [2, 1]
    ∧ (run (init none) fifoWitness).log.map (fun e => (e.target, e.stale)) = [(.loc 1, true)] := by decide +kernel

/-- K-C01-forget: a forgotten guard is never undone -/
theorem forget_leaves_stale :
    borrowChecked (init none) forgetWitness = true
    ∧ liveGuards (run (init none) forgetWitness) 0 = []
    ∧ (run (init none) forgetWitness).ended = [1]
    ∧ (run (init none) forgetWitness).log.map (fun e => (e.target, e.stale)) = [(.loc 1, true)] := by decide +kernel

/-- the FIFO defect through a closure: a guard created inside a `with_local_recorder` closure outlives it -/
theorem closure_escape_leaves_stale :
    borrowChecked (init none) closureEscapeWitness = true
    ∧ liveGuards (run (init none) closureEscapeWitness) 0 = []
    ∧ (run (init none) closureEscapeWitness).log.map (fun e => (e.target, e.stale)) = [(.loc 1, true)] := by decide +kernel

/-- the witnesses break the discipline exactly where the known-finding signatures say -/
theorem witnesses_undisciplined :
    disc (init none) fifoWitness = false ∧ disc (init none) forgetWitness = false
    ∧ disc (init none) closureEscapeWitness = false
    ∧ opOk (run (init none) (fifoWitness.take 2)) 0 (.dropGuard 0) = false := by decide +kernel

/-- **the full statement is false**: there is a borrow-checker-legal program with an emission dispatched to a
    recorder after the borrow that installed it ended -/
theorem no_use_after_scope_full_false :
    ∃ ops, borrowChecked (init none) ops = true ∧ ∃ e ∈ (run (init none) ops).log, e.stale = true :=
  ⟨fifoWitness, by decide +kernel, ⟨{ tid := 0, target := .loc 1, stale := true, call := c0 }, by decide +kernel, rfl⟩⟩

/-- depth-3 nesting with a panic in the innermost closure that unwinds two frames, an explicit guard around
    it, a second thread with its own closure, a global recorder: disciplined, and every emission reaches the
    innermost recorder of ITS thread / the global recorder -/
def nested : List (Tid × Op) :=
  [(0, .emit c0), (0, .install 9), (0, .enter 1), (0, .emit c0), (1, .emit c0), (1, .enter 101), (0, .enter 2),
   (0, .emit c0), (0, .enter 3), (1, .emit c0), (0, .emit c0), (0, .exit true), (0, .exit true), (0, .emit c0),
   (1, .exit false), (0, .exit false), (0, .emit c0), (0, .dropGuard 0), (0, .endBorrow 9), (0, .endBorrow 1),
   (0, .endBorrow 2), (0, .endBorrow 3), (1, .endBorrow 101), (0, .emit c0), (1, .emit c0)]

example :
    disc (init (some 900)) nested = true ∧ borrowChecked (init (some 900)) nested = true
    ∧ (run (init (some 900)) nested).log.map (fun e => (e.tid, e.target, e.stale))
      = [(0, .glob 900, false), (0, .loc 1, false), (1, .glob 900, false), (0, .loc 2, false), (1, .loc 101, false),
         (0, .loc 3, false), (0, .loc 1, false), (0, .loc 9, false), (0, .glob 900, false), (1, .glob 900, false)] := by
  decide +kernel

/-- a closure-only `Prog` with the same depth-3 nesting and the panic in the innermost closure, and the operations it
    compiles to (the hypotheses of `closures_only_disciplined` are met by `init`) -/
example :
    compile 0 (.withLocal 1 (.emit c0 (.withLocal 2 (.withLocal 3 (.emit c0 .panic) (.emit c0 .done)) (.emit c0 .done))) (.emit c0 .done))
      = [(0, .enter 1), (0, .emit c0), (0, .enter 2), (0, .enter 3), (0, .emit c0), (0, .exit true), (0, .emit c0),
         (0, .exit false), (0, .emit c0), (0, .exit false), (0, .emit c0)] := by decide +kernel

/-- the delivered row of a form with every prefix and literal labels -/
example :
    expand "m" (.reg { kind := .counter, target := some "t", level := some .warn, name := .lit "n",
                       labels := .litPairs [("k", "v")] })
      = { describe := false, kind := .counter, name := "n", labels := [("k", "v")], target := some "t",
          level := some .warn, modulePath := some "m", unit := none, desc := none } := rfl

/-! ### the recorder callback runs in the scope of the call site (`with_recorder` only READS the thread-local) -/

/-- **a macro call changes nothing but the log**: LOCAL_RECORDER of every thread, the guard table, the closure
    frames, the global recorder and the ended borrows are what they were.  This is what allows the harness to
    write the statements a recorder method executes from INSIDE its callback (re-entrant macro calls, scopes opened
    and left, panics) as ordinary ops following the `emit`: `with_recorder` does nothing before or after `f` -/
theorem emit_transparent (s : St) (t : Tid) (c : Call) :
    (step s t (.emit c)).1.loc = s.loc ∧ (step s t (.emit c)).1.next = s.next
    ∧ (step s t (.emit c)).1.scopes = s.scopes ∧ (step s t (.emit c)).1.guards = s.guards
    ∧ (step s t (.emit c)).1.global = s.global ∧ (step s t (.emit c)).1.ended = s.ended :=
  ⟨rfl, rfl, rfl, rfl, rfl, rfl⟩

/-- … so after any number of macro calls (by any threads) every thread dispatches where it dispatched before -/
theorem emits_keep_dispatch (cs : List (Tid × Call)) (s : St) (t' : Tid) :
    dispatch (run s (cs.map fun p => (p.1, Op.emit p.2))) t' = dispatch s t' := by
  induction cs generalizing s with
  | nil => rfl
  | cons p rest ih =>
    show dispatch (run (step s p.1 (.emit p.2)).1 _) t' = _
    rw [ih]; rfl

/-- **re-entrant emission**: a macro call `d` made by the recorder method while it handles `c` (on the same
    thread) is delivered, exactly once, to the very recorder that is handling `c` — ALL states, no discipline -/
theorem reentrant_same_recorder (s : St) (t : Tid) (c d : Call) :
    (step (step s t (.emit c)).1 t (.emit d)).2
        = .emitted { tid := t, target := dispatch s t, stale := isStale s (dispatch s t), call := d }
    ∧ (step (step s t (.emit c)).1 t (.emit d)).1.log
        = s.log ++ [{ tid := t, target := dispatch s t, stale := isStale s (dispatch s t), call := c }]
            ++ [{ tid := t, target := dispatch s t, stale := isStale s (dispatch s t), call := d }] :=
  ⟨rfl, rfl⟩

/-- a panic out of the recorder method (caught around the macro call) is no op at all: the state after the call
    is the state `emit_transparent` describes, in particular the local scope is intact (in a disciplined program
    the next macro call still reaches the innermost recorder) -/
theorem after_callback_still_innermost_partial (g : Option RecId) (pre : List (Tid × Op)) (t : Tid) (c d : Call)
    (h : disc (init g) pre = true) :
    (step (step (run (init g) pre) t (.emit c)).1 t (.emit d)).2
        = .emitted { tid := t, target := innermost (run (init g) pre) t, stale := false, call := d } := by
  have hi := reachable_inv g pre h
  rw [(reentrant_same_recorder _ t c d).1, dispatch_fresh _ t hi, dispatch_eq_innermost _ t hi]

/-! ### what the type system must refuse (the harness compiles these programs: `type probe` cases) -/

/-- **the recorder cannot be freed while a guard value installed from it exists** (`LocalRecorderGuard<'a>` carries
    the borrow): `endBorrow r` is not a program then; nothing changes — ALL states -/
theorem endBorrow_rejected_while_borrowed (s : St) (t : Tid) (r : RecId) (h : borrowed s r = true) :
    step s t (.endBorrow r) = (s, .rejected) := by
  simp [step, h]

/-- right after `let g = set_default_local_recorder(&r)` (borrow of `r` alive) the guard borrows `r` -/
theorem install_borrows (s : St) (t : Tid) (r : RecId) (h : s.ended.contains r = false) :
    borrowed (step s t (.install r)).1 r = true := by
  have hs : (step s t (.install r)).1 = (install s t r).1 := by
    unfold step; simp only [h]; rfl
  rw [hs]
  simp [install, borrowed, borrowsRec]

/-- **a thread can only drop a live guard of its own**: `drop(g)` by a thread that has no live guard `g` — a moved-out
    value, or another thread's guard (`LocalRecorderGuard: !Send`) — is not a program; nothing changes — ALL states -/
theorem foreign_drop_rejected (s : St) (t' : Tid) (g : GuardId) (h : findLive s.guards t' g = none) :
    step s t' (.dropGuard g) = (s, .rejected) := by
  unfold step
  simp only [h]
  split <;> rfl

/-- the two probe programs of the harness, on the model -/
theorem probes_rejected :
    (step (step (init none) 0 (.install 1)).1 0 (.endBorrow 1)).2 = .rejected
    ∧ (step (step (init none) 0 (.install 1)).1 1 (.dropGuard 0)).2 = .rejected
    ∧ ((step (step (init none) 0 (.install 1)).1 1 (.dropGuard 0)).1.loc 0 = some 1) := by decide +kernel

/-! ### the form table covers every shape of call site -/

/-- the shape of a `counter!/gauge!/histogram!` call site: macro, `target:` present, `level:` present, literal
    name, and which group of `key_var!` arms its labels select -/
def regShape (c : RegCall) : Kind × Bool × Bool × Bool × Nat :=
  (c.kind, c.target.isSome, c.level.isSome,
   (match c.name with | .lit _ => true | .expr _ => false),
   (match c.labels with | .none => 0 | .litPairs _ => 1 | .exprPairs _ => 2 | .collection _ => 3))

theorem mem_genReg (k : Kind) (p : Option String × Option Level) (nl : NameArg × LabelsArg)
    (hk : k ∈ kinds) (hp : p ∈ prefixes k) (hnl : nl ∈ nameLabel k) :
    Call.reg { kind := k, target := p.1, level := p.2, name := nl.1, labels := nl.2 } ∈ genReg :=
  List.mem_flatMap.2 ⟨k, hk, List.mem_flatMap.2 ⟨p, hp, List.mem_map.2 ⟨nl, hnl, rfl⟩⟩⟩

theorem kinds_complete (k : Kind) : k ∈ kinds := by cases k <;> decide

theorem prefixes_cover (k : Kind) (a b : Bool) : ∃ p ∈ prefixes k, p.1.isSome = a ∧ p.2.isSome = b := by
  cases a <;> cases b
  · exact ⟨_, .head _, rfl, rfl⟩
  · exact ⟨_, .tail _ (.tail _ (.head _)), rfl, rfl⟩
  · exact ⟨_, .tail _ (.head _), rfl, rfl⟩
  · exact ⟨_, .tail _ (.tail _ (.tail _ (.head _))), rfl, rfl⟩

/-- **every shape of register call site occurs in the compiled table**: for any call `c` whatsoever there is a
    table entry with the same macro, the same prefix arm, the same kind of name and the same kind of labels — so
    each arm of `counter!/gauge!/histogram!` is compared, with labels, against `register_row` on every run -/
theorem forms_cover_every_shape (c : RegCall) : ∃ c', Call.reg c' ∈ forms ∧ regShape c' = regShape c := by
  obtain ⟨p, hp, hp1, hp2⟩ := prefixes_cover c.kind c.target.isSome c.level.isSome
  -- one of the four label shapes, and under it the literal or the computed name
  obtain ⟨l, hl, hl2⟩ : ∃ l ∈ labelShapes,
      (match l with | .none => 0 | .litPairs _ => 1 | .exprPairs _ => 2 | .collection _ => 3)
        = (match c.labels with | .none => 0 | .litPairs _ => 1 | .exprPairs _ => 2 | .collection _ => 3) := by
    cases c.labels
    · exact ⟨_, .head _, rfl⟩
    · exact ⟨_, .tail _ (.head _), rfl⟩
    · exact ⟨_, .tail _ (.tail _ (.head _)), rfl⟩
    · exact ⟨_, .tail _ (.tail _ (.tail _ (.head _))), rfl⟩
  obtain ⟨n, hn, hn1⟩ : ∃ n, (n, l) ∈ nameLabel c.kind
      ∧ (match n with | .lit _ => true | .expr _ => false) = (match c.name with | .lit _ => true | .expr _ => false) := by
    cases c.name
    · exact ⟨_, List.mem_flatMap.2 ⟨l, hl, .head _⟩, rfl⟩
    · exact ⟨_, List.mem_flatMap.2 ⟨l, hl, .tail _ (.head _)⟩, rfl⟩
  refine ⟨{ kind := c.kind, target := p.1, level := p.2, name := n, labels := l }, ?_, ?_⟩
  · exact List.mem_append_left _ (List.mem_append_left _ (List.mem_append_right _
      (mem_genReg c.kind p (n, l) (kinds_complete _) hp hn)))
  · simp only [regShape, hp1, hp2, hn1, hl2]

/-- every describe macro occurs without unit and with each of the 17 units, with a literal and a computed name -/
theorem forms_cover_describe (k : Kind) (u : Option String) (hu : u = none ∨ ∃ x ∈ unitNames, u = some x) :
    Call.desc { kind := k, name := .lit (litName k), unit := u, desc := "d lit" } ∈ forms
    ∧ Call.desc { kind := k, name := .expr (compName k), unit := u, desc := "computed desc 7" } ∈ forms := by
  have hd : ∀ c ∈ descPair k u, c ∈ genDesc := by
    intro c hc
    refine List.mem_flatMap.2 ⟨k, kinds_complete k, ?_⟩
    rw [List.mem_append]
    rcases hu with hu | ⟨x, hx, hu⟩
    · left; rw [← hu]; exact hc
    · right; exact List.mem_flatMap.2 ⟨x, hx, by rw [← hu]; exact hc⟩
  have hf : ∀ c ∈ genDesc, c ∈ forms := by
    intro c hc; unfold forms; simp only [List.mem_append]; exact Or.inl (Or.inr hc)
  exact ⟨hf _ (hd _ (by simp [descPair])), hf _ (hd _ (by simp [descPair]))⟩

/-! ### facts of the source no run can observe (tools/extract.py → Generated/SourceFacts.lean) -/

/-- `with_recorder` only READS the thread-local (`get`; no `take`/`set`/`replace` around the callback), and tries
    local, then global, then the no-op recorder — the shape `dispatch`/`fallback` and `emit_transparent` model -/
theorem src_with_recorder_shape :
    Generated.localrec_with_recorder_local_calls = ["get"]
    ∧ Generated.localrec_with_recorder_order = ["local", "global", "noop"]
    ∧ Generated.localrec_thread_local_decl
        = "static LOCAL_RECORDER: Cell<Option<NonNull<dyn Recorder>>> = Cell::new(None)" := ⟨rfl, rfl, rfl⟩

/-- `LocalRecorderGuard::new` = `replace(Some(r))` keeping the old value, `Drop` = `replace(saved)`;
    `with_local_recorder` binds the guard to a NAMED local for the whole call of `f` — `install`/`dropG`/`enter`/`exit` -/
theorem src_guard_save_restore :
    Generated.localrec_guard_new_calls = ["replace(Some(recorder_ptr))"]
    ∧ Generated.localrec_guard_drop_calls = ["replace(self.prev_recorder.take())"]
    ∧ Generated.localrec_with_local_body = "{ let _local = LocalRecorderGuard::new(recorder); f() }" := ⟨rfl, rfl, rfl⟩

/-- the guard type carries the recorder's borrow and is neither `Send` nor `Sync` by hand: what `Out.rejected`
    stands for (`endBorrow_rejected_while_borrowed`, `foreign_drop_rejected`; compiled by the type probes) -/
theorem src_guard_carries_borrow :
    Generated.localrec_guard_phantom = "PhantomData<&'a dyn Recorder>"
    ∧ Generated.localrec_guard_new_sig = "recorder: &'a (dyn Recorder + 'a)"
    ∧ Generated.localrec_set_default_sig
        = "pub fn set_default_local_recorder(recorder: &dyn Recorder) -> LocalRecorderGuard"
    ∧ Generated.localrec_with_local_sig
        = "pub fn with_local_recorder<T>(recorder: &dyn Recorder, f: impl FnOnce() -> T) -> T"
    ∧ Generated.localrec_guard_unsafe_impls = [] := ⟨rfl, rfl, rfl, rfl, rfl⟩

/-- body of a forwarding method of `impl_recorder!` -/
def fwdBody (m args : String) : String := "{ std::ops::Deref::deref(self)." ++ m ++ "(" ++ args ++ ") }"

/-- the blanket impls for `&T`, `&mut T`, `Box<T>`, `Arc<T>` forward each of the six methods, once, to its
    namesake with the same arguments: a recorder installed through a wrapper is the recorder (the model has no
    wrapper; the harness installs its doubles through every one of them) -/
theorem src_blanket_forwards_to_namesake :
    Generated.localrec_blanket_forwarding
      = [("describe_counter", fwdBody "describe_counter" "key, unit, description"),
         ("describe_gauge", fwdBody "describe_gauge" "key, unit, description"),
         ("describe_histogram", fwdBody "describe_histogram" "key, unit, description"),
         ("register_counter", fwdBody "register_counter" "key, metadata"),
         ("register_gauge", fwdBody "register_gauge" "key, metadata"),
         ("register_histogram", fwdBody "register_histogram" "key, metadata")]
    ∧ Generated.localrec_blanket_types = ["&T", "&mut T", "std::boxed::Box<T>", "std::sync::Arc<T>"] :=
  by decide +kernel

/-- what every forwarding arm must pass on: the name and ALL label arguments -/
def fwdArgs : String := "$name $(, $label_key $(=> $label_value)?)*"

/-- the arms of one macro: `target:`-only ⇒ level INFO, `level:`-only ⇒ target `module_path!()`, plain ⇒ both
    defaults (`expandReg`), each passing on name and labels; the full arm hands name+labels to `key_var!`, target and
    level to `metadata_var!`, and calls the macro's own `register_*` -/
def armsOf (m : String) : String × List String :=
  (m, ["target: $target, level: $crate::Level::INFO, " ++ fwdArgs,
       "target: ::std::module_path!(), level: $level, " ++ fwdArgs,
       "target: ::std::module_path!(), level: $crate::Level::INFO, " ++ fwdArgs,
       fwdArgs, "$target, $level", "register_" ++ m ++ "(&metric_key, metadata)"])

theorem src_macro_arms :
    Generated.localrec_macro_arms = [armsOf "counter", armsOf "gauge", armsOf "histogram"]
    ∧ Generated.localrec_metadata_var_new_args = "$target, $level, ::core::option::Option::Some(::std::module_path!())," :=
  by decide +kernel

/-! ### exactly once, for ALL programs: nothing but a macro call reaches a recorder -/

/-- the macro call an op makes, if it is one -/
def callOf : Tid × Op → Option (Tid × Call)
  | (t, .emit c) => some (t, c)
  | _ => none

/-- an op that is not a macro call makes no recorder call: installing, dropping or forgetting a guard, entering or
    leaving (also by unwinding) a `with_local_recorder` frame, `set_global_recorder`, the end of a borrow — ALL states -/
theorem only_emit_logs (s : St) (t : Tid) (op : Op) (h : callOf (t, op) = none) : (step s t op).1.log = s.log := by
  obtain ⟨s', out, hs, e⟩ := step_eff s t op
  rw [hs]
  cases e with
  | emit c => cases h
  | _ => rfl

/-- **delivered exactly once** — ANY program, any threads, no discipline: the recorder calls made during the program
    are, in order, exactly its macro calls (thread and call as written): none is lost, none is made twice, and no
    other op of the program makes one -/
theorem delivered_exactly_once (ops : List (Tid × Op)) :
    ∀ s, (run s ops).log.map (fun e => (e.tid, e.call)) = s.log.map (fun e => (e.tid, e.call)) ++ ops.filterMap callOf := by
  induction ops with
  | nil => intro s; simp [run]
  | cons o rest ih =>
    intro s
    rw [run_cons, ih]
    obtain ⟨t, op⟩ := o
    cases hc : callOf (t, op) with
    | none =>
      rw [only_emit_logs s t op hc]
      simp [hc]
    | some tc =>
      cases op <;> simp [callOf] at hc
      subst hc
      simp [step, callOf]

/-- … in particular the number of recorder calls is the number of macro calls -/
theorem delivery_count (g : Option RecId) (ops : List (Tid × Op)) :
    (run (init g) ops).log.length = (ops.filterMap callOf).length := by
  have := congrArg List.length (delivered_exactly_once ops (init g))
  simpa [init] using this

/-! ### the handle the call site gets is the one the recorder in scope made -/

/-- a `counter!/gauge!/histogram!` call evaluates to the handle returned by the recorder it was dispatched to; a
    `describe_*!` call to nothing — ALL states -/
theorem handle_from_dispatch_target (s : St) (t : Tid) (c : Call) :
    ∃ e, (step s t (.emit c)).2 = .emitted e ∧
      handleOf e = (match c with | .reg _ => some (dispatch s t) | .desc _ => none) := by
  refine ⟨_, rfl, ?_⟩
  cases c <;> rfl

/-- in a disciplined program that is the innermost recorder in scope (else global, else no-op) -/
theorem handle_from_innermost_partial (g : Option RecId) (pre : List (Tid × Op)) (t : Tid) (c : RegCall)
    (h : disc (init g) pre = true) :
    ∃ e, (step (run (init g) pre) t (.emit (.reg c))).2 = .emitted e ∧ handleOf e = some (innermost (run (init g) pre) t) := by
  refine ⟨_, rfl, ?_⟩
  show some (dispatch _ t) = _
  rw [dispatch_eq_innermost _ t (reachable_inv g pre h)]

/-! ### keeping the reference of `with_recorder`, duplicating a guard: the type system must refuse both (type probes);
    what would happen if it did not -/

/-- **the `&dyn Recorder` handed to the closure of `with_recorder` cannot be kept** (`impl FnOnce(&dyn Recorder) -> T`:
    the lifetime is higher-ranked, `T` cannot name it) — not a program; ALL states -/
theorem keepRef_rejected (s : St) (t : Tid) : step s t .keepRef = (s, .rejected) := rfl

/-- **a guard value cannot be duplicated** (`LocalRecorderGuard` is neither `Clone` nor `Copy`) — ALL states -/
theorem dupGuard_rejected (s : St) (t : Tid) (g : GuardId) : step s t (.dupGuard g) = (s, .rejected) := rfl

/-- `with_local_recorder(&r1, || { kept = with_recorder(|r| r) });` then `r1`'s borrow ends -/
def keepRefProgram : List (Tid × Op) := [(0, .enter 1), (0, .exit false), (0, .endBorrow 1)]

/-- why `keepRef` must be rejected: in a perfectly LIFO, borrow-checked program the reference `with_recorder` hands
    out inside the scope is recorder 1, and after the program recorder 1's borrow has ended — a call through a kept
    reference would be a dispatch after the end of the installing borrow (what the last sentence of the property
    excludes), with no guard misuse at all -/
theorem escaped_ref_would_be_stale :
    disc (init none) keepRefProgram = true ∧ borrowChecked (init none) keepRefProgram = true
    ∧ dispatch (run (init none) (keepRefProgram.take 1)) 0 = .loc 1
    ∧ isStale (run (init none) keepRefProgram) (.loc 1) = true
    ∧ dispatch (run (init none) keepRefProgram) 0 = .noop := by decide +kernel

/-- `g0 = install 1; g1 = install 2; drop g1; drop g0;` the borrow of recorder 1 ends (g1 borrowed recorder 2 only) -/
def dupPrefix : List (Tid × Op) :=
  [(0, .install 1), (0, .install 2), (0, .dropGuard 1), (0, .dropGuard 0), (0, .endBorrow 1)]

/-- why `dupGuard` must be rejected: after the LIFO, borrow-checked `dupPrefix`, the destructor of a second copy of
    `g1` (`Drop` = `replace(prev_recorder)`, here `dropG` with `g1`'s record: it saved recorder 1) re-installs recorder 1
    after its borrow ended; the next macro call is dispatched to it -/
theorem cloned_guard_would_dispatch_stale :
    disc (init none) dupPrefix = true ∧ borrowChecked (init none) dupPrefix = true
    ∧ (run (init none) dupPrefix).loc 0 = none
    ∧ (step (dropG (run (init none) dupPrefix) 0
              { tid := 0, id := 1, rcd := 2, prev := some 1, live := false, forgotten := false }) 0 (.emit c0)).2
        = .emitted { tid := 0, target := .loc 1, stale := true, call := c0 } := by decide +kernel

/-- the probe programs on the model -/
theorem probes2_rejected :
    (step (step (init none) 0 (.enter 1)).1 0 .keepRef).2 = .rejected
    ∧ (step (step (init none) 0 (.install 1)).1 0 (.dupGuard 0)).2 = .rejected := by decide +kernel

/-! ### macro calls made by destructors — also while a panic unwinds the frame -/

theorem compile_flush (t : Tid) (pend : List Call) (k : Prog) :
    compile t (flush pend k) = pend.map (fun c => (t, Op.emit c)) ++ compile t k := by
  induction pend with
  | nil => rfl
  | cons c cs ih => simp [flush, compile, ih]

theorem panics_flush (pend : List Call) (k : Prog) : (flush pend k).panics = k.panics := by
  induction pend with
  | nil => rfl
  | cons c cs ih => simpa [flush, Prog.panics] using ih

/-- how a body is left does not depend on the destructors pending around it -/
theorem panics_lower (p : ProgD) : ∀ pend, (lower pend p).panics = (lower [] p).panics := by
  induction p with
  | done => intro pend; simp [lower, panics_flush]
  | panic => intro pend; simp [lower, panics_flush]
  | emit c rest ih => intro pend; simpa [lower, Prog.panics] using ih pend
  | defer c rest ih => intro pend; rw [lower, lower, ih (c :: pend), ih [c]]
  | withLocal r body rest _ ihr => intro pend; simpa [lower, Prog.panics] using ihr pend

/-- **the destructors run when the body is left, after everything else the body did, newest first** — whether it is
    left by return or by a panic -/
theorem compile_lower_pend (t : Tid) (p : ProgD) :
    ∀ pend, compile t (lower pend p) = compile t (lower [] p) ++ pend.map (fun c => (t, Op.emit c)) := by
  induction p with
  | done => intro pend; simp [lower, compile_flush, flush, compile]
  | panic => intro pend; simp [lower, compile_flush, flush, compile]
  | emit c rest ih => intro pend; simp [lower, compile, ih pend]
  | defer c rest ih =>
    intro pend
    rw [lower, lower, ih (c :: pend), ih [c]]
    simp
  | withLocal r body rest _ ihr =>
    intro pend
    simp [lower, compile, ihr pend]

/-- `with_local_recorder(&r, || { let _d = EmitOnDrop(c); body })`: the op stream is `enter r`, the body, THEN the
    macro call `c`, and only then the frame's exit (by return or unwinding — the same flag the body alone would give) -/
theorem defer_runs_inside_scope (t : Tid) (r : RecId) (c : Call) (body rest : ProgD) :
    compileD t (.withLocal r (.defer c body) rest)
      = (t, .enter r) :: ((compile t (lower [] body) ++ [(t, .emit c)])
          ++ (t, .exit (lower [] body).panics) :: compile t (lower [] rest)) := by
  show compile t (.withLocal r (lower [c] body) (lower [] rest)) = _
  rw [compile, compile_lower_pend t body [c], panics_lower body [c]]
  rfl

/-- **every program of closures, macro calls, panics and "emit on drop" locals keeps the discipline** (any depth):
    `dispatch_innermost_partial` and `no_use_after_scope_partial` hold for every macro call in it, those made by
    destructors during unwinding included -/
theorem defer_programs_disciplined (t : Tid) (p : ProgD) (s : St) (h : LocalRec.Inv s) (he : s.ended = []) :
    disc s (compileD t p) = true ∧ liveGuards (run s (compileD t p)) t = liveGuards s t
      ∧ (run s (compileD t p)).loc t = s.loc t :=
  closures_only_disciplined t (lower [] p) s h he

/-- **a macro call made by the destructor of a local of a `with_local_recorder(&r, ..)` body reaches `r`**, exactly
    once, whatever the body did before (nested scopes, panics caught inside) and however it is left — by return or
    by a panic (then the call is made while the thread is unwinding) -/
theorem deferred_reaches_own_scope (t : Tid) (r : RecId) (c : Call) (body : ProgD) (s : St)
    (h : LocalRec.Inv s) (he : s.ended = []) :
    (step (run (step s t (.enter r)).1 (compile t (lower [] body))) t (.emit c)).2
      = .emitted { tid := t, target := .loc r, stale := false, call := c } := by
  have hnot : s.ended.contains r = false := by rw [he]; rfl
  obtain ⟨s1, hs1, i1, l1, _, e1⟩ := enter_spec s t r h hnot
  obtain ⟨_, ib, _, lb, _⟩ := closures_only_aux t (lower [] body) s1 i1 (e1.trans he)
  rw [hs1, step_emit _ t c ib]
  unfold innermost
  rw [lb, l1]
  rfl

/-- a body that panics after opening (and unwinding) a nested scope: the destructor's call is the op before each
    `exit true` -/
example :
    compileD 0 (.withLocal 1 (.defer c0 (.emit c0 (.withLocal 2 (.defer c0 .panic) .panic))) (.emit c0 .done))
      = [(0, .enter 1), (0, .emit c0), (0, .enter 2), (0, .emit c0), (0, .exit true), (0, .emit c0), (0, .exit true),
         (0, .emit c0)] := by decide +kernel

example :
    (run (init (some 900)) (compileD 0 (.withLocal 1 (.defer c0 (.emit c0 (.withLocal 2 (.defer c0 .panic) .panic))) (.emit c0 .done)))).log.map
        (fun e => (e.target, e.stale))
      = [(.loc 1, false), (.loc 2, false), (.loc 1, false), (.glob 900, false)] := by decide +kernel

/-- `with_recorder`'s SIGNATURE confines the recorder reference to the call (what `keepRef_rejected` stands for), and
    its whole body is the three-way dispatch and nothing else (no `thread::panicking()` test, no second lookup) -/
theorem src_with_recorder_sig_body :
    Generated.localrec_with_recorder_sig = "pub fn with_recorder<T>(f: impl FnOnce(&dyn Recorder) -> T) -> T"
    ∧ Generated.localrec_with_recorder_body
        = "{ LOCAL_RECORDER.with(|local_recorder| { if let Some(recorder) = local_recorder.get() { UNSAFE { f(recorder.as_ref()) } } else if let Some(global_recorder) = GLOBAL_RECORDER.try_load() { f(global_recorder) } else { f(&NOOP_RECORDER) } }) }" :=
  ⟨rfl, rfl⟩

/-- the guard type: no attribute (no `#[derive(Clone)]`), exactly the two fields, exactly one inherent impl with the
    private `new` and one trait impl, `Drop` (no manual `Clone`/`Copy`/`Send`/`Sync`) — what `dupGuard_rejected` and
    `foreign_drop_rejected` stand for -/
theorem src_guard_type :
    Generated.localrec_guard_attrs = []
    ∧ Generated.localrec_guard_decl = "pub struct LocalRecorderGuard<'a>"
    ∧ Generated.localrec_guard_fields
        = "{ prev_recorder: Option<NonNull<dyn Recorder>>, phantom: PhantomData<&'a dyn Recorder>, }"
    ∧ Generated.localrec_guard_impls = ["impl<'a> LocalRecorderGuard<'a>", "impl<'a> Drop for LocalRecorderGuard<'a>"]
    ∧ Generated.localrec_guard_impl_fns = ["fn new"] := ⟨rfl, rfl, rfl, rfl, rfl⟩

/-- the whole bodies of `LocalRecorderGuard::new`, its `Drop`, `set_default_local_recorder` and `set_global_recorder`:
    none of them calls a recorder method (`only_emit_logs`) or does anything besides the one `replace` / `set` -/
theorem src_scope_bodies :
    Generated.localrec_guard_new_body
        = "{ let recorder_ptr = UNSAFE { std::mem::transmute::<*const (dyn Recorder + 'a), *mut (dyn Recorder + 'static)>( recorder as &'a (dyn Recorder + 'a), ) }; let recorder_ptr = UNSAFE { NonNull::new_unchecked(recorder_ptr) }; let prev_recorder = LOCAL_RECORDER.with(|local_recorder| local_recorder.replace(Some(recorder_ptr))); Self { prev_recorder, phantom: PhantomData } }"
    ∧ Generated.localrec_guard_drop_impl
        = "{ fn drop(&mut self) { LOCAL_RECORDER.with(|local_recorder| local_recorder.replace(self.prev_recorder.take())); } }"
    ∧ Generated.localrec_set_default_body = "{ LocalRecorderGuard::new(recorder) }"
    ∧ Generated.localrec_set_global_sig
        = "pub fn set_global_recorder<R>(recorder: R) -> Result<(), SetRecorderError<R>> where R: Recorder + Sync + 'static,"
    ∧ Generated.localrec_set_global_body = "{ GLOBAL_RECORDER.set(recorder) }" := ⟨rfl, rfl, rfl, rfl, rfl⟩

/-- the full arm of `counter!/gauge!/histogram!`, whole: key, metadata, ONE unconditional `with_recorder` call whose
    value (the handle the recorder returned, `handleOf`) is the value of the macro; the two arms of `describe!`, whole:
    ONE unconditional `with_recorder` call of the named method with name, unit (`Some`/`None`), description; and each
    `describe_*!` forwards to `describe!` with its own method name -/
theorem src_macro_bodies :
    Generated.localrec_macro_full_arms
      = [("counter", "{{ let metric_key = $crate::key_var!($name $(, $label_key $(=> $label_value)?)*); let metadata = $crate::metadata_var!($target, $level); $crate::with_recorder(|recorder| recorder.register_counter(&metric_key, metadata)) }}"),
         ("gauge", "{{ let metric_key = $crate::key_var!($name $(, $label_key $(=> $label_value)?)*); let metadata = $crate::metadata_var!($target, $level); $crate::with_recorder(|recorder| recorder.register_gauge(&metric_key, metadata)) }}"),
         ("histogram", "{{ let metric_key = $crate::key_var!($name $(, $label_key $(=> $label_value)?)*); let metadata = $crate::metadata_var!($target, $level); $crate::with_recorder(|recorder| recorder.register_histogram(&metric_key, metadata)) }}")]
    ∧ Generated.localrec_describe_arms
      = ["{{ $crate::with_recorder(|recorder| { recorder.$method( ::core::convert::Into::into($name), ::core::option::Option::Some($unit), ::core::convert::Into::into($description), ); }); }}",
         "{{ $crate::with_recorder(|recorder| { recorder.$method( ::core::convert::Into::into($name), ::core::option::Option::None, ::core::convert::Into::into($description), ); }); }}"]
    ∧ Generated.localrec_describe_forwards
      = [("describe_counter", ["describe_counter, $name, $unit, $description", "describe_counter, $name, $description"]),
         ("describe_gauge", ["describe_gauge, $name, $unit, $description", "describe_gauge, $name, $description"]),
         ("describe_histogram", ["describe_histogram, $name, $unit, $description", "describe_histogram, $name, $description"])] :=
  ⟨rfl, rfl, rfl⟩

/-- a callback that emits, one that panics, inside a depth-2 scope: the log shows both deliveries at the inner
    recorder and the scope intact afterwards -/
example :
    (run (init (some 900)) [(0, .enter 1), (0, .enter 2), (0, .emit c0), (0, .emit c0), (0, .exit true), (0, .emit c0),
        (0, .exit false), (0, .emit c0)]).log.map (fun e => (e.target, e.stale))
      = [(.loc 2, false), (.loc 2, false), (.loc 1, false), (.glob 900, false)] := by decide +kernel

example : forms.length = 239 := by decide +kernel

end MetricsVerif.C01
