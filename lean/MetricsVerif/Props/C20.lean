/-
C20 — a recoverable recorder is live until recovered, inert and dropped once after.

Step machine: `Model/Recoverable.lean` (one step = one operation on the `Arc` strong count; PC names = yield
point ids in recoverable.rs plus the harness's own `rec.inside` / `h.drop` points).  Theorems hold for every
program list (any number of emitting threads, any number of emissions, `into_inner` or handle drop on any
thread) and EVERY schedule, by the inductive invariant `Proofs/Recoverable.lean: Inv`.
-/
import MetricsVerif.Proofs.Recoverable
import MetricsVerif.Generated.SourceFacts

namespace MetricsVerif.C20
open MetricsVerif.Recoverable

theorem reachable_inv (progs : List (List Call)) (sched : List Nat) : Inv (run (init progs) sched) :=
  run_inv sched _ (init_inv progs)

/-- **live while the handle is alive**: the strong count is ≥ 1, so every emission's upgrade succeeds and
    the call enters the wrapped recorder -/
theorem live_while_handle (progs : List (List Call)) (sched : List Nat) (t : Thread) (rest : List Call)
    (hh : (run (init progs) sched).handle = true) (hpc : t.pc = .upgrade) (hc : t.calls = .emit :: rest) :
    (stepThread (run (init progs) sched) t).2.pc = .inside := by
  rw [stepThread_congr hpc hc]
  exact congrArg (·.2.pc) (upgradeStep_pos ((reachable_inv progs sched).pos_of_handle hh))

/-- a call that entered is delivered (it leaves the recorder with result `delivered`) -/
theorem entered_is_delivered (s : Sys) (t : Thread) (rest : List Call)
    (hpc : t.pc = .inside) (hc : t.calls = .emit :: rest) :
    (stepThread s t).2.results = t.results ++ [Res.delivered] := by
  rw [stepThread_congr hpc hc]; rfl

/-- **into_inner is exclusive**: in every interleaving, whenever `into_inner` took the recorder out, no
    emission was executing inside it (the `unwrapBusy` flag of the model is never raised) … -/
theorem into_inner_exclusive (progs : List (List Call)) (sched : List Nat) :
    (run (init progs) sched).unwrapBusy = false := (reachable_inv progs sched).no_busy_unwrap

/-- … and afterwards nobody is inside and the count is zero -/
theorem after_recovery_quiet (progs : List (List Call)) (sched : List Nat)
    (hr : (run (init progs) sched).recovered = true) :
    (run (init progs) sched).strong = 0 ∧ (run (init progs) sched).inside = 0
    ∧ (run (init progs) sched).handle = false ∧ (run (init progs) sched).finalised = 0 := by
  have h := reachable_inv progs sched
  have h0 := h.ended (Or.inr hr)
  have hh := h.handle_gone h0
  have ho : _ + 1 ≤ 1 := hr ▸ h.once
  exact ⟨h0, (h.strong_of_no_handle hh).symm.trans h0, hh, Nat.eq_zero_of_le_zero (Nat.le_of_succ_le_succ ho)⟩

/-- **no call enters after finalisation began or after recovery**, in every interleaving -/
theorem no_entry_after_end (progs : List (List Call)) (sched : List Nat) :
    (run (init progs) sched).enteredAfterEnd = false := (reachable_inv progs sched).no_late_entry

/-- **dropped exactly once, or handed back — never both, never twice** -/
theorem finalised_at_most_once (progs : List (List Call)) (sched : List Nat) :
    (run (init progs) sched).finalised + (if (run (init progs) sched).recovered then 1 else 0) ≤ 1 :=
  (reachable_inv progs sched).once

/-- once the count is zero it stays zero: the end is final -/
theorem ended_stays_ended (sched : List Nat) : ∀ s, Recoverable.Inv s → s.strong = 0 → (run s sched).strong = 0 := by
  induction sched with
  | nil => intro s _ h0; exact h0
  | cons tid ts ih =>
    intro s h h0
    refine ih _ (step_inv s tid h) ?_
    cases hg : s.threads[tid]? with
    | none => rw [step_none s tid hg]; exact h0
    | some t => rw [step_some s tid t hg]; exact ((stepThread_eff s t).frozen h hg h0).symm ▸ h0

/-- **inert after the end**: once the recorder was recovered, or dropped (count zero), every later
    registration / description through the wrapper is ignored (inert handle), in every continuation -/
theorem inert_after_end (progs : List (List Call)) (sched more : List Nat) (t : Thread) (rest : List Call)
    (h0 : (run (init progs) sched).strong = 0) (hpc : t.pc = .upgrade) (hc : t.calls = .emit :: rest) :
    let s := run (run (init progs) sched) more
    (stepThread s t).2.results = t.results ++ [Res.ignored] ∧ (stepThread s t).1 = s := by
  have hz := ended_stays_ended more _ (reachable_inv progs sched) h0
  exact (stepThread_upgrade_zero hpc hc rfl hz).symm

/-- recovery or the final drop are exactly the states with count zero and no handle -/
theorem ended_iff (progs : List (List Call)) (sched : List Nat) :
    ((run (init progs) sched).finalised > 0 ∨ (run (init progs) sched).recovered = true)
      ↔ ((run (init progs) sched).strong = 0 ∧ (run (init progs) sched).handle = false) := by
  have h := reachable_inv progs sched
  exact ⟨fun x => ⟨h.ended x, h.handle_gone (h.ended x)⟩, fun ⟨a, b⟩ => h.gone a b⟩

/-- `into_inner` succeeds as soon as it is scheduled with nobody inside (the retry loop can end) -/
theorem into_inner_returns_when_quiet (progs : List (List Call)) (sched : List Nat) (t : Thread) (rest : List Call)
    (hh : (run (init progs) sched).handle = true) (hi : (run (init progs) sched).inside = 0)
    (hpc : t.pc = .tryUnwrap) (hc : t.calls = .intoInner :: rest) :
    (stepThread (run (init progs) sched) t).1.recovered = true := by
  have h1 : (run (init progs) sched).strong = 1 := by rw [(reachable_inv progs sched).strong_of_handle hh, hi]
  rw [stepThread_congr hpc hc]
  simp only [stepThread]
  rw [hh, h1]; rfl

/-! ### emissions in which the wrapped recorder panics, or re-enters the wrapper; `install`

The wrapper keeps no state of its own between calls: whatever a forwarded call does (return, unwind, emit again
through the same wrapper), the only thing that changes is the strong count, and it is back where it was when the
call is over.  So a thread that survived a panic of the recorder is served like any other afterwards, and a
re-entrant emission — made while the same thread holds a strong reference — can never find the recorder gone. -/

/-- the four kinds of emission (the last: a registration whose returned handle the caller keeps) -/
def isEmission (c : Call) : Prop := c = .emit ∨ c = .emitPanic ∨ c = .emitNested ∨ c = .emitKeep

/-- **live while the handle is alive, for every kind of emission** (plain, panicking recorder, re-entrant
    recorder): the upgrade succeeds and the call enters the recorder; the system takes the `enter` step -/
theorem live_while_handle_any (progs : List (List Call)) (sched : List Nat) (t : Thread) (c : Call) (rest : List Call)
    (hh : (run (init progs) sched).handle = true) (hpc : t.pc = .upgrade) (hc : t.calls = c :: rest)
    (he : isEmission c) :
    ((stepThread (run (init progs) sched) t).2.pc = .inside ∨ (stepThread (run (init progs) sched) t).2.pc = .nUpgrade)
    ∧ (stepThread (run (init progs) sched) t).1 = enter (run (init progs) sched)
    ∧ (stepThread (run (init progs) sched) t).2.results = t.results := by
  have hpos := (reachable_inv progs sched).pos_of_handle hh
  have ⟨e1, e2, _⟩ := stepThread_upgrade_pos hpc hc (by rcases he with rfl | rfl | rfl | rfl <;> rfl) hpos
  refine ⟨?_, e1, e2⟩
  rw [stepThread_congr hpc hc]
  rcases he with rfl | rfl | rfl | rfl
  · exact .inl (congrArg (·.2.pc) (upgradeStep_pos hpos))
  · exact .inl (congrArg (·.2.pc) (upgradeStep_pos hpos))
  · exact .inr (congrArg (·.2.pc) (upgradeStep_pos hpos))
  · exact .inl (congrArg (·.2.pc) (keepUpgradeStep_pos hpos))

/-- **a panic of the wrapped recorder leaks nothing**: the unwinding call leaves the system in exactly the state a
    normal return would have left it in (strong reference released, recorder finalised iff it was the last one);
    only the thread's own result differs.  Together with `live_while_handle_any` (which asks nothing about the
    thread's history): after a panic the same thread's next emission is delivered while the handle is alive. -/
theorem panic_unwinds_like_return (s : Sys) (t : Thread) (rest : List Call)
    (hpc : t.pc = .inside) (hc : t.calls = .emitPanic :: rest) :
    (stepThread s t).1 = (stepThread s { t with calls := .emit :: rest }).1
    ∧ (stepThread s t).2.results = t.results ++ [Res.panicked]
    ∧ (stepThread s t).2.calls = rest := by
  rw [stepThread_congr hpc hc, stepThread_congr (t := { t with calls := .emit :: rest }) hpc rfl]
  exact ⟨rfl, rfl, rfl⟩

/-- **a re-entrant emission always reaches the recorder**: in every interleaving, a thread that is inside the
    recorder (outer call of an `emitNested`) and emits again through the wrapper finds the count > 0 — whatever
    happened to the handle meanwhile — enters a second time, and `into_inner` cannot succeed before both calls
    have left (`into_inner_exclusive`) -/
theorem nested_always_delivered (progs : List (List Call)) (sched : List Nat) (tid : Nat) (t : Thread) (rest : List Call)
    (hg : (run (init progs) sched).threads[tid]? = some t)
    (hpc : t.pc = .nUpgrade) (hc : t.calls = .emitNested :: rest) :
    (stepThread (run (init progs) sched) t).2.pc = .nInside
    ∧ (stepThread (run (init progs) sched) t).1 = enter (run (init progs) sched) := by
  have hpos : 0 < (run (init progs) sched).strong :=
    (reachable_inv progs sched).le_strong hg (by rw [insN, hpc]; exact Nat.le_refl 1)
  rw [stepThread_congr hpc hc]
  simp only [stepThread]
  rw [if_pos hpos]; exact ⟨rfl, rfl⟩

/-- the inner call of a re-entrant emission returns to the outer call (result `nestedDelivered`), never
    finalising the recorder: the outer call still holds a reference -/
theorem nested_leave_keeps_recorder (progs : List (List Call)) (sched : List Nat) (tid : Nat) (t : Thread) (rest : List Call)
    (hg : (run (init progs) sched).threads[tid]? = some t)
    (hpc : t.pc = .nInside) (hc : t.calls = .emitNested :: rest) :
    (stepThread (run (init progs) sched) t).2.pc = .inside
    ∧ (stepThread (run (init progs) sched) t).2.results = t.results ++ [Res.nestedDelivered]
    ∧ (stepThread (run (init progs) sched) t).1.finalised = (run (init progs) sched).finalised
    ∧ (stepThread (run (init progs) sched) t).1.strong > 0 := by
  have hs : 2 ≤ (run (init progs) sched).strong :=
    (reachable_inv progs sched).le_strong hg (by rw [insN, hpc]; exact Nat.le_refl 2)
  rw [stepThread_congr hpc hc]
  exact ⟨rfl, rfl, release_keeps hs⟩

/-- **a failed install hands the recorder back intact** (last clause of the property): whatever recorder `g`
    occupies the global cell and whichever recorder `id` is being installed, `install` leaves the cell alone and
    returns recorder `id` itself, recovered through `into_inner`, finalised zero times -/
theorem failed_install_hands_back (g id : Nat) :
    install (some g) id = (some g, .handedBack id 0 true) := rfl

/-- a successful install occupies the cell; the pair then lives as `init` (handle alive, count 1), to which
    every theorem above applies -/
theorem install_success (id : Nat) (progs : List (List Call)) :
    install none id = (some id, .installed) ∧ (init progs).handle = true ∧ (init progs).strong = 1 := ⟨rfl, rfl, rfl⟩

/-- on the error path of `install` the pair is only ever in one of three states, under EVERY schedule (thread
    ids that do not exist included): built, about to try the unwrap, recovered -/
theorem failed_install_states (sched : List Nat) :
    failedInstallSys sched = failedInstallSys [] ∨ failedInstallSys sched = failedInstallSys [0]
    ∨ failedInstallSys sched = failedInstallSys [0, 0] :=
  List.foldlRecOn sched step (.inl rfl)
    (motive := fun s => s = failedInstallSys [] ∨ s = failedInstallSys [0] ∨ s = failedInstallSys [0, 0])
    fun s h tid _ => by
      rcases h with h | h | h <;> subst h <;> cases tid with
      | zero => first | exact Or.inr (Or.inl rfl) | exact Or.inr (Or.inr rfl)
      | succ n => first | exact Or.inl rfl | exact Or.inr (Or.inl rfl) | exact Or.inr (Or.inr rfl)

/-- … hence, in every schedule, the recorder is never finalised by the library, nothing is ever inside it, the
    unwrap never races anything, and the very first unwrap attempt succeeds -/
theorem failed_install_intact (sched : List Nat) :
    (failedInstallSys sched).finalised = 0 ∧ (failedInstallSys sched).inside = 0
    ∧ (failedInstallSys sched).unwrapBusy = false ∧ (failedInstallSys sched).enteredAfterEnd = false
    ∧ (failedInstallSys (0 :: 0 :: sched)).recovered = true := by
  -- once recovered, the pair stays as it is
  have hrec : (failedInstallSys (0 :: 0 :: sched)).recovered = true :=
    congrArg Sys.recovered (List.foldlRecOn sched step (motive := (· = failedInstallSys [0, 0])) rfl
      fun s h tid _ => by subst h; cases tid <;> rfl)
  rcases failed_install_states sched with h | h | h <;> rw [h] <;> exact ⟨rfl, rfl, rfl, rfl, hrec⟩

/-! ### metric handles the caller KEEPS across the end of the recorder's life

`let c = counter!("x")` keeps the `Counter` the wrapper returned; the caller may hold it for as long as it likes, write
through it and drop it whenever it likes — also after the recovery handle was dropped or `into_inner` was called.
In the model the kept handles are part of the thread state (`Thread.kept`, one Boolean per handle: live / inert).
What the wrapper returns is the wrapped recorder's OWN handle (`src_recoverable_bodies`: the forwarding arm is the
value of the method), the strong reference of the call is a local of that arm: so the count is "handle + calls
inside" whatever is kept, and a kept handle can neither delay `into_inner`, nor delay the finalisation after a
handle drop, nor keep later registrations alive. -/

/-- handles kept by all threads together -/
def keptCount (s : Sys) : Nat := (s.threads.map (fun t => t.kept.length)).sum

/-- no thread is between its upgrade and its return (no emission is executing) -/
def quiet (s : Sys) : Prop := ∀ u ∈ s.threads, insN u = 0

/-- **a kept handle holds no reference to the recorder**: in every reachable state the strong count is one for
    the recovery handle plus one per call executing inside the recorder — the kept handles, however many, do not
    occur in it -/
theorem kept_handles_hold_no_reference (progs : List (List Call)) (sched : List Nat) :
    (run (init progs) sched).strong
      = (if (run (init progs) sched).handle then 1 else 0) + insCount (run (init progs) sched) := by
  have h := reachable_inv progs sched
  rw [h.strong_eq, h.inside_eq]

/-- the registration whose handle is kept releases its strong reference exactly like a plain emission (same
    successor state of the pair: last reference ⇒ finalised); the thread's list of kept handles grows by a live one -/
theorem keep_releases_like_emit (s : Sys) (t : Thread) (rest : List Call)
    (hpc : t.pc = .inside) (hc : t.calls = .emitKeep :: rest) :
    (stepThread s t).1 = (stepThread s { t with calls := .emit :: rest }).1
    ∧ (stepThread s t).2.results = t.results ++ [Res.delivered]
    ∧ (stepThread s t).2.kept = t.kept ++ [true]
    ∧ (stepThread s t).2.calls = rest := by
  rw [stepThread_congr hpc hc, stepThread_congr (t := { t with calls := .emit :: rest }) hpc rfl]
  exact ⟨rfl, rfl, rfl, rfl⟩

/-- **writing through kept handles and dropping them changes nothing of the pair** (count, finalisation,
    recovery, who is inside): at whatever pc, a step of a thread whose next call is `useKept` / `dropKept` leaves
    the system as it is — in particular dropping a kept handle never finalises the recorder and never lets a
    spinning `into_inner` through, and keeping it never holds either back -/
theorem kept_use_and_drop_touch_nothing (s : Sys) (t : Thread) (c : Call) (rest : List Call)
    (hc : t.calls = c :: rest) (h : c = .useKept ∨ c = .dropKept) : (stepThread s t).1 = s := by
  rw [stepThread_congr rfl hc]
  generalize t.pc = pc
  rcases h with rfl | rfl <;> cases pc <;> rfl

/-- what `useKept` answers: how many of the kept handles are live (came from the recorder) and how many inert;
    the handles stay kept -/
theorem use_counts_kept (s : Sys) (t : Thread) (rest : List Call) (hpc : t.pc = .use) (hc : t.calls = .useKept :: rest) :
    (stepThread s t).2.results
      = t.results ++ [Res.used (t.kept.filter (· == true)).length (t.kept.filter (· == false)).length]
    ∧ (stepThread s t).2.kept = t.kept := by
  rw [stepThread_congr hpc hc]; exact ⟨rfl, rfl⟩

/-- **a kept handle does not keep the recorder alive after a handle drop**: once the recovery handle is gone and
    no emission is executing, the count is zero and the recorder has been finalised (exactly once) or recovered —
    however many metric handles the threads still keep (`keptCount` is unconstrained) -/
theorem kept_handle_does_not_keep_alive (progs : List (List Call)) (sched : List Nat)
    (hh : (run (init progs) sched).handle = false) (hq : quiet (run (init progs) sched)) :
    (run (init progs) sched).strong = 0
    ∧ ((run (init progs) sched).finalised = 1 ∨ (run (init progs) sched).recovered = true) := by
  have h := reachable_inv progs sched
  exact h.ended_of_quiet hh (h.inside_eq.trans (insCount_zero_of_quiet _ hq))

/-- **`into_inner` returns although handles are kept**: in every reachable state in which the recovery handle is
    alive and no emission is executing — e.g. all emitters are done, each still keeping the handles it got through
    the wrapper — the next `Arc::try_unwrap` attempt of `into_inner` succeeds: the thread gets `recovered`, the
    recorder was not finalised, nobody is inside -/
theorem into_inner_returns_despite_kept_handles (progs : List (List Call)) (sched : List Nat) (tid : Nat)
    (t : Thread) (rest : List Call)
    (hg : (run (init progs) sched).threads[tid]? = some t)
    (hh : (run (init progs) sched).handle = true) (hq : quiet (run (init progs) sched))
    (hpc : t.pc = .tryUnwrap) (hc : t.calls = .intoInner :: rest) :
    (step (run (init progs) sched) tid).recovered = true
    ∧ (step (run (init progs) sched) tid).finalised = 0
    ∧ (step (run (init progs) sched) tid).strong = 0
    ∧ (stepThread (run (init progs) sched) t).2.results = t.results ++ [Res.recovered] := by
  have h := reachable_inv progs sched
  have h1 : (run (init progs) sched).strong = 1 := by
    rw [h.strong_of_handle hh, h.inside_eq, insCount_zero_of_quiet _ hq]
  rw [step_some _ tid t hg, stepThread_congr hpc hc]
  simp only [stepThread]
  rw [hh, h1]
  exact ⟨rfl, (h.handle_live hh).1, rfl, rfl⟩

/-- **inert after the end, kept handles included**: once the count is zero (recovered, or dropped for good), a
    registration whose handle is kept is ignored in every continuation, the pair is untouched, and what the caller
    keeps is an inert handle -/
theorem inert_after_end_keep (progs : List (List Call)) (sched more : List Nat) (t : Thread) (rest : List Call)
    (h0 : (run (init progs) sched).strong = 0) (hpc : t.pc = .upgrade) (hc : t.calls = .emitKeep :: rest) :
    let s := run (run (init progs) sched) more
    (stepThread s t).2.results = t.results ++ [Res.ignored] ∧ (stepThread s t).2.kept = t.kept ++ [false]
    ∧ (stepThread s t).1 = s := by
  have hz := ended_stays_ended more _ (reachable_inv progs sched) h0
  show _ ∧ _ ∧ _
  rw [stepThread_congr hpc hc]
  simp only [stepThread]
  rw [keepUpgradeStep_zero hz]
  exact ⟨rfl, rfl, rfl⟩

/-- the kept list tells the truth about every handle in it: a step appends `true` only when the registration was
    inside the recorder, `false` only when the count was zero -/
theorem kept_grows_truthfully (s : Sys) (t : Thread) (b : Bool)
    (h : (stepThread s t).2.kept = t.kept ++ [b]) :
    (b = true → t.pc = .inside) ∧ (b = false → s.strong = 0 ∧ t.pc = .upgrade) := by
  have key : ∀ {l : List Bool}, l ≠ l ++ [b] := fun hx => by
    have := congrArg List.length hx
    rw [List.length_append] at this
    exact absurd this (Nat.ne_of_lt (Nat.lt_succ_self _))
  rcases stepThread_kept s t with e | ⟨e, hp⟩ | ⟨e, h0, hp⟩ | e <;> rw [e] at h
  · exact absurd h key
  · cases List.append_cancel_left h
    exact ⟨fun _ => hp, nofun⟩
  · cases List.append_cancel_left h
    exact ⟨nofun, fun _ => ⟨h0, hp⟩⟩
  · exact absurd (congrArg List.length h) (by rw [List.length_append]; exact Nat.ne_of_lt (Nat.succ_pos _))

/-! ### what every complete schedule ends with

A free-running round of the harness has no schedule to replay; the driver's `recover free` answers with what the
round-robin schedule gives.  That is sound because of the theorems below: once every thread has run its program to
the end, (finalised, recovered) is a function of the PROGRAMS alone (`completeOutcome`), whatever the interleaving
was; `late` / `busy` are false in every state anyway.  The invariant behind it: the handle is gone exactly when an
end call was executed (some thread got the answer `recovered` or `dropped`), and answers + calls still to make stay
in balance with what the programs contain (`Proofs/Recoverable.lean: EndInv`). -/

theorem reachable_endInv (progs : List (List Call)) (sched : List Nat) : EndInv progs (run (init progs) sched) :=
  run_endInv progs sched _ (init_endInv progs)

/-- every thread has run its program to the end -/
def complete (s : Sys) : Prop := ∀ t ∈ s.threads, t.pc = .done

/-- **the handle is gone exactly when an end call was executed**: in every reachable state, `handle = false` iff
    the threads together have received at least one `recovered` / `dropped` answer; and the recorder counts as
    recovered iff exactly one `recovered` answer was handed out -/
theorem handle_gone_iff_end_executed (progs : List (List Call)) (sched : List Nat) :
    ((run (init progs) sched).handle = false
        ↔ sumT recN (run (init progs) sched) + sumT drpN (run (init progs) sched) > 0)
    ∧ sumT recN (run (init progs) sched) = (if (run (init progs) sched).recovered then 1 else 0) := by
  have h := reachable_endInv progs sched
  exact ⟨h.handle_iff, h.rec_flag⟩

/-- once every thread is done, the answers `recovered` / `dropped` handed out are the end calls of the programs
    (a handle drop may have gone unanswered only when the handle was gone already), and nobody is inside -/
theorem complete_answers {progs : List (List Call)} {s : Sys} (h : EndInv progs s) (hc : complete s) :
    sumT recN s = iiTotal progs ∧ sumT drpN s ≤ dhTotal progs
    ∧ (sumT drpN s = dhTotal progs ∨ s.handle = false) ∧ s.inside = 0 := by
  have hcalls : ∀ t ∈ s.threads, t.calls = [] := fun t ht => h.done_ok t ht (hc t ht)
  have zi : sumT iiLeft s = 0 := sumT_eq_zero fun t ht => by unfold iiLeft; rw [hcalls t ht]; rfl
  have zd : sumT dhLeft s = 0 := sumT_eq_zero fun t ht => by unfold dhLeft; rw [hcalls t ht]; rfl
  have e1 := h.ii_bal
  have e2 := h.dh_le
  have e3 := h.dh_eq
  rw [zi] at e1
  rw [zd] at e2 e3
  exact ⟨e1, e2, e3, h.inv.inside_eq.trans (insCount_zero_of_quiet s fun u hu => by rw [insN, hc u hu]; rfl)⟩

/-- **all complete schedules end alike**: if every thread has run its program to the end, then (finalised, recovered)
    is `completeOutcome progs` — (0, recovered) if the programs contain an `into_inner`, else (1, not recovered) if
    they contain a handle drop (plain or from inside a forwarded call), else (0, not recovered): the handle is
    still alive — and no call entered late, no unwrap was busy.  Unbounded: any programs, any schedule. -/
theorem complete_outcome (progs : List (List Call)) (sched : List Nat)
    (hc : complete (run (init progs) sched)) :
    ((run (init progs) sched).finalised, (run (init progs) sched).recovered) = completeOutcome progs
    ∧ (run (init progs) sched).enteredAfterEnd = false ∧ (run (init progs) sched).unwrapBusy = false := by
  have h := reachable_endInv progs sched
  refine ⟨?_, h.inv.no_late_entry, h.inv.no_busy_unwrap⟩
  generalize run (init progs) sched = s at h hc
  have ⟨e1, e2, e3, hi⟩ := complete_answers h hc
  have hrf := h.rec_flag
  have e4 := h.handle_iff
  have honce := h.inv.once
  unfold completeOutcome
  cases hr : s.recovered with
  | true =>
    rw [hr] at hrf honce
    simp only [↓reduceIte] at hrf honce
    rw [if_pos (by omega), show s.finalised = 0 by omega]
  | false =>
    rw [hr] at hrf honce
    simp only [Bool.false_eq_true, ↓reduceIte] at hrf honce
    rw [if_neg (by omega)]
    by_cases c2 : dhTotal progs > 0
    · have hh : s.handle = false := e3.elim (fun x => e4.2 (by omega)) id
      have h0 : s.strong = 0 := (h.inv.strong_of_no_handle hh).trans hi
      have hf : s.finalised > 0 := (h.inv.gone h0 hh).elim id fun x => absurd (hr.symm.trans x) Bool.noConfusion
      rw [if_pos c2, show s.finalised = 1 by omega]
    · have hh : s.handle = true := eq_true_of_ne_false fun x => by have := e4.1 x; omega
      rw [if_neg c2, (h.inv.handle_live hh).1]

/-- … so any two complete schedules of the same programs agree on everything a free-running round reports -/
theorem complete_schedules_agree (progs : List (List Call)) (s1 s2 : List Nat)
    (h1 : complete (run (init progs) s1)) (h2 : complete (run (init progs) s2)) :
    (run (init progs) s1).finalised = (run (init progs) s2).finalised
    ∧ (run (init progs) s1).recovered = (run (init progs) s2).recovered
    ∧ (run (init progs) s1).enteredAfterEnd = (run (init progs) s2).enteredAfterEnd
    ∧ (run (init progs) s1).unwrapBusy = (run (init progs) s2).unwrapBusy := by
  have a := complete_outcome progs s1 h1
  have b := complete_outcome progs s2 h2
  have e := a.1.trans b.1.symm
  simp only [Prod.mk.injEq] at e
  exact ⟨e.1, e.2, by rw [a.2.1, b.2.1], by rw [a.2.2, b.2.2]⟩

/-- a schedule can only be complete if the programs ask for `into_inner` at most once (a second one spins for ever) -/
theorem complete_needs_single_into_inner (progs : List (List Call)) (sched : List Nat)
    (hc : complete (run (init progs) sched)) : iiTotal progs ≤ 1 := by
  have h := reachable_endInv progs sched
  generalize run (init progs) sched = s at h hc
  have e1 := (complete_answers h hc).1
  have hrf := h.rec_flag
  cases hr : s.recovered <;> rw [hr] at hrf <;> simp only [Bool.false_eq_true, ↓reduceIte] at hrf <;> omega

/-! ### re-entrancy deeper than one level; ending the handle's life from INSIDE a forwarded call

`emitDeep d`: the recorder's own emission re-enters the recorder, which emits again, … `d` levels (the thread holds
up to `d + 1` references).  `emitDropInside`: the recorder drops the RecoveryHandle from inside a forwarded call.
`emitIntoInside`: the recorder calls `into_inner` from inside a forwarded call.  The invariant `Inv` (count = handle
+ calls inside, per-thread share `pcIns`) covers them: a thread at `dUp k` / `dIn k` holds `k` references. -/

/-- the kinds of emission in which the recorder re-enters the wrapper more than once, or ends the handle's life -/
def isReentrant (c : Call) : Prop := (∃ d, c = .emitDeep d) ∨ c = .emitDropInside ∨ c = .emitIntoInside

/-- **live while the handle is alive**, for these kinds too: the upgrade succeeds, the system takes the `enter`
    step, the thread is inside once -/
theorem live_while_handle_reentrant (progs : List (List Call)) (sched : List Nat) (t : Thread) (c : Call) (rest : List Call)
    (hh : (run (init progs) sched).handle = true) (hpc : t.pc = .upgrade) (hc : t.calls = c :: rest)
    (he : isReentrant c) :
    (stepThread (run (init progs) sched) t).1 = enter (run (init progs) sched)
    ∧ (stepThread (run (init progs) sched) t).2.results = t.results
    ∧ insN (stepThread (run (init progs) sched) t).2 = 1 :=
  stepThread_upgrade_pos hpc hc (by rcases he with ⟨d, rfl⟩ | rfl | rfl <;> rfl)
    ((reachable_inv progs sched).pos_of_handle hh)

/-- **a re-entrant emission reaches the recorder at every depth**: a thread that is inside the recorder `k ≥ 1` times
    and emits once more through the wrapper finds the count > 0 in every interleaving — whatever happened to the
    handle meanwhile — and enters a `k + 1`-th time -/
theorem deep_nested_always_delivered (progs : List (List Call)) (sched : List Nat) (tid : Nat) (t : Thread)
    (k d : Nat) (rest : List Call)
    (hg : (run (init progs) sched).threads[tid]? = some t)
    (hpc : t.pc = .dUp k) (hk : k ≥ 1) (hc : t.calls = .emitDeep d :: rest) :
    (stepThread (run (init progs) sched) t).1 = enter (run (init progs) sched)
    ∧ insN (stepThread (run (init progs) sched) t).2 = k + 1
    ∧ (stepThread (run (init progs) sched) t).2.results = t.results := by
  have hpos : 0 < (run (init progs) sched).strong :=
    (reachable_inv progs sched).le_strong hg (by rw [insN, hpc]; exact hk)
  rw [stepThread_congr hpc hc]
  simp only [stepThread, deepUpStep]
  rw [if_neg (Nat.ne_of_gt hk), if_pos hpos]
  refine ⟨rfl, ?_, rfl⟩
  show pcIns (if k + 1 > d then .dIn (k + 1) else .dUp (k + 1)) = k + 1
  split <;> rfl

/-- the innermost of `k ≥ 2` calls returns to the one around it (`nestedDelivered`), never finalising the recorder:
    the calls around it still hold references -/
theorem deep_leave_keeps_recorder (progs : List (List Call)) (sched : List Nat) (tid : Nat) (t : Thread)
    (k d : Nat) (rest : List Call)
    (hg : (run (init progs) sched).threads[tid]? = some t)
    (hpc : t.pc = .dIn k) (hk : k ≥ 2) (hc : t.calls = .emitDeep d :: rest) :
    (stepThread (run (init progs) sched) t).2.results = t.results ++ [Res.nestedDelivered]
    ∧ insN (stepThread (run (init progs) sched) t).2 = k - 1
    ∧ (stepThread (run (init progs) sched) t).1.finalised = (run (init progs) sched).finalised
    ∧ (stepThread (run (init progs) sched) t).1.strong > 0 := by
  have hs : 2 ≤ (run (init progs) sched).strong :=
    (reachable_inv progs sched).le_strong hg (by rw [insN, hpc]; exact hk)
  rw [stepThread_congr hpc hc]
  simp only [stepThread, deepLeaveStep]
  rw [if_neg (Nat.not_lt.2 hk)]
  refine ⟨rfl, ?_, release_keeps hs⟩
  show pcIns (if k = 2 then .inside else .dIn (k - 1)) = k - 1
  split
  · next h => rw [h]; rfl
  · rfl

/-- **`drop(handle)` from inside a forwarded call defers the finalisation to the return of that call**: the handle
    is gone, the recorder is NOT finalised by that step (the call itself holds a reference: count > 0 afterwards),
    nobody left the recorder; what is left of the call is the return of a plain emission, which finalises the
    recorder iff it is the last one out (`keep_releases_like_emit` / `inert_after_handle_drop_partial`) -/
theorem drop_inside_defers_finalisation (progs : List (List Call)) (sched : List Nat) (tid : Nat) (t : Thread)
    (rest : List Call)
    (hg : (run (init progs) sched).threads[tid]? = some t)
    (hpc : t.pc = .iHdrop) (hc : t.calls = .emitDropInside :: rest) :
    (stepThread (run (init progs) sched) t).1.handle = false
    ∧ (stepThread (run (init progs) sched) t).1.finalised = (run (init progs) sched).finalised
    ∧ (stepThread (run (init progs) sched) t).1.strong > 0
    ∧ (stepThread (run (init progs) sched) t).1.inside = (run (init progs) sched).inside
    ∧ (stepThread (run (init progs) sched) t).2.results = t.results ++ [Res.dropped]
    ∧ (stepThread (run (init progs) sched) t).2.pc = .inside
    ∧ (stepThread (run (init progs) sched) t).2.calls = .emit :: rest := by
  have h := reachable_inv progs sched
  have hle := h.held hg
  rw [insN, hpc] at hle
  rw [stepThread_congr hpc hc]
  simp only [stepThread, dropInsideStep]
  cases hh : (run (init progs) sched).handle with
  | true =>
    rw [hh] at hle
    rw [if_pos rfl]
    have rk := release_keeps (s := { run (init progs) sched with handle := false }) hle
    exact ⟨(release_hr _).1, rk.1, rk.2, (release_hr _).2.2, rfl, rfl, rfl⟩
  | false =>
    rw [if_neg Bool.noConfusion]
    exact ⟨hh, rfl, Nat.le_trans (Nat.le_add_left ..) hle, rfl, rfl, rfl, rfl⟩

/-- one attempt of an `into_inner` called from inside a forwarded call fails, in every state satisfying the invariant:
    the calling thread holds a reference itself, so the count is not 1 while the handle exists -/
theorem iTry_retries (s : Sys) (hinv : Recoverable.Inv s) (tid : Nat) (t : Thread) (rest : List Call)
    (hg : s.threads[tid]? = some t) (hpc : t.pc = .iTry) (hc : t.calls = .emitIntoInside :: rest) :
    stepThread s t = (s, t) ∧ s.recovered = false ∧ s.finalised = 0 := by
  have hle := hinv.held hg
  rw [insN, hpc] at hle
  have hpos : 0 < s.strong := Nat.le_trans (Nat.le_add_left ..) hle
  refine ⟨?_, (hinv.live hpos).2, (hinv.live hpos).1⟩
  have ht : ({ t with pc := .iTry, calls := .emitIntoInside :: rest } : Thread) = t := by rw [← hpc, ← hc]
  rw [stepThread_congr hpc hc]
  simp only [stepThread, intoInsideStep]
  rw [ht]
  refine if_neg fun x => ?_
  rw [Bool.and_eq_true, decide_eq_true_eq] at x
  rw [x.1, x.2] at hle
  exact absurd hle (by decide)

/-- **`into_inner` called from inside a forwarded call never returns**: in every interleaving every one of its
    attempts fails (nothing changes), and while it tries the recorder is neither recovered nor finalised -/
theorem into_inner_from_inside_never_returns (progs : List (List Call)) (sched : List Nat) (tid : Nat) (t : Thread)
    (rest : List Call)
    (hg : (run (init progs) sched).threads[tid]? = some t)
    (hpc : t.pc = .iTry) (hc : t.calls = .emitIntoInside :: rest) :
    stepThread (run (init progs) sched) t = (run (init progs) sched, t)
    ∧ (run (init progs) sched).recovered = false ∧ (run (init progs) sched).finalised = 0 :=
  iTry_retries _ (reachable_inv progs sched) tid t rest hg hpc hc

/-- … for ever: whatever the other threads do afterwards (any continuation `more`), the thread is still at the head
    of the retry loop, the recorder is never recovered and never finalised — the pair is blocked for good
    (consistent with "into_inner returns only when no emission is executing": its own call is) -/
theorem into_inner_from_inside_blocks_forever (progs : List (List Call)) (sched more : List Nat) (tid : Nat)
    (t : Thread) (rest : List Call)
    (hg : (run (init progs) sched).threads[tid]? = some t)
    (hpc : t.pc = .iTry) (hc : t.calls = .emitIntoInside :: rest) :
    (run (run (init progs) sched) more).threads[tid]? = some t
    ∧ (run (run (init progs) sched) more).recovered = false
    ∧ (run (run (init progs) sched) more).finalised = 0 := by
  have ⟨hi, hg'⟩ := List.foldlRecOn more step (motive := fun s => Recoverable.Inv s ∧ s.threads[tid]? = some t)
    ⟨reachable_inv progs sched, hg⟩ fun s ⟨hi, hg⟩ u _ => by
      refine ⟨step_inv s u hi, ?_⟩
      cases hu : s.threads[u]? with
      | none => rw [step_none s u hu]; exact hg
      | some tu =>
        rw [step_some s u tu hu, stepThread_threads, getElem?_setAt]
        by_cases huv : u = tid
        · subst huv
          cases hu.symm.trans hg
          rw [(iTry_retries s hi u t rest hg hpc hc).1]
          split <;> simp [hg]
        · rw [if_neg fun x => huv x.1]; exact hg
  have r := iTry_retries _ hi tid t rest hg' hpc hc
  exact ⟨hg', r.2.1, r.2.2⟩

/-- **nothing enters once the end began — the finalising thread's own emissions included**: in every reachable state in
    which the recorder is being / has been finalised or was recovered, an emission of ANY kind that starts (a thread
    at `weak.upgrade` — e.g. the thread running the recorder's destructor, emitting through the wrapper from
    there) is answered with an inert handle and changes nothing -/
theorem emission_after_end_ignored (progs : List (List Call)) (sched : List Nat) (t : Thread) (c : Call) (rest : List Call)
    (he : (run (init progs) sched).finalised > 0 ∨ (run (init progs) sched).recovered = true)
    (hpc : t.pc = .upgrade) (hc : t.calls = c :: rest)
    (hk : c = .emit ∨ c = .emitPanic ∨ c = .emitNested ∨ isReentrant c) :
    (stepThread (run (init progs) sched) t).1 = run (init progs) sched
    ∧ (stepThread (run (init progs) sched) t).2.results = t.results ++ [Res.ignored] :=
  stepThread_upgrade_zero hpc hc (by rcases hk with rfl | rfl | rfl | ⟨d, rfl⟩ | rfl | rfl <;> rfl)
    ((reachable_inv progs sched).ended he)

/-! ### the full statement "after the handle is dropped … ignored" is FALSE of the code (known finding)

The property text says registrations are ignored "after it returns, or after the handle is dropped".  For
`into_inner` that is `inert_after_end`.  For a plain handle drop the code keeps the recorder alive while an
emission is still inside, and an emission that STARTS after the drop is still delivered.  Witness (kernel-
evaluated, replayed on the real code by the harness as K-C20-late-delivery): -/

theorem late_delivery_after_handle_drop :
    let s := run (init [[.emit], [.dropHandle], [.emit]]) [0, 1, 2, 0, 1, 2, 2, 0]
    -- thread 1 dropped the handle (step 5) before thread 2's emission began (step 6) …
    s.threads.map (·.results) = [[.delivered], [.dropped], [.delivered]]
    -- … the recorder is still finalised exactly once, after the last call left it
    ∧ s.finalised = 1 ∧ s.enteredAfterEnd = false := by decide +kernel

/-- what does hold after a handle drop (`…_partial`): as soon as nobody is inside any more, the recorder
    is finalised and everything later is ignored -/
theorem inert_after_handle_drop_partial (progs : List (List Call)) (sched : List Nat)
    (hh : (run (init progs) sched).handle = false) (hi : (run (init progs) sched).inside = 0) :
    (run (init progs) sched).strong = 0
    ∧ ((run (init progs) sched).finalised = 1 ∨ (run (init progs) sched).recovered = true) :=
  (reachable_inv progs sched).ended_of_quiet hh hi

example :
    let s := run (init [[.emit, .emit], [.intoInner], [.emit]]) [0, 1, 2, 0, 1, 1, 0, 1, 2, 0, 0]
    s.threads.map (·.results) = [[.delivered, .ignored], [.recovered], [.ignored]]
    ∧ s.recovered = true ∧ s.finalised = 0 ∧ s.unwrapBusy = false := by decide +kernel

example :   -- a recorder that panics, then the same thread emits again; a re-entrant emission racing into_inner
    let s := run (init [[.emitPanic, .emit], [.emitNested], [.intoInner]]) [0, 1, 2, 0, 1, 2, 0, 1, 2, 1, 0, 0, 1, 2, 2, 0]
    s.threads.map (·.results) = [[.panicked, .delivered], [.nestedDelivered, .delivered], [.recovered]]
    ∧ s.recovered = true ∧ s.finalised = 0 ∧ s.unwrapBusy = false := by decide +kernel

example :   -- handles kept across into_inner: it returns at its first attempt, the kept handle stays live, later registrations are inert
    let s := run (init [[.emitKeep, .useKept, .emitKeep, .useKept, .dropKept, .emit], [.intoInner]]) [0, 0, 0, 1, 1, 0, 0, 0, 0, 0]
    s.threads.map (·.results) = [[.delivered, .used 1 0, .ignored, .used 1 1, .keptDropped 2, .ignored], [.recovered]]
    ∧ s.recovered = true ∧ s.finalised = 0 ∧ s.strong = 0 := by decide +kernel

example :   -- handles kept across a handle drop: finalised at the drop (nobody inside), not when the kept handle goes
    let s := run (init [[.emitKeep], [.dropHandle], [.emitKeep]]) [0, 0, 0, 1, 1, 2, 2]
    s.threads.map (·.results) = [[.delivered], [.dropped], [.ignored]]
    ∧ s.threads.map (·.kept) = [[true], [], [false]] ∧ keptCount s = 2 ∧ s.finalised = 1 ∧ s.strong = 0 := by decide +kernel

example :   -- re-entrancy three levels deep racing into_inner: four references held by one thread, into_inner waits them all out
    let s := run (init [[.emitDeep 3], [.intoInner]]) [0, 0, 0, 0, 0, 1, 1, 1, 0, 0, 0, 0, 1]
    s.threads.map (·.results) = [[.nestedDelivered, .nestedDelivered, .nestedDelivered, .delivered], [.recovered]]
    ∧ s.recovered = true ∧ s.finalised = 0 ∧ s.unwrapBusy = false ∧ s.threads.map (·.pc) = [.done, .done] := by decide +kernel

example :   -- the recorder drops the handle from inside a forwarded call: finalised at the return of the last call, once
    let s := run (init [[.emitDropInside], [.emit]]) [0, 0, 0, 1, 1, 1, 0]
    s.threads.map (·.results) = [[.dropped, .delivered], [.delivered]]
    ∧ s.finalised = 1 ∧ s.enteredAfterEnd = false ∧ (s.finalised, s.recovered) = completeOutcome [[.emitDropInside], [.emit]] := by decide +kernel

example :   -- into_inner from inside a forwarded call: stuck at the retry loop, nothing recovered, nothing finalised
    let s := run (init [[.emitIntoInside, .emit], [.emit]]) [0, 0, 0, 0, 0, 1, 1, 1, 0, 0]
    s.threads.map (·.results) = [[], [.delivered]] ∧ s.threads.map (·.pc) = [.iTry, .done]
    ∧ s.recovered = false ∧ s.finalised = 0 ∧ s.strong = 2 := by decide +kernel

example : completeOutcome [[.emit], [.dropHandle], [.emit]] = (1, false)
    ∧ completeOutcome [[.emit, .intoInner], [.dropHandle]] = (0, true) ∧ completeOutcome [[.emit], [.emitKeep]] = (0, false) := by decide +kernel

example : install none 7 = (some 7, .installed) ∧ install (some 7) 9 = (some 7, .handedBack 9 0 true) := by decide +kernel

/-! ### source facts (regenerated from /repo on every run)

The step machine has ONE emission shape: upgrade the weak reference, call the wrapped recorder, drop the strong
reference; and `into_inner` retries `Arc::try_unwrap`.  The translator lists, for each of the six `Recorder`
methods of `WeakRecorder`, the calls it makes: each must upgrade first and forward to its namesake (and the
register methods fall back to the no-op handle of their own kind). -/

theorem src_weak_forwarding :
    Generated.weak_forwarding =
      [("describe_counter", "recorder.upgrade recorder.describe_counter"),
       ("describe_gauge", "recorder.upgrade recorder.describe_gauge"),
       ("describe_histogram", "recorder.upgrade recorder.describe_histogram"),
       ("register_counter", "recorder.upgrade recorder.register_counter noop:Counter"),
       ("register_gauge", "recorder.upgrade recorder.register_gauge noop:Gauge"),
       ("register_histogram", "recorder.upgrade recorder.register_histogram noop:Histogram")]
    ∧ Generated.recover_into_inner_calls = ["Arc::try_unwrap"] :=
  ⟨rfl, rfl⟩

/-- the whole bodies behind the step machine (comments and the cfg(metrics_verif) yield points removed, whitespace
    collapsed).  They pin what calling names alone cannot: the handle RETURNED by the wrapped recorder is the
    value of the forwarding arm (not thrown away), the arguments are passed on untouched, `into_inner` is a bare
    retry loop around `Arc::try_unwrap` with no counter / give-up branch, `install` returns the handle on `Ok` and
    on `Err` recovers through `into_inner` and hands that very recorder back, `build` moves the one `Arc` into the
    handle and gives the wrapper only a `Weak`; and the file has no `unsafe`, `transmute`, `ptr::read`,
    `mem::forget`, `ManuallyDrop`, thread-local or static state, `Drop` impl or `Arc` clone — exactly one `Arc::new`. -/
theorem src_recoverable_bodies :
    Generated.recover_into_inner_body
      = "{ loop { match Arc::try_unwrap(self.handle) { Ok(recorder) => break recorder, Err(handle) => { self.handle = handle; } } } }"
    ∧ Generated.recover_install_body
      = "{ let (wrapped, handle) = self.build(); match metrics::set_global_recorder(wrapped) { Ok(()) => Ok(handle), Err(_) => { let recorder = handle.into_inner(); Err(SetRecorderError(recorder)) } } }"
    ∧ Generated.recover_build_body
      = "{ let wrapped = WeakRecorder::from_arc(&self.handle); (wrapped, RecoveryHandle { handle: self.handle }) }"
    ∧ Generated.recover_from_arc_body = "{ Self { recorder: Arc::downgrade(recorder) } }"
    ∧ Generated.weak_bodies =
      [("describe_counter", "{ if let Some(recorder) = self.recorder.upgrade() { recorder.describe_counter(key, unit, description); } }"),
       ("describe_gauge", "{ if let Some(recorder) = self.recorder.upgrade() { recorder.describe_gauge(key, unit, description); } }"),
       ("describe_histogram", "{ if let Some(recorder) = self.recorder.upgrade() { recorder.describe_histogram(key, unit, description); } }"),
       ("register_counter", "{ if let Some(recorder) = self.recorder.upgrade() { recorder.register_counter(key, metadata) } else { Counter::noop() } }"),
       ("register_gauge", "{ if let Some(recorder) = self.recorder.upgrade() { recorder.register_gauge(key, metadata) } else { Gauge::noop() } }"),
       ("register_histogram", "{ if let Some(recorder) = self.recorder.upgrade() { recorder.register_histogram(key, metadata) } else { Histogram::noop() } }")]
    ∧ Generated.recover_file_flagged_tokens = ["Arc::new"] := ⟨rfl, rfl, rfl, rfl, rfl, rfl⟩

/-- what the bodies above do not pin: the constructor (`new` wraps the recorder in ONE `Arc` and does nothing
    else — no size-, type- or otherwise keyed branch), the three type definitions (the handle and the builder own an
    `Arc<R>`, the wrapper a `Weak<R>`; no further field), that `Arc` / `Weak` are `std::sync`'s, and that the non-test
    part of the file has no other way for a strong reference to escape the count protocol (`Box::leak`, raw pointers,
    `size_of`, `strong_count`, an `upgrade` outside the six per-call ones, …) -/
theorem src_recoverable_new_and_types :
    Generated.recover_new_body = "{ Self { handle: Arc::new(recorder) } }"
    ∧ Generated.recover_structs =
      ["#[derive(Debug)] pub struct RecoveryHandle<R> { handle: Arc<R>, }",
       "#[derive(Debug)] pub struct RecoverableRecorder<R> { handle: Arc<R>, }",
       "#[derive(Debug)] struct WeakRecorder<R> { recorder: Weak<R>, }"]
    ∧ Generated.recover_std_uses = ["use std::sync::{Arc, Weak};"]
    ∧ Generated.recover_count_escape_tokens
      = ["downgrade", ".upgrade()", ".upgrade()", ".upgrade()", ".upgrade()", ".upgrade()", ".upgrade()"] :=
  ⟨rfl, rfl, rfl, rfl⟩

end MetricsVerif.C20
