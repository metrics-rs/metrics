/-
C15 — histogram buckets and summary windows mean what Prometheus says they mean.

Models: `Model/Histogram.lean` (`Histogram::{new, record, record_many}`, `Distribution::record_samples`),
`Model/DistBuilder.lean` + `Model/Prom.lean` (`set_buckets_for_metric`, `DistributionBuilder::{new, get_distribution,
get_distribution_type}`, `Matcher`), `Model/Rolling.lean` (`RollingSummary::{new, add, snapshot, count}`, the render path
of a summary), `Model/Quantile.lean` (`Quantile::new`, `parse_quantiles`, `set_quantiles`, the guard of
`Summary::quantile`, the quantile lines of a rendered summary).  Every theorem is for ALL bound lists / sample sequences /
batchings / matcher sets / names / bucket counts and durations / non-decreasing timestamp sequences — no bound on any of
them.

Outside the model (checked dynamically by harness/src/c15.rs on the real code): the DDSketch is abstracted to the list of
samples it retains, so "a quantile lies within the sketch's relative error of a retained sample" is an assumption about
`sketches-ddsketch`, not a theorem; IEEE rounding of `sum`.

The `src_*` theorems hold the statements of the Rust source that the models mirror (`Generated/SourceFacts.lean`,
regenerated from the repository on every run) against what was modelled.
-/
import MetricsVerif.Proofs.Histogram
import MetricsVerif.Proofs.DistBuilder
import MetricsVerif.Proofs.DistExpose
import MetricsVerif.Proofs.Rolling
import MetricsVerif.Model.Quantile
import MetricsVerif.Generated.SourceFacts

namespace MetricsVerif.C15
open MetricsVerif.Histogram MetricsVerif.Rolling MetricsVerif.Prom MetricsVerif.PromFmt MetricsVerif.DistBuilder
open MetricsVerif.PromRender MetricsVerif.Quantile

/-- IEEE `<=` is transitive on all of f64 (a NaN makes a premise false) … -/
theorem le_trans {a b c : FV} (h1 : a.le b = true) (h2 : b.le c = true) : a.le c = true := FV.le_trans h1 h2

/-- … and total away from NaN. -/
theorem le_total (a b : FV) (ha : a ≠ .nan) (hb : b ≠ .nan) : a.le b = true ∨ b.le a = true := FV.le_total a b ha hb

/-- `record`, for ANY bounds (sorted or not): after any samples, the count kept for bound `b` is the number of samples
    `<= b`. -/
theorem record_counts (bounds : List FV) (h0 : Hist) (e : Hist.new bounds = some h0) (xs : List FV) :
    (h0.recordAll xs).buckets = bounds.map (fun b => xs.countP (fun x => x.le b)) := by
  rw [Hist.recordAll_new e]

theorem recordBatches_eq_recordAll (xss : List (List FV)) : ∀ (h : Hist), h.WF → Ascending h.bounds →
    h.recordBatches xss = h.recordAll xss.flatten := by
  induction xss with
  | nil => intro h _ _; rfl
  | cons xs xss ih =>
    intro h w hasc
    simp only [Hist.recordBatches, List.foldl_cons, List.flatten_cons] at ih ⊢
    rw [ih _ (Hist.recordMany_wf xs w) hasc, Hist.recordMany_eq_recordAll h w hasc xs]
    simp [Hist.recordAll, List.foldl_append]

/-- **batch_equiv**: for ascending bounds and EVERY batching, feeding the batches to `record_many` (what
    `Distribution::record_samples` does) leaves the histogram in exactly the state that `record`ing the same samples one
    by one does — buckets, count, and the sum in exact arithmetic. -/
theorem batch_equiv (bounds : List FV) (hasc : Ascending bounds) (h0 : Hist) (e : Hist.new bounds = some h0)
    (xss : List (List FV)) : h0.recordBatches xss = h0.recordAll xss.flatten := by
  obtain ⟨w, hb⟩ := Hist.new_wf e
  exact recordBatches_eq_recordAll xss h0 w (by rw [hb]; exact hasc)

/-- the ascending hypothesis is necessary: bounds `[10, 5]`, one sample `7` — `record` counts it for 10 only,
    `record_many`'s `break` + running sum counts it for 5 as well (kernel-evaluated on the model; the harness corpus
    replays the same input on the real code) -/
theorem record_many_differs_unsorted :
    ∃ (bounds : List FV) (h0 : Hist) (xs : List FV), Hist.new bounds = some h0 ∧ ¬ Ascending bounds
      ∧ (h0.recordMany xs).buckets ≠ (h0.recordAll xs).buckets :=
  ⟨[.fin 10240, .fin 5120], ⟨[.fin 10240, .fin 5120], [0, 0], 0, {}⟩, [.fin 7168], by decide +kernel, by decide +kernel, by decide +kernel⟩

/-- **bucket_counts**: with ascending bounds, after any sequence of samples (incl. values equal to bounds, ±∞, NaN) fed in
    any batches, the count reported for bound `bᵢ` is the number of samples that are `<= bᵢ`. -/
theorem bucket_counts (bounds : List FV) (hasc : Ascending bounds) (h0 : Hist) (e : Hist.new bounds = some h0)
    (xss : List (List FV)) :
    (h0.recordBatches xss).buckets = bounds.map (fun b => xss.flatten.countP (fun x => x.le b)) := by
  rw [batch_equiv bounds hasc h0 e, record_counts bounds h0 e]

theorem bucket_counts_at (bounds : List FV) (hasc : Ascending bounds) (h0 : Hist) (e : Hist.new bounds = some h0)
    (xss : List (List FV)) (i : Nat) (hi : i < bounds.length) :
    (h0.recordBatches xss).buckets[i]? = some (xss.flatten.countP (fun x => x.le bounds[i])) := by
  rw [bucket_counts bounds hasc h0 e]; simp [hi]

/-- counts never decrease from one bound to the next -/
theorem buckets_monotone_in_i (bounds : List FV) (hasc : Ascending bounds) (h0 : Hist) (e : Hist.new bounds = some h0)
    (xss : List (List FV)) : (h0.recordBatches xss).buckets.Pairwise (· ≤ ·) := by
  rw [bucket_counts bounds hasc h0 e, List.pairwise_map]
  refine List.Pairwise.imp ?_ hasc
  intro a b hab
  exact List.countP_mono_left (fun x _ hx => FV.le_trans hx hab)

/-- counts never decrease over time (from one render to the next): for ANY histogram state and ANY further batches,
    every bucket and the total count only grow -/
theorem buckets_monotone_in_time (h : Hist) (yss : List (List FV)) :
    leAll h.buckets (h.recordBatches yss).buckets ∧ h.count ≤ (h.recordBatches yss).count
    ∧ ∀ i, h.buckets.getD i 0 ≤ (h.recordBatches yss).buckets.getD i 0 := by
  have gen : leAll h.buckets (h.recordBatches yss).buckets ∧ h.count ≤ (h.recordBatches yss).count :=
    foldl_inv (fun h' => leAll h.buckets h'.buckets ∧ h.count ≤ h'.count) (fun _ => True) Hist.recordMany yss
      (fun h' ys ih _ => ⟨leAll_trans ih.1 (Hist.recordMany_leAll h' ys), Nat.le_trans ih.2 (Nat.le_add_right _ _)⟩)
      h ⟨leAll_refl _, Nat.le_refl _⟩ fun _ _ => trivial
  exact ⟨gen.1, gen.2, leAll_getD gen.1⟩

/-- the `+Inf` bucket: `render` prints `count()` for it; that is the number of all samples (NaN and ±∞ included), and no
    bucket exceeds it -/
theorem inf_bucket_is_count (bounds : List FV) (hasc : Ascending bounds) (h0 : Hist) (e : Hist.new bounds = some h0)
    (xss : List (List FV)) :
    (h0.recordBatches xss).infBucket = xss.flatten.length
    ∧ ∀ c ∈ (h0.recordBatches xss).buckets, c ≤ (h0.recordBatches xss).infBucket := by
  rw [batch_equiv bounds hasc h0 e, Hist.recordAll_new e]
  refine ⟨rfl, fun c hc => ?_⟩
  obtain ⟨b, _, rfl⟩ := List.mem_map.mp hc
  exact List.countP_le_length

/-- the sum printed as `_sum` is the exact sum of the finite samples, or the NaN/±∞ that IEEE addition gives as soon as
    a NaN / an infinity (both infinities) was recorded — independent of the batching -/
theorem sum_covers_all (bounds : List FV) (hasc : Ascending bounds) (h0 : Hist) (e : Hist.new bounds = some h0)
    (xss : List (List FV)) : (h0.recordBatches xss).sum = xss.flatten.foldl FSum.add {} := by
  rw [batch_equiv bounds hasc h0 e, Hist.recordAll_new e]

def freshHist (bs : List Int) : Dist := .hist bs (bs.map (fun _ => 0)) 0 0

/-- **precedence**, on the configuration `DistributionBuilder::new` produces (overrides sorted by the derived order of
    `Matcher`): `get_distribution name` is
    * the histogram of an override that matches `name` and is least among ALL matching overrides — so a Full matcher
      beats every Prefix and Suffix matcher, a Prefix matcher every Suffix matcher (`rank`: Full 0, Prefix 1, Suffix 2);
    * if no override matches: the histogram of the global buckets if set, else a summary. -/
theorem precedence (l : List (Matcher × List Int)) (cfg : Cfg) (hov : cfg.overrides = sortMatchers l) (name : Str) :
    (∀ mb, cfg.overrides.find? (fun mb => mb.1.matches name) = some mb →
        mb ∈ l ∧ mb.1.matches name = true
        ∧ (∀ mb' ∈ l, mb'.1.matches name = true → mb.1.rank ≤ mb'.1.rank ∧ Matcher.lt mb'.1 mb.1 = false)
        ∧ newDist cfg name = freshHist mb.2)
    ∧ (cfg.overrides.find? (fun mb => mb.1.matches name) = none →
        (∀ mb ∈ l, mb.1.matches name = false)
        ∧ newDist cfg name = (match cfg.buckets with | some bs => freshHist bs | none => .summ 0 0)) := by
  have mem : ∀ x, x ∈ cfg.overrides ↔ x ∈ l := fun x => hov ▸ mem_sortMatchers x l
  refine ⟨fun mb h => ?_, fun h => ⟨fun mb hm => (find_none_iff _ _).mp h mb ((mem mb).mpr hm), ?_⟩⟩
  · obtain ⟨h1, h2, h3⟩ := find_sorted_least _ cfg.overrides (hov ▸ sortMatchers_sorted l) mb h
    refine ⟨(mem mb).mp h1, h2, fun mb' hm hp => ?_, by unfold newDist; rw [h]; rfl⟩
    have := h3 mb' ((mem mb').mpr hm) hp
    exact ⟨rank_le_of_not_lt this, this⟩
  · unfold newDist; rw [h]; cases cfg.buckets <;> rfl

/-- the three clauses of the documentation, for the raw metric name and the raw patterns given to
    `set_buckets_for_metric`: matching is SANITISED name against SANITISED pattern. -/
theorem precedence_raw (global : Option (List Int)) (calls : List (Matcher × List Int)) (name : Str) :
    (∀ mb, (cfgOf global calls).overrides.find? (fun mb => mb.1.matches (sanitizeMetricName name)) = some mb →
        mb ∈ overridesOf calls ∧ mb.1.matches (sanitizeMetricName name) = true
        ∧ (∃ c ∈ calls, mb.1 = c.1.sanitized)
        ∧ (∀ mb' ∈ overridesOf calls, mb'.1.matches (sanitizeMetricName name) = true → mb.1.rank ≤ mb'.1.rank)
        ∧ distributionFor global calls name = freshHist mb.2)
    ∧ ((∀ mb ∈ overridesOf calls, mb.1.matches (sanitizeMetricName name) = false) →
        distributionFor global calls name = (match global with | some bs => freshHist bs | none => .summ 0 0)) := by
  have p := precedence (overridesOf calls) (cfgOf global calls) rfl (sanitizeMetricName name)
  constructor
  · intro mb h
    obtain ⟨h1, h2, h3, h4⟩ := p.1 mb h
    exact ⟨h1, h2, overridesOf_sanitised calls mb h1, fun mb' hm hp => (h3 mb' hm hp).1, h4⟩
  · intro hnone
    exact (p.2 ((find_none_iff _ _).mpr fun mb hm => hnone mb ((mem_sortMatchers mb _).mp hm))).2

/-- the three clauses share one reason: when an override of rank `k` matches and none of a smaller rank does, the first
    match of the sorted overrides — the one `get_distribution` takes — has rank `k` -/
theorem rank_wins (l : List (Matcher × List Int)) (cfg : Cfg) (hov : cfg.overrides = sortMatchers l) (name : Str)
    (k : Nat) (hno : ∀ mb ∈ l, mb.1.rank < k → mb.1.matches name = false)
    (m : Matcher × List Int) (hm : m ∈ l) (hk : m.1.rank = k) (hmatch : m.1.matches name = true) :
    ∃ mb ∈ l, mb.1.rank = k ∧ mb.1.matches name = true ∧ newDist cfg name = freshHist mb.2 := by
  cases hf : cfg.overrides.find? (fun mb => mb.1.matches name) with
  | none =>
    have := ((precedence l cfg hov name).2 hf).1 m hm
    rw [hmatch] at this; cases this
  | some mb =>
    obtain ⟨h1, h2, h3, h4⟩ := (precedence l cfg hov name).1 mb hf
    have hle := (h3 m hm hmatch).1
    have hge : ¬ mb.1.rank < k := fun h => by have := hno mb h1 h; rw [h2] at this; cases this
    exact ⟨mb, h1, by omega, h2, h4⟩

/-- a Full override that matches wins over everything else -/
theorem full_wins (l : List (Matcher × List Int)) (cfg : Cfg) (hov : cfg.overrides = sortMatchers l) (name : Str)
    (s : Str) (bs : List Int) (hm : (Matcher.full s, bs) ∈ l) (hmatch : (Matcher.full s).matches name = true) :
    ∃ mb ∈ l, mb.1.rank = 0 ∧ mb.1.matches name = true ∧ newDist cfg name = freshHist mb.2 :=
  rank_wins l cfg hov name 0 (fun _ _ h => absurd h (Nat.not_lt_zero _)) _ hm rfl hmatch

/-- no Full override matches, a Prefix override does: a matching Prefix override wins (never a Suffix one) -/
theorem prefix_wins (l : List (Matcher × List Int)) (cfg : Cfg) (hov : cfg.overrides = sortMatchers l) (name : Str)
    (hnofull : ∀ mb ∈ l, mb.1.rank = 0 → mb.1.matches name = false)
    (s : Str) (bs : List Int) (hm : (Matcher.pfx s, bs) ∈ l) (hmatch : (Matcher.pfx s).matches name = true) :
    ∃ mb ∈ l, mb.1.rank = 1 ∧ mb.1.matches name = true ∧ newDist cfg name = freshHist mb.2 :=
  rank_wins l cfg hov name 1 (fun mb h h1 => hnofull mb h (by omega)) _ hm rfl hmatch

/-- only Suffix overrides match: one of them wins over the global buckets -/
theorem suffix_wins (l : List (Matcher × List Int)) (cfg : Cfg) (hov : cfg.overrides = sortMatchers l) (name : Str)
    (hno : ∀ mb ∈ l, mb.1.rank ≤ 1 → mb.1.matches name = false)
    (s : Str) (bs : List Int) (hm : (Matcher.sfx s, bs) ∈ l) (hmatch : (Matcher.sfx s).matches name = true) :
    ∃ mb ∈ l, mb.1.rank = 2 ∧ mb.1.matches name = true ∧ newDist cfg name = freshHist mb.2 :=
  rank_wins l cfg hov name 2 (fun mb h h1 => hno mb h (by omega)) _ hm rfl hmatch

/-- `get_distribution_type` says `histogram` exactly for the names `get_distribution` builds a histogram for (it asks the
    same two questions, override match and global buckets, in the other order) -/
theorem distType_eq (cfg : Cfg) (name : Str) :
    distType cfg name = if isHist (newDist cfg name) then "histogram".toList else "summary".toList := by
  have swap : ∀ (a b : Bool) (x y : Str), (if a then x else if b then x else y) = if (b || a) then x else y :=
    fun a b x y => by cases a <;> cases b <;> rfl
  rw [isHist_newDist, distType]
  exact swap _ _ _ _

theorem ite_eq_iff_of_ne {x y : Str} (hne : x ≠ y) (b : Bool) :
    ((if b then x else y) = x ↔ b = true) ∧ ((if b then x else y) = y ↔ b = false)
    ∧ ((if b then x else y) = x ∨ (if b then x else y) = y) := by
  cases b <;> simp [hne, hne.symm]

theorem histogram_ne_summary : "histogram".toList ≠ "summary".toList := by decide +kernel

/-- **type_iff_buckets_apply**: the `# TYPE` line says `histogram` exactly when the distribution created for the name is
    a histogram, exactly when some override matches or global buckets are set; otherwise it says `summary`. -/
theorem type_iff_buckets_apply (cfg : Cfg) (name : Str) :
    (distType cfg name = "histogram".toList ↔ isHist (newDist cfg name) = true)
    ∧ (isHist (newDist cfg name) = true ↔
        (cfg.overrides.any (fun mb => mb.1.matches name) = true ∨ cfg.buckets.isSome = true))
    ∧ (distType cfg name = "histogram".toList ∨ distType cfg name = "summary".toList) := by
  rw [distType_eq]
  exact ⟨(ite_eq_iff_of_ne histogram_ne_summary _).1, by rw [isHist_newDist, Bool.or_eq_true],
    (ite_eq_iff_of_ne histogram_ne_summary _).2.2⟩

/-- the distribution part of `Inner::render`: after the counter and gauge families, one family per entry of the
    (drained) distribution map, whose `# TYPE` is `get_distribution_type` of the map's key — the PLAIN sanitised name — while
    only `renderFamily` (= `family_name`) sees the described unit -/
theorem render_distribution_families (s0 : St) :
    ∃ pre, (renderLines s0).2 = pre ++ (drain s0).dists.map (fun f =>
      renderFamily s0.cfg.unitSuffix f.1 (lookup (drain s0).descs f.1) (distType s0.cfg f.1)
        (f.2.map (fun ld => distSeries s0.cfg.quantiles ld.1 ld.2))) :=
  ⟨_, rfl⟩

/-- the `# TYPE` line of a rendered family carries exactly the type it was given, under the family name `name` +
    unit suffix (the suffix only when unit suffixes are enabled and the name was described with a unit) -/
theorem render_family_type_line (us : Bool) (name : Str) (desc : Option (Str × Option MUnit)) (ty : Str)
    (series : List Series) :
    Line.type (familyName name (match desc with | some (_, u) => if us then u else none | none => none)) ty
      ∈ renderFamily us name desc ty series := by
  unfold renderFamily
  cases desc with
  | none => simp
  | some du => obtain ⟨d, u⟩ := du; simp

/-- **exposed_type_iff_buckets_apply**: for EVERY configuration and EVERY history of describe / record / upkeep / render
    operations (any units, unit suffixes on or off, descriptions before or after the first drain, any number of label
    sets), every distribution `ld` of every family `f` the recorder renders satisfies: the family's `# TYPE` is
    `histogram` exactly when `ld` is a histogram (is rendered as `_bucket` lines), `summary` exactly when it is a summary
    (quantile lines), and it is a histogram exactly when an override matches the plain sanitised name or global buckets
    are set.  The type line and the series of a family can never disagree. -/
theorem exposed_type_iff_buckets_apply (cfg : Cfg) (ops : List Op) :
    ∀ f ∈ (drain (run { cfg := cfg } ops)).dists, ∀ ld ∈ f.2,
      (distType cfg f.1 = "histogram".toList ↔ isHist ld.2 = true)
      ∧ (distType cfg f.1 = "summary".toList ↔ isHist ld.2 = false)
      ∧ (isHist ld.2 = true ↔ (cfg.overrides.any (fun mb => mb.1.matches f.1) = true ∨ cfg.buckets.isSome = true)) := by
  intro f hf ld hld
  have hinv : KindInv cfg (drain (run { cfg := cfg } ops)).dists := by
    have := drain_kind _ (run_kind ops { cfg := cfg } (fun f hf => by cases hf))
    rwa [drain_cfg, run_cfg] at this
  rw [hinv f hf ld hld, distType_eq]
  exact ⟨(ite_eq_iff_of_ne histogram_ne_summary _).1, (ite_eq_iff_of_ne histogram_ne_summary _).2.1,
    by rw [isHist_newDist, Bool.or_eq_true]⟩

/-- neither the type nor the distribution of an exposed histogram name depends on the unit it was described with or on
    the unit-suffix switch; only the family name does -/
theorem exposed_ignores_unit (us : Bool) (global : Option (List Int)) (calls : List (Matcher × List Int)) (name : Str)
    (unit : Option MUnit) :
    exposedFor us global calls name unit
      = (familyName (sanitizeMetricName name) (if us then unit else none), typeFor global calls name,
         distributionFor global calls name) := rfl

/-- `get_distribution` answers with a fresh histogram on the bounds of an override or on the global bounds, or with a
    summary -/
theorem newDist_cases (cfg : Cfg) (name : Str) :
    (∃ mb ∈ cfg.overrides, newDist cfg name = freshHist mb.2)
    ∨ (∃ bs, cfg.buckets = some bs ∧ newDist cfg name = freshHist bs) ∨ newDist cfg name = .summ 0 0 := by
  unfold newDist
  cases hf : cfg.overrides.find? (fun mb => mb.1.matches name) with
  | some mb => exact .inl ⟨mb, List.mem_of_find?_eq_some hf, rfl⟩
  | none =>
    cases cfg.buckets with
    | some bs => exact .inr (.inl ⟨bs, rfl, rfl⟩)
    | none => exact .inr (.inr rfl)

/-- **builder_never_builds_empty_histogram**: if every `set_buckets_for_metric` call of a chain was accepted (and the
    global buckets, if any, passed `set_buckets`), the override map is the one `overridesOf` models, every call had a
    non-empty bound list, and no name ever gets a histogram with an empty bound list — `Distribution::new_histogram`'s
    `expect("buckets should never be empty")` cannot fire in the drain. -/
theorem builder_never_builds_empty_histogram (global : Option (List Int)) (hg : ∀ bs, global = some bs → setBucketsChecked bs = some bs)
    (calls : List (Matcher × List Int)) (ovs : List (Matcher × List Int)) (h : overridesOfChecked calls = some ovs)
    (name : Str) :
    ovs = overridesOf calls ∧ (∀ c ∈ calls, c.2 ≠ [])
    ∧ (∀ bs cs n sm, distributionFor global calls name = .hist bs cs n sm → bs ≠ [] ∧ (Hist.new (bs.map FV.fin)).isSome = true) := by
  obtain ⟨e, h1, h2⟩ := foldlM_checked calls [] ovs (fun _ h => nomatch h) h
  refine ⟨e, h2, fun bs cs n sm hd => ?_⟩
  have hne : bs ≠ [] := by
    rcases newDist_cases (cfgOf global calls) (sanitizeMetricName name) with ⟨mb, hm, hd'⟩ | ⟨gb, hgb, hd'⟩ | hd'
    · injection hd'.symm.trans hd with e1
      exact e1 ▸ h1 mb (e ▸ (mem_sortMatchers mb _).mp hm)
    · injection hd'.symm.trans hd with e1
      intro hnil
      have := hg gb hgb
      rw [e1, hnil] at this
      cases this
    · cases hd'.symm.trans hd
  cases bs with
  | nil => exact absurd rfl hne
  | cons b bs => exact ⟨hne, rfl⟩

/-- the guards as coded -/
theorem src_builder_guards :
    Generated.c15_builder_guards
      = ["set_quantiles: if quantiles.is_empty() { return Err(BuildError::EmptyBucketsOrQuantiles); }",
         "set_bucket_duration: if value.is_zero() { return Err(BuildError::ZeroBucketDuration); }",
         "set_buckets: if values.is_empty() { return Err(BuildError::EmptyBucketsOrQuantiles); }",
         "set_buckets_for_metric: if values.is_empty() { return Err(BuildError::EmptyBucketsOrQuantiles); }"]
    ∧ guardNonEmpty 0 = false ∧ guardDuration 0 = false ∧ (∀ n, guardNonEmpty (n + 1) = true) := by
  exact ⟨rfl, rfl, rfl, fun n => by simp [guardNonEmpty]⟩

/-- the two decision sites of the recorder, and the loops they run, as modelled: the drain asks `get_distribution` with the
    name `key_to_parts` returned; `render` asks `get_distribution_type` with the map key BEFORE `family_name` shadows `name`;
    both walk the sorted overrides in order and take the first `matcher.matches(name)`; `Matcher::matches` is equality /
    `starts_with` / `ends_with`; `RollingSummary::add` truncates to `max_buckets - 1` before inserting one bucket -/
theorem src_exposure_sites :
    Generated.c15_drain_get_distribution = "self.distribution_builder.get_distribution(name.as_str())"
    ∧ Generated.c15_render_dist_loop_lets
        = ["(desc, unit) = self.describe_family(&descriptions, name.as_str())",
           "distribution_type = self.distribution_builder.get_distribution_type(name.as_str())",
           "name = family_name(name, unit)"]
    ∧ Generated.c15_get_distribution_loop
        = "for (matcher, buckets) in overrides { if matcher.matches(name) { return Distribution::new_histogram(buckets); } }"
    ∧ Generated.c15_get_distribution_type_loop
        = "for (matcher, _) in overrides { if matcher.matches(name) { return \"histogram\"; } }"
    ∧ Generated.c15_matcher_matches_arms
        = ["Matcher::Prefix(prefix) => key.starts_with(prefix)", "Matcher::Suffix(suffix) => key.ends_with(suffix)",
           "Matcher::Full(full) => key == full"]
    ∧ Generated.c15_rolling_add_truncate = "self.buckets.truncate(self.max_buckets - 1);"
    ∧ Generated.c15_rolling_new_vec = "Vec::new()"
    ∧ Generated.c15_render_hist_arm_loop = "for (le, count) in histogram.buckets()"
    ∧ Generated.c15_render_quantile_value = "snapshot.quantile(quantile.value()).unwrap_or(0.0)" :=
  ⟨rfl, rfl, rfl, rfl, rfl, rfl, rfl, rfl, rfl⟩

/-- `set_buckets_for_metric` keys the override map by the SANITISED matcher: every key `get_distribution` ever sees is
    the sanitised form of a pattern that was given -/
theorem overrides_sanitised (calls : List (Matcher × List Int)) :
    ∀ x ∈ (cfgOf none calls).overrides, ∃ c ∈ calls, x.1 = c.1.sanitized := by
  intro x hx
  exact overridesOf_sanitised calls x ((mem_sortMatchers x _).mp hx)

/-- the sort of `DistributionBuilder::new` puts the overrides in order and keeps their members and their number (that it
    permutes them is `sortMatchers_perm`) -/
theorem sort_is_sorted_permutation (l : List (Matcher × List Int)) :
    Sorted (sortMatchers l) ∧ (∀ x, x ∈ sortMatchers l ↔ x ∈ l) ∧ (sortMatchers l).length = l.length :=
  ⟨sortMatchers_sorted l, fun x => mem_sortMatchers x l, sortMatchers_length l⟩

/-- the alignment loop of `add` equals its closed form wherever the code reaches it -/
theorem align_closed_form (d now ref : Nat) (hd : 1 ≤ d) (h : ref + d ≤ now) :
    alignLoop d now (now + 1) (ref + d) = ref + d * ((now - ref) / d) := alignLoop_closed d now ref hd h

/-- the invariant holds after any non-decreasing sequence of adds, at any `now` not before the last of them (buckets
    latest-first, begins ≥ one duration apart, each retained sample in the bucket covering its timestamp, a kept sample
    lost only with an expired bucket) -/
theorem window_invariant {α : Type} (keep : α → Bool) (n d : Nat) (hd : 1 ≤ d) (adds : List (α × Nat))
    (hmono : adds.Pairwise (fun a b => a.2 ≤ b.2)) (now : Nat) (hnow : ∀ a ∈ adds, a.2 ≤ now) :
    Inv keep d n (runT keep n d adds).buckets adds now := by
  rw [runT_eq]
  simpa using Inv.run hd adds now (Inv.init keep d n) hmono (fun a ha => ⟨Nat.zero_le _, hnow a ha⟩) (Nat.zero_le _)

/-- **window_sound**: `n ≥ 1` buckets of duration `d ≥ 1` (window `W = n·d`), samples added at non-decreasing times
    `t₁ ≤ … ≤ tₖ ≤ now`, each sample carrying its own timestamp.  Then the snapshot at `now`
    * contains only samples that were added, that `Summary::add` keeps (not ±∞), and that are younger than the window:
      `tᵢ + W > now`;
    * contains every kept sample with `tᵢ + W > now + d` (nothing recent is lost — the window is bucket-granular, so a
      sample may leave up to one bucket duration early, never earlier);
    and `count()` is the number of all adds. -/
theorem window_sound {α : Type} (keep : α → Bool) (n d : Nat) (hd : 1 ≤ d) (hn : 1 ≤ n) (adds : List (α × Nat))
    (hmono : adds.Pairwise (fun a b => a.2 ≤ b.2)) (now : Nat) (hnow : ∀ a ∈ adds, a.2 ≤ now) :
    let r := runT keep n d adds
    (∀ a ∈ r.snapshot now, a ∈ adds ∧ keep a.1 = true ∧ now < a.2 + d * n)
    ∧ (∀ a ∈ adds, keep a.1 = true → now + d < a.2 + d * n → a ∈ r.snapshot now)
    ∧ r.count = adds.length := by
  have inv := window_invariant keep n d hd adds hmono now hnow
  simp only [runT_eq, mem_snapshot] at inv ⊢
  refine ⟨fun a ⟨b, hb, hl, hab⟩ => ?_, fun a ha hk hrecent => ?_, trivial⟩
  · obtain ⟨s1, _, s3, s4⟩ := inv.sound b hb a hab
    exact ⟨s3, s4, Nat.lt_of_lt_of_le hl (Nat.add_le_add_right s1 _)⟩
  · rcases inv.complete a ha hk with ⟨b, hb, hab⟩ | h
    · have := (inv.sound b hb a hab).2.1
      exact ⟨b, hb, by omega, hab⟩
    · omega

/-- multiplicities: if the time-stamped samples are pairwise distinct (tag them with their index), no sample occurs
    twice in a snapshot — for ANY timestamps.  With `window_sound` this makes the two inclusions multiset inclusions. -/
theorem window_no_duplicates {α : Type} (keep : α → Bool) (n d : Nat) (adds : List (α × Nat)) (hnd : adds.Nodup)
    (now : Nat) : ((runT keep n d adds).snapshot now).Nodup := snapshot_nodup keep n d adds hnd now

/-- the same for the model as the driver runs it (plain values, no timestamps kept): its snapshot is the value image of a
    list `S` of time-stamped samples with the two window properties -/
theorem window_sound_plain (n d : Nat) (hd : 1 ≤ d) (hn : 1 ≤ n) (adds : List (FV × Nat))
    (hmono : adds.Pairwise (fun a b => a.2 ≤ b.2)) (now : Nat) (hnow : ∀ a ∈ adds, a.2 ≤ now) :
    let r := adds.foldl (fun r a => r.add keepFV a.1 a.2) (Rolling.new n d)
    ∃ S : List (FV × Nat), r.snapshot now = S.map Prod.fst
      ∧ (∀ a ∈ S, a ∈ adds ∧ a.1.isInfinite = false ∧ now < a.2 + d * n)
      ∧ (∀ a ∈ adds, a.1.isInfinite = false → now + d < a.2 + d * n → a ∈ S)
      ∧ r.count = adds.length := by
  obtain ⟨h1, h2, _⟩ := window_sound keepFV n d hd hn adds hmono now hnow
  refine ⟨(runT keepFV n d adds).snapshot now, ?_, ?_, ?_, ?_⟩
  · rw [run_map, snapshot_map]
  · intro a ha
    obtain ⟨x, y, z⟩ := h1 a ha
    exact ⟨x, (keepFV_iff _).mp y, z⟩
  · exact fun a ha hk hr => h2 a ha ((keepFV_iff _).mpr hk) hr
  · exact run_count keepFV n d adds

/-- **count_covers_all**: `count()` (printed as `_count`) is the number of adds whatever the timestamps are — also for
    values that are dropped because they are too old or infinite — and `_sum` accumulates every sample -/
theorem count_covers_all (n d : Nat) (samples : List (FV × Nat)) :
    ((SummaryDist.new n d).recordSamples samples).rolling.count = samples.length
    ∧ ((SummaryDist.new n d).recordSamples samples).sum = (samples.map Prod.fst).foldl FSum.add {} := by
  rw [recordSamples_eq]
  exact ⟨run_count keepFV n d samples, rfl⟩

/-- **empty_window_quantile_zero**: when no retained sample is inside the window (nothing recorded, everything expired,
    or only infinities recorded) every quantile line shows `0` (`snapshot.quantile(q).unwrap_or(0.0)`), while `_sum` and
    `_count` still cover all samples -/
theorem empty_window_quantile_zero (s : SummaryDist) (now : Nat) (h : s.rolling.snapshot now = []) :
    s.render now = (.zero, s.sum.val, s.rolling.count) := by
  simp [SummaryDist.render, quantileTok, h]

/-- … and a non-empty window is never shown as the `0` placeholder: the quantile is then an estimate over exactly the
    retained samples -/
theorem nonempty_window_quantile (s : SummaryDist) (now : Nat) (h : s.rolling.snapshot now ≠ []) :
    s.render now = (.within (s.rolling.snapshot now), s.sum.val, s.rolling.count) := by
  simp [SummaryDist.render, quantileTok, h]

/-- whatever is older than the whole window is gone: at `now ≥ t_last + W` the snapshot is empty -/
theorem all_expired {α : Type} (keep : α → Bool) (n d : Nat) (hd : 1 ≤ d) (hn : 1 ≤ n) (adds : List (α × Nat))
    (hmono : adds.Pairwise (fun a b => a.2 ≤ b.2)) (now : Nat) (hnow : ∀ a ∈ adds, a.2 + d * n ≤ now) :
    (runT keep n d adds).snapshot now = [] := by
  have hle : ∀ a ∈ adds, a.2 ≤ now := fun a ha => by have := hnow a ha; omega
  refine List.eq_nil_iff_forall_not_mem.mpr fun a ha => ?_
  have h1 := (window_sound keep n d hd hn adds hmono now hle).1 a ha
  have := hnow a h1.1
  omega

/-- **finding** (model of `DDSketch::merge` 0.3.0 as `Summary::merge` calls it; the harness corpus reproduces it on the
    real `Distribution` and through a real recorder's `render()`): two buckets of 10, `+∞` recorded at t = 0 (its
    bucket's sketch stays empty), `-1.0` at t = 10.  The window at t = 10 holds exactly the sample -1.0, but the merge
    takes over the empty sketch's initial min/max because the accumulated sketch has no POSITIVE sample:
    `quantile="0"` shows +Inf and `quantile="1"` shows -Inf.  With the repaired `Summary::merge` (empty summaries are
    skipped) both show -1.0. -/
theorem quantile_escapes_window_unfixed :
    let adds : List (FV × Nat) := [(.pinf, 0), (.fin (-1024), 10)]
    let r := adds.foldl (fun r a => r.add keepFV a.1 a.2) (Rolling.new 2 10)
    r.snapshot 10 = [.fin (-1024)]
    ∧ renderQ0 (snapshotMinMax false r 10) = .pinf ∧ renderQ1 (snapshotMinMax false r 10) = .ninf
    ∧ renderQ0 (snapshotMinMax true r 10) = .fin (-1024) ∧ renderQ1 (snapshotMinMax true r 10) = .fin (-1024) := by
  decide +kernel

/-- **with the repair**: for every rolling summary whose live buckets hold finite samples only (what `Summary::add`
    lets through, NaN aside), the values shown for `quantile="0"` and `quantile="1"` are members of the snapshot — so
    they lie between its smallest and largest sample — and `0` exactly when the window is empty. -/
theorem quantile_ends_in_window_fixed (r : Rolling FV) (now : Nat)
    (hfin : ∀ x ∈ r.snapshot now, isFin x = true) :
    let m := snapshotMinMax true r now
    m.total = (r.snapshot now).length
    ∧ (r.snapshot now = [] → renderQ0 m = .fin 0 ∧ renderQ1 m = .fin 0)
    ∧ (r.snapshot now ≠ [] → renderQ0 m ∈ r.snapshot now ∧ renderQ1 m ∈ r.snapshot now) := by
  obtain ⟨g1, _, _, g4⟩ := Good.snapshot r now hfin
  refine ⟨g1, fun he => ?_, fun hne => ?_⟩
  · have : (snapshotMinMax true r now).total = 0 := by rw [g1, he]; rfl
    simp [renderQ0, renderQ1, this]
  · have hpos : 0 < (snapshotMinMax true r now).total := by rw [g1]; exact List.length_pos_iff.mpr hne
    have : ((snapshotMinMax true r now).total == 0) = false := by simpa using Nat.ne_of_gt hpos
    simp only [renderQ0, renderQ1, this, Bool.false_eq_true, if_false]
    exact g4 hpos

/-- what a quantile line may show, given the retained samples `S` of the window: the `0` placeholder only for an empty
    window; `0.0` only if a sample of the window is in the sketch's zero class; otherwise a sample OF THE WINDOW (the
    bin of it, within the sketch's relative error, or — for the two ends — the sample itself) -/
def ShownInWindow (minU : Nat) (S : List FV) : Shown → Prop
  | .placeholder => S = []
  | .zeroClass => ∃ v ∈ S, clsOf minU v = .zero
  | .near v => v ∈ S ∧ clsOf minU v ≠ .zero
  | .exact v => v ∈ S

theorem shown_placeholder_iff (minU : Nat) (S : List FV) (s : Shown) (h : ShownInWindow minU S s) :
    s = .placeholder ↔ S = [] := by
  -- every other line shows, or is witnessed by, a sample of the window
  cases s with
  | placeholder => exact iff_of_true rfl h
  | zeroClass =>
    obtain ⟨v, hv, _⟩ := h
    exact iff_of_false nofun (List.ne_nil_of_mem hv)
  | near v => exact iff_of_false nofun (List.ne_nil_of_mem h.1)
  | exact v => exact iff_of_false nofun (List.ne_nil_of_mem h)

/-- whatever rank inside the sketch is asked for, the three stores answer with a sample of the window: the negative store
    from its largest key down, then the zero count, then the positive store -/
theorem atRank_in_window {minU : Nat} {sk : Sketch} {S : List FV} (w : Within minU sk S) (rk : Nat)
    (hrk : 0 < sk.count → rk < sk.count) : ShownInWindow minU S (Shown.ofQAns (sk.atRank rk)) := by
  unfold Sketch.atRank
  by_cases h0 : sk.count = 0
  · rw [if_pos (beq_iff_eq.mpr h0)]
    exact List.length_eq_zero_iff.mp (w.count.symm.trans h0)
  · rw [if_neg (mt beq_iff_eq.mp h0)]
    have hlt := hrk (Nat.pos_of_ne_zero h0)
    by_cases hneg : rk < sk.neg.length
    · obtain ⟨x, hx, e⟩ := storeAtRank_spec (fun a b => b.le a) sk.neg (sk.neg.length - rk - 1)
        (fun e => by rw [e] at hneg; cases hneg)
      obtain ⟨a, b⟩ := w.neg x hx
      rw [if_pos hneg, e]
      exact ⟨a, by rw [b]; decide⟩
    · rw [if_neg hneg]
      by_cases hzero : rk < sk.zero + sk.neg.length
      · rw [if_pos hzero]
        exact w.zero (by omega)
      · obtain ⟨x, hx, e⟩ := storeAtRank_spec FV.le sk.pos (rk - sk.zero - sk.neg.length)
          (fun e => by simp only [Sketch.count, e, List.length_nil] at hlt; omega)
        obtain ⟨a, b⟩ := w.pos x hx
        rw [if_neg hzero, e]
        exact ⟨a, by rw [b]; decide⟩

/-- **quantile_in_window**: for ANY rolling summary, time and configured quantile `num/den ≤ 1`, the value
    printed for that quantile is
    * the `0` placeholder exactly when the window is empty (`Ok(None)` → `unwrap_or(0.0)`);
    * `0.0` only if a sample of the window is in the sketch's zero class (`|v| ≤ min_possible`, or NaN);
    * otherwise `±value(key)` of the bin of a sample `v` that IS in the window (`v ∈ snapshot now`) — so it lies, up to
      the bin's relative error, between the smallest and the largest sample of the window, and by `window_sound` no
      sample older than the window can be that `v`.
    (`value(key v)` within alpha·|v| of `v` is the floating-point part of `sketches-ddsketch`; the harness checks it on
    every snapshot at the documented alpha = 1e-4.) -/
theorem quantile_in_window (minU : Nat) (r : Rolling FV) (now num den : Nat) (hnum : num ≤ den) :
    (snapshotQuantile minU r now num den = .none ↔ r.snapshot now = [])
    ∧ (snapshotQuantile minU r now num den = .zero → ∃ v ∈ r.snapshot now, clsOf minU v = .zero)
    ∧ (∀ v, snapshotQuantile minU r now num den = .bin v → v ∈ r.snapshot now ∧ clsOf minU v ≠ .zero) := by
  have w := Within.snapshot minU r now
  have h : ShownInWindow minU (r.snapshot now) (Shown.ofQAns (snapshotQuantile minU r now num den)) :=
    atRank_in_window w _ (rankOf_lt hnum)
  refine ⟨⟨fun e => ?_, fun e => ?_⟩, fun e => ?_, fun v e => ?_⟩
  · rw [e] at h; exact h
  · have : (snapshotSketch minU r now).count = 0 := by rw [w.count, e]; rfl
    simp [snapshotQuantile, Sketch.atRank, this]
  · rw [e] at h; exact h
  · rw [e] at h; exact h

/-- … and with the window theorem: under non-decreasing timestamps no sample that is older than the window (nor an
    infinity) can be the one a quantile answers with -/
theorem quantile_ignores_expired (minU n d : Nat) (hd : 1 ≤ d) (hn : 1 ≤ n) (adds : List (FV × Nat))
    (hmono : adds.Pairwise (fun a b => a.2 ≤ b.2)) (now : Nat) (hnow : ∀ a ∈ adds, a.2 ≤ now)
    (num den : Nat) (hnum : num ≤ den) (v : FV) :
    let r := adds.foldl (fun r a => r.add keepFV a.1 a.2) (Rolling.new n d)
    snapshotQuantile minU r now num den = .bin v →
      ∃ t, (v, t) ∈ adds ∧ v.isInfinite = false ∧ now < t + d * n := by
  intro r h
  obtain ⟨S, hS, h1, _, _⟩ := window_sound_plain n d hd hn adds hmono now hnow
  have hv := ((quantile_in_window minU r now num den hnum).2.2 v h).1
  have hv' : v ∈ S.map Prod.fst := by rw [← hS]; exact hv
  obtain ⟨⟨v', t⟩, hm, rfl⟩ := List.mem_map.mp hv'
  obtain ⟨a, b, c⟩ := h1 _ hm
  exact ⟨t, a, b, c⟩

/-- the non-decreasing-timestamps hypothesis of `window_sound` is necessary for its second half, and the code is reached
    with decreasing timestamps in ordinary use: `AtomicBucket::clear_with` hands the NEWEST block of 64 samples to
    `record_samples` first, so a histogram that took more than one block between two upkeeps while the clock passed a
    bucket boundary feeds `add` the newer samples before the older ones.  3 buckets of 10: the sample of t = 11 arrives
    first, the one of t = 0 second; at now = 11 the latter is 11 old (window 30) but it is not in the snapshot — it found
    no bucket and `now <= reftime` dropped it — while `count` still says 2.  (Replayed on the real recorder by the
    corpus cases "multi-block drain".) -/
theorem window_complete_needs_monotone :
    let adds : List (FV × Nat) := [(.fin 2048, 11), (.fin 1024, 0)]
    let r := adds.foldl (fun r a => r.add keepFV a.1 a.2) (Rolling.new 3 10)
    ¬ adds.Pairwise (fun a b => a.2 ≤ b.2) ∧ (∀ a ∈ adds, a.2 ≤ 11) ∧ 11 + 10 < 0 + 10 * 3
    ∧ r.snapshot 11 = [.fin 2048] ∧ r.count = 2 := by decide +kernel

/-- **window_config**: the number of buckets and the bucket duration of a summary are resolved independently: a value that
    was set is used as it is, whatever the other one is; one that was not set is the documented default (3 buckets,
    20 s) — so `set_bucket_count` alone changes the count and `set_bucket_duration` alone the duration, and the window
    length `RollingSummary::new` computes is their product. -/
theorem window_config (count dur : Option Nat) :
    (∀ c, count = some c → (windowOf count dur).1 = c)
    ∧ (count = none → (windowOf count dur).1 = 3)
    ∧ (∀ d, dur = some d → (windowOf count dur).2 = d)
    ∧ (dur = none → (windowOf count dur).2 = 20000000000)
    ∧ ((SummaryDist.new (windowOf count dur).1 (windowOf count dur).2).rolling.maxBucketDuration
        = (windowOf count dur).2 * (windowOf count dur).1)
    ∧ ((SummaryDist.new (windowOf count dur).1 (windowOf count dur).2).rolling.maxBuckets = (windowOf count dur).1) := by
  refine ⟨?_, ?_, ?_, ?_, rfl, rfl⟩
  · rintro c rfl; rfl
  · rintro rfl; rfl
  · rintro d rfl; cases count <;> rfl
  · rintro rfl; cases count <;> rfl

/-- the defaults and the way `get_distribution` resolves the two options are the ones `windowOf` models; the builder
    stores what it is given and hands the two options over in the parameter order of `DistributionBuilder::new`;
    `RollingSummary::new` multiplies duration and count -/
theorem src_window_defaults :
    Generated.c15_default_bucket_count = toString defaultBucketCount
    ∧ Generated.c15_default_bucket_duration = "from_secs(20)" ∧ defaultBucketDurationNs = 20 * 1000000000
    ∧ Generated.c15_get_distribution_duration = "self.bucket_duration.map_or(DEFAULT_SUMMARY_BUCKET_DURATION, |d| d)"
    ∧ Generated.c15_get_distribution_count = "self.bucket_count.map_or(DEFAULT_SUMMARY_BUCKET_COUNT, |c| c)"
    ∧ Generated.c15_get_distribution_new_summary = "Distribution::new_summary(self.quantiles.clone(), b_duration, b_count)"
    ∧ Generated.c15_new_summary_body = "Distribution::Summary(RollingSummary::new(bucket_count, bucket_duration), quantiles, 0.0)"
    ∧ Generated.c15_rolling_new_max_duration = "bucket_duration * buckets.get()"
    ∧ Generated.c15_rolling_new_max_buckets = "buckets.get() as usize"
    ∧ Generated.c15_builder_hands_over
        = "DistributionBuilder::new( self.quantiles, self.bucket_duration, self.buckets, self.bucket_count, self.bucket_overrides, )"
    ∧ Generated.c15_set_bucket_duration_assign = "self.bucket_duration = Some(value)"
    ∧ Generated.c15_set_bucket_count_assign = "self.bucket_count = Some(count)" :=
  ⟨rfl, rfl, rfl, rfl, rfl, rfl, rfl, rfl, rfl, rfl, rfl, rfl⟩

/-- the sketch every summary bucket uses: relative error 1e-4, 32768 bins, zero class up to 1e-9 (the harness checks
    quantiles at exactly these figures); `Summary::add` drops infinities and nothing else (`keepFV`).
    `1e-9` in the units of the small-magnitude stream (2^-40) is 1099 (`clsOf 1099`). -/
theorem src_sketch_parameters :
    Generated.c15_summary_with_defaults = "Summary::new(0.0001, 32_768, 1.0e-9)"
    ∧ Generated.c15_summary_new_config = "Config::new(alpha, max_buckets, min_value.abs())"
    ∧ Generated.c15_summary_add_body = "{ if value.is_infinite() { return; } self.sketch.add(value); }"
    ∧ (1099 * 10 ^ 9 ≤ 2 ^ 40 ∧ 2 ^ 40 < 1100 * 10 ^ 9) :=
  ⟨rfl, rfl, rfl, by decide⟩

/-- `Matcher`'s variants are declared Full, Prefix, Suffix and the order is the derived one (`Matcher.lt`/`rank` of the
    model: Full 0, Prefix 1, Suffix 2); the overrides are sorted by that order -/
theorem src_matcher_order :
    Generated.c15_matcher_variants = ["Full", "Prefix", "Suffix"]
    ∧ Generated.c15_matcher_derive = "Clone, Debug, Eq, Hash, Ord, PartialEq, PartialOrd"
    ∧ Generated.c15_overrides_sort = "matchers.sort_by(|a, b| a.0.cmp(&b.0))"
    ∧ (Matcher.full []).rank = 0 ∧ (Matcher.pfx []).rank = 1 ∧ (Matcher.sfx []).rank = 2 :=
  ⟨rfl, rfl, rfl, rfl, rfl, rfl⟩

/-- `Histogram::record` and `record_many` compare with `<=` only, branch on nothing else (in particular not on the number
    of bounds), and add every sample to a sum of the type of `self.sum` (`let mut sum = 0.0` is an `f64` because it is
    added to `self.sum: f64`); the summary arm adds every sample to the rolling summary and to `_sum` -/
theorem src_histogram_statements :
    Generated.c15_record_ifs = ["sample <= *bucket"]
    ∧ Generated.c15_record_many_ifs = ["sample <= bucket", "bucketed.len() >= 2"]
    ∧ Generated.c15_record_comparisons = ["sample <= *bucket"]
    ∧ Generated.c15_record_many_comparisons = ["sample <= bucket"]
    ∧ Generated.c15_record_sum_statements = ["self.sum += sample;"]
    ∧ Generated.c15_record_many_sum_statements = ["let mut sum = 0.0;", "sum += *sample;", "self.sum += sum;"]
    ∧ Generated.c15_record_samples_summary_arm = "{ for (sample, ts) in samples { hist.add(*sample, *ts); *sum += *sample; } }" :=
  ⟨rfl, rfl, rfl, rfl, rfl, rfl, rfl⟩

/-- `Quantile::new` on a finite value: the clamp into [0, 1] and the label that goes with it -/
theorem quantile_new_fin (n : Int) :
    Quantile.new (.fin n) = if n ≤ 0 then ⟨.fin 0, .min⟩ else if n < 1024 then ⟨.fin n, .p⟩ else ⟨.fin 1024, .max⟩ := by
  by_cases h0 : n ≤ 0
  · simp [Quantile.new, fmax, fmin, qZero, qOne, FV.isNan, FV.le, h0]
  · by_cases h1 : n < 1024
    · have : n ≤ 1024 := by omega
      have : n ≠ 0 := by omega
      have : n ≠ 1024 := by omega
      simp [Quantile.new, fmax, fmin, qZero, qOne, FV.isNan, FV.le, *]
    · by_cases h2 : n ≤ 1024
      · have : n = 1024 := by omega
        subst this; rfl
      · simp [Quantile.new, fmax, fmin, qZero, qOne, FV.isNan, FV.le, *]

/-- **quantile_new_in_unit**: `Quantile::new` maps EVERY f64 — in range, below 0, above 1, ±∞ and NaN — to a value in
    [0, 1] ("All values are clamped between 0.0 and 1.0"); in particular never to NaN. -/
theorem quantile_new_in_unit (x : FV) : ∃ n : Int, (Quantile.new x).value = .fin n ∧ 0 ≤ n ∧ n ≤ 1024 := by
  cases x with
  | nan => exact ⟨0, rfl, by decide, by decide⟩
  | ninf => exact ⟨0, rfl, by decide, by decide⟩
  | pinf => exact ⟨1024, rfl, by decide, by decide⟩
  | fin n =>
    rw [quantile_new_fin]
    split
    · exact ⟨0, rfl, by decide, by decide⟩
    · split
      · exact ⟨n, rfl, Int.le_of_lt (Int.not_le.mp ‹_›), Int.le_of_lt ‹_›⟩
      · exact ⟨1024, rfl, by decide, by decide⟩

/-- a value that already is in [0, 1] is kept as it is -/
theorem quantile_new_fixes_unit (n : Int) (h0 : 0 ≤ n) (h1 : n ≤ 1024) : (Quantile.new (.fin n)).value = .fin n := by
  rw [quantile_new_fin]
  split
  · exact congrArg FV.fin (Int.le_antisymm h0 ‹_›)
  · split
    · rfl
    · exact congrArg FV.fin (Int.le_antisymm (Int.not_lt.mp ‹_›) h1)

/-- what the clamp does outside the range: NaN, -∞ and everything below 0 become 0.0 (label `min`), +∞ and everything
    above 1 become 1.0 (label `max`) -/
theorem quantile_new_outside :
    Quantile.new .nan = ⟨.fin 0, .min⟩ ∧ Quantile.new .ninf = ⟨.fin 0, .min⟩ ∧ Quantile.new .pinf = ⟨.fin 1024, .max⟩
    ∧ (∀ n : Int, n ≤ 0 → Quantile.new (.fin n) = ⟨.fin 0, .min⟩)
    ∧ (∀ n : Int, 1024 ≤ n → Quantile.new (.fin n) = ⟨.fin 1024, .max⟩) :=
  ⟨rfl, rfl, rfl, fun n h => by rw [quantile_new_fin, if_pos h],
    fun n h => by
      rw [quantile_new_fin, if_neg fun h' => absurd (Int.le_trans h h') (by decide), if_neg (Int.not_lt.mpr h)]⟩

/-- the label is `min` exactly for the value 0.0 and `max` exactly for 1.0 -/
theorem quantile_new_label (x : FV) :
    ((Quantile.new x).label = .min ↔ (Quantile.new x).value = .fin 0)
    ∧ ((Quantile.new x).label = .max ↔ (Quantile.new x).value = .fin 1024) := by
  have hv : (Quantile.new x).label =
      if (Quantile.new x).value = .fin 0 then Label.min else if (Quantile.new x).value = .fin 1024 then .max else .p := rfl
  rw [hv]
  generalize (Quantile.new x).value = v
  split
  · simp [*]
  · split <;> simp [*]

/-- `parse_quantiles` (and `set_quantiles`, which stores its result): one `Quantile` per configured value, in the
    configured order, each clamped; `set_quantiles` refuses exactly the empty slice -/
theorem parse_quantiles_clamps (cfg : List FV) :
    (parseQuantiles cfg).length = cfg.length
    ∧ (parseQuantiles cfg).map (·.value) = cfg.map (fun x => (Quantile.new x).value)
    ∧ (∀ q ∈ parseQuantiles cfg, ∃ n : Int, q.value = .fin n ∧ 0 ≤ n ∧ n ≤ 1024)
    ∧ (setQuantiles cfg = none ↔ cfg = [])
    ∧ (∀ l, setQuantiles cfg = some l → l = parseQuantiles cfg) := by
  refine ⟨by simp [parseQuantiles], by simp [parseQuantiles], ?_, ?_, ?_⟩
  · intro q hq
    obtain ⟨x, _, rfl⟩ := List.mem_map.mp hq
    exact quantile_new_in_unit x
  · cases cfg <;> simp [setQuantiles]
  · intro l h
    cases cfg with
    | nil => simp [setQuantiles] at h
    | cons a t => simpa [setQuantiles] using h.symm

/-- **summary_quantile_in_window**: for EVERY rolling summary (finite retained samples: what `Summary::add` lets through,
    NaN aside), time and quantile value in [0, 1], the value shown lies in the window in the sense of `ShownInWindow`:
    it is (the bin of) a sample that is inside the rolling window — hence between the smallest and the largest of them —
    and the `0` placeholder iff the window is empty. -/
theorem summary_quantile_in_window (minU : Nat) (r : Rolling FV) (now : Nat)
    (hfin : ∀ x ∈ r.snapshot now, isFin x = true) (n : Int) (h0 : 0 ≤ n) (h1 : n ≤ 1024) :
    ShownInWindow minU (r.snapshot now) (summaryQuantile minU r now (.fin n)) := by
  have hunit : inUnit (.fin n) = true := by simp [inUnit, qZero, qOne, FV.le, h0, h1]
  have w := Within.snapshot minU r now
  obtain ⟨g1, _, _, g4⟩ := Good.snapshot r now hfin
  unfold summaryQuantile
  rw [hunit, if_neg (by decide)]
  by_cases hc : (snapshotSketch minU r now).count = 0
  · rw [if_pos (beq_iff_eq.mpr hc)]
    exact List.length_eq_zero_iff.mp (w.count.symm.trans hc)
  · rw [if_neg (mt beq_iff_eq.mp hc)]
    -- the window is not empty, so the sketch's min and max are samples of it
    have hpos : 0 < (snapshotMinMax true r now).total := by rw [g1, ← w.count]; exact Nat.pos_of_ne_zero hc
    by_cases hz : FV.fin n = qZero
    · rw [if_pos hz]; exact (g4 hpos).1
    · rw [if_neg hz]
      by_cases ho : FV.fin n = qOne
      · rw [if_pos ho]; exact (g4 hpos).2
      · rw [if_neg ho]
        exact atRank_in_window w _ (rankOf_lt (Int.toNat_le.mpr h1))

/-- **configured_quantiles_exposed**: for EVERY list of configured quantiles (any f64s: NaN, ±∞, negative, above 1,
    repeated), every rolling summary with finite retained samples and every render time: the summary series shows
    exactly one quantile line per configured value, in the configured order; the value of its `quantile` label is the
    clamped configured value and lies in [0, 1]; and the value shown lies in the window (`ShownInWindow`): within the
    sketch's relative error between the smallest and the largest sample of the rolling window, `0` iff it is empty. -/
theorem configured_quantiles_exposed (minU : Nat) (cfg : List FV) (r : Rolling FV) (now : Nat)
    (hfin : ∀ x ∈ r.snapshot now, isFin x = true) :
    (renderQuantiles minU (parseQuantiles cfg) r now).map Prod.fst = cfg.map (fun x => (Quantile.new x).value)
    ∧ ∀ ln ∈ renderQuantiles minU (parseQuantiles cfg) r now,
        (∃ n : Int, ln.1 = .fin n ∧ 0 ≤ n ∧ n ≤ 1024)
        ∧ ShownInWindow minU (r.snapshot now) ln.2
        ∧ (ln.2 = .placeholder ↔ r.snapshot now = []) := by
  refine ⟨by simp [renderQuantiles, parseQuantiles, List.map_map, Function.comp_def], ?_⟩
  intro ln hln
  simp only [renderQuantiles, parseQuantiles, List.map_map, List.mem_map, Function.comp_def] at hln
  obtain ⟨x, _, rfl⟩ := hln
  obtain ⟨n, hn, h0, h1⟩ := quantile_new_in_unit x
  have hs := summary_quantile_in_window minU r now hfin n h0 h1
  refine ⟨⟨n, hn, h0, h1⟩, ?_, ?_⟩
  · simpa [hn] using hs
  · simp only [hn]; exact shown_placeholder_iff minU _ _ hs

/-- the clamp is what makes the second half true: a quantile value that reached `render` as NaN (what
    `quantile.clamp(0.0, 1.0)` would hand on) fails the range test of `Summary::quantile` and is shown as the `0`
    placeholder under the label NaN although the window holds the samples 2.0 and 3.0 — while `Quantile::new(NaN)`
    shows the window minimum under the label 0.  Likewise a value above 1 that was not clamped. -/
theorem unclamped_quantile_escapes_window :
    let r := [(FV.fin 2048, 1), (.fin 3072, 2)].foldl (fun r (a : FV × Nat) => r.add keepFV a.1 a.2) (Rolling.new 2 10)
    r.snapshot 2 = [.fin 2048, .fin 3072]
    ∧ renderQuantiles 0 [⟨.nan, .p⟩, ⟨.fin 2048, .p⟩] r 2 = [(.nan, .placeholder), (.fin 2048, .placeholder)]
    ∧ renderQuantiles 0 (parseQuantiles [.nan, .fin 2048, .fin 512]) r 2
        = [(.fin 0, .exact (.fin 2048)), (.fin 1024, .exact (.fin 3072)), (.fin 512, .near (.fin 2048))] := by
  decide +kernel

/-- `Quantile::new` clamps with `max(0.0)` then `min(1.0)` (NaN-absorbing, unlike `f64::clamp`), `parse_quantiles` maps
    it over the slice, `set_quantiles` stores `parse_quantiles(quantiles)`, the defaults go through the same function,
    and `Summary::quantile` refuses everything outside `0.0..=1.0` as well as an empty sketch -/
theorem src_quantile_clamp :
    Generated.c15_quantile_new_clamp = ["quantile.max(0.0)", "clamped.min(1.0)"]
    ∧ Generated.c15_quantile_new_result = "Quantile(clamped, label)"
    ∧ Generated.c15_parse_quantiles_body = "{ quantiles.iter().map(|f| Quantile::new(*f)).collect() }"
    ∧ Generated.c15_set_quantiles_assign = "self.quantiles = parse_quantiles(quantiles)"
    ∧ Generated.c15_default_quantiles = "parse_quantiles(&[0.0, 0.5, 0.9, 0.95, 0.99, 0.999, 1.0])"
    ∧ Generated.c15_summary_quantile_guard = "!(0.0..=1.0).contains(&q) || self.count() == 0"
    ∧ Generated.c15_render_quantile_label = "Some((\"quantile\", quantile.value()))" :=
  ⟨rfl, rfl, rfl, rfl, rfl, rfl, rfl⟩

/-- the alignment of a new bucket in `RollingSummary::add` is the integer walk the model's `alignLoop` follows (no
    floating-point arithmetic on durations: `as_secs_f64`/`mul_f64`/`div_f64` do not occur in `add`) -/
theorem src_rolling_align :
    Generated.c15_rolling_add_align
      = ["if now > reftime {", "begin = reftime + self.bucket_duration;", "let mut end = begin + self.bucket_duration;",
         "while now < begin || now >= end {", "begin += self.bucket_duration;", "end += self.bucket_duration;", "}",
         "self.buckets.truncate(self.max_buckets - 1);", "self.buckets.insert(0, Bucket {", "begin, summary });", "}"]
    ∧ Generated.c15_rolling_add_float_ops = [] :=
  ⟨rfl, rfl⟩

/-! ## non-vacuity -/

-- buckets: duplicates, ±∞ bounds; samples equal to bounds, NaN, ±∞; three batches incl. an empty one
example :
    let bounds : List FV := [.ninf, .fin (-1024), .fin 0, .fin 0, .fin 2560, .pinf]
    Ascending bounds ∧
    (Hist.new bounds).map (fun h => (h.recordBatches [[.fin 0, .fin (-1024), .fin 2560, .pinf], [], [.ninf, .nan, .fin 3072]]).buckets)
      = some [1, 2, 3, 3, 4, 6] ∧
    (Hist.new bounds).map (fun h => (h.recordBatches [[.fin 0, .fin (-1024), .fin 2560, .pinf], [], [.ninf, .nan, .fin 3072]]).infBucket)
      = some 7 ∧
    (Hist.new bounds).map (fun h => (h.recordBatches [[.fin 0, .fin (-1024), .fin 2560, .pinf], [], [.ninf, .nan, .fin 3072]]).sum.val)
      = some .nan := by decide +kernel

-- the repo's own unit test of `Histogram` (bounds 10, 25, 100)
example :
    (Hist.new [.fin 10, .fin 25, .fin 100]).map (fun h =>
      ((h.recordMany [.fin 3, .fin 2, .fin 6, .fin 12, .fin 56, .fin 82, .fin 202, .fin 100, .fin 29]).record (.fin 89)).buckets)
      = some [3, 4, 9] := by decide +kernel

-- precedence: all three kinds apply to `lat_ms`; patterns and name are sanitised (`lat.ms` ≡ `lat_ms`); later call replaces
example :
    let calls : List (Matcher × List Int) :=
      [(.sfx ['m','s'], [1]), (.pfx ['l','a','t'], [2]), (.full ['l','a','t','.','m','s'], [3]), (.full ['l','a','t','_','m','s'], [4])]
    distributionFor (some [9]) calls ['l','a','t','-','m','s'] = freshHist [4]
    ∧ distributionFor (some [9]) calls ['l','a','t','_','u','s'] = freshHist [2]
    ∧ distributionFor (some [9]) calls ['x','_','m','s'] = freshHist [1]
    ∧ distributionFor (some [9]) calls ['o'] = freshHist [9]
    ∧ distributionFor none calls ['o'] = .summ 0 0
    ∧ typeFor none calls ['o'] = "summary".toList
    ∧ typeFor none calls ['x','.','m','s'] = "histogram".toList := by decide +kernel

-- exposure: `request_latency` described in seconds, unit suffixes on, a Full override of the plain name and a Suffix
-- override `_seconds`: exposed as the HISTOGRAM family `request_latency_seconds` with the Full override's bounds, while
-- `queue_wait` (no override matches the plain name) is the SUMMARY family `queue_wait_seconds` — deciding on the exposed
-- family name instead would give the opposite answer for both
example :
    let calls : List (Matcher × List Int) :=
      [(.full ['r','e','q','u','e','s','t','_','l','a','t','e','n','c','y'], [1, 2]), (.sfx ['_','s','e','c','o','n','d','s'], [3])]
    let rl := ['r','e','q','u','e','s','t','_','l','a','t','e','n','c','y']
    let qw := ['q','u','e','u','e','_','w','a','i','t']
    exposedFor true none calls rl (some .seconds) = (rl ++ "_seconds".toList, "histogram".toList, freshHist [1, 2])
    ∧ exposedFor true none calls qw (some .seconds) = (qw ++ "_seconds".toList, "summary".toList, .summ 0 0)
    ∧ exposedFor false none calls rl (some .seconds) = (rl, "histogram".toList, freshHist [1, 2])
    ∧ distType (cfgOfU true none calls) (qw ++ "_seconds".toList) = "histogram".toList
    ∧ overridesOfChecked calls = some (overridesOf calls)
    ∧ overridesOfChecked (calls ++ [(.pfx ['a'], [])]) = none := by decide +kernel

-- the invariant is about a state that is really reached: describe, record under two label sets, render
example :
    let cfg := cfgOfU true none [(.full ['a'], [5])]
    let ka : MKey := ⟨['a'], []⟩
    let kb : MKey := ⟨['a'], [(['h'], ['1'])]⟩
    let s := drain (run { cfg := cfg } [.describe ['a'] (some .bytes) ['d'], .hrec ka 3, .upkeep, .hrec kb 7, .hrec ka 9])
    s.dists.map (fun f => (f.1, f.2.map (fun ld => ld.2)))
      = [(['a'], [.hist [5] [1] 2 12, .hist [5] [0] 1 7])] := by decide +kernel

-- the window: 2 buckets of 10: samples at 4, 14, 23, 24; at now = 24 the sample of t = 4 is gone (and the +∞ was never
-- retained, the NaN is), at now = 34 the bucket [14, 24) has left the window, at now = 44 everything has
example :
    let adds : List (FV × Nat) := [(.fin 1, 4), (.fin 2, 14), (.pinf, 14), (.fin 3, 23), (.nan, 24)]
    let r := adds.foldl (fun r a => r.add keepFV a.1 a.2) (Rolling.new 2 10)
    adds.Pairwise (fun a b => a.2 ≤ b.2)
    ∧ r.snapshot 24 = [.nan, .fin 2, .fin 3] ∧ r.count = 5 ∧ r.snapshot 33 = [.nan, .fin 2, .fin 3]
    ∧ r.snapshot 34 = [.nan] ∧ r.snapshot 44 = [] := by decide +kernel

-- a window that holds only an infinite sample prints 0 for every quantile, `_count` 1, `_sum` +Inf
example : ((SummaryDist.new 3 20).recordSamples [(.pinf, 100)]).render 100 = (.zero, .pinf, 1) := by decide +kernel

-- quantiles strictly inside (0,1): window {-3, nan, 0, 2, 5} (n/1024 units): ranks 0..4 answer -3, zero, zero, 2, 5
example :
    let r := [(FV.fin (-3), 1), (.nan, 2), (.fin 0, 11), (.fin 5, 12), (.fin 2, 13), (.pinf, 13)].foldl
      (fun r (a : FV × Nat) => r.add keepFV a.1 a.2) (Rolling.new 2 10)
    snapshotQuantile 0 r 13 1 4 = .zero ∧ snapshotQuantile 0 r 13 3 4 = .bin (.fin 2)
    ∧ snapshotQuantile 0 r 13 1 100 = .bin (.fin (-3)) ∧ snapshotQuantile 0 r 13 99 100 = .bin (.fin 2)
    ∧ snapshotQuantile 0 r 33 1 2 = .none
    -- magnitudes up to min_possible are zeros: unit 2^-40, 1099 units ≤ 1e-9 < 1100 units
    ∧ (bucketSketch 1099 [.fin 1099, .fin 1100, .fin (-1100), .fin (-5)]).atRank 1 = .zero
    ∧ (bucketSketch 1099 [.fin 1099, .fin 1100, .fin (-1100), .fin (-5)]).atRank 3 = .bin (.fin 1100) := by decide +kernel

-- configured quantiles NaN, -∞, -1/4, 1/2, 5/4, +∞ on a window {2.0, 3.0, 5.0} of 2 buckets of 10 whose oldest sample
-- (1.0 at t = 1) has expired: labels 0 0 0 0.5 1 1; the ends show the window's min/max, the median its middle sample;
-- once everything has expired every line shows the placeholder
example :
    let r := [(FV.fin 1024, 1), (.fin 5120, 12), (.fin 2048, 13), (.fin 3072, 21)].foldl
      (fun r (a : FV × Nat) => r.add keepFV a.1 a.2) (Rolling.new 2 10)
    let qs := parseQuantiles [.nan, .ninf, .fin (-256), .fin 512, .fin 1280, .pinf]
    qs.map (·.label) = [.min, .min, .min, .p, .max, .max]
    ∧ r.snapshot 21 = [.fin 3072, .fin 5120, .fin 2048]
    ∧ renderQuantiles 0 qs r 21
        = [(.fin 0, .exact (.fin 2048)), (.fin 0, .exact (.fin 2048)), (.fin 0, .exact (.fin 2048)),
           (.fin 512, .near (.fin 3072)), (.fin 1024, .exact (.fin 5120)), (.fin 1024, .exact (.fin 5120))]
    ∧ (renderQuantiles 0 qs r 50).map Prod.snd = List.replicate 6 .placeholder
    ∧ setQuantiles [] = none := by decide +kernel

-- only the count set / only the duration set / neither
example : windowOf (some 5) none = (5, 20000000000) ∧ windowOf none (some 7) = (3, 7) ∧ windowOf none none = (3, 20000000000) := by
  decide +kernel

end MetricsVerif.C15
