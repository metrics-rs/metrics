/-
C02 — the global recorder is installed at most once and is seen whole by everyone.

Step machine: `Model/OnceCell.lean` (one step = one shared-memory operation of `set` / `try_load`; PC names
= yield-point ids in cell.rs).  The theorems about runs are for every program list (any number of installer and
loader threads, any number of calls each) and EVERY schedule (`List Nat`), by an inductive invariant
(`Proofs/OnceCell.lean: Inv`, `step_inv`); the lookup layer of mod.rs above the cell is `Model/GlobalRec.lean`.
-/
import MetricsVerif.Proofs.OnceCell
import MetricsVerif.Model.GlobalRec
import MetricsVerif.Generated.SourceFacts

namespace MetricsVerif.C02
open MetricsVerif.OnceCell

theorem reachable_inv (o : Ord) (progs : List (List Call)) (sched : List Nat) :
    Inv o (run o (init progs) sched) := run_inv o sched _ (init_inv o progs)

/-- **at most one installation succeeds**, over all threads, in every interleaving -/
theorem at_most_one_ok (o : Ord) (progs : List (List Call)) (sched : List Nat) :
    okCount (run o (init progs) sched) ≤ 1 :=
  (reachable_inv o progs sched).okCount_le

/-- **seen whole**: with the source's orderings (release store, acquire load) no thread ever reads the
    cell without having synchronised with its writer, and never reads it empty -/
theorem load_sees_whole (o : Ord) (hord : OrdOK o) (progs : List (List Call)) (sched : List Nat) :
    (run o (init progs) sched).raced = false
    ∧ ∀ t ∈ (run o (init progs) sched).threads, Res.torn ∉ t.results := by
  have h := reachable_inv o progs sched
  exact ⟨h.no_race hord, fun t ht => (h.thr t ht).no_torn⟩

/-- **one recorder for everyone**: whatever any two loads on any threads returned, it is the same recorder,
    namely the one in the cell, and the cell is initialised -/
theorem same_recorder (o : Ord) (progs : List (List Call)) (sched : List Nat)
    (t₁ t₂ : Thread) (h₁ : t₁ ∈ (run o (init progs) sched).threads) (h₂ : t₂ ∈ (run o (init progs) sched).threads)
    (r₁ r₂ : Nat) (e₁ : Res.some r₁ ∈ t₁.results) (e₂ : Res.some r₂ ∈ t₂.results) :
    r₁ = r₂ ∧ (run o (init progs) sched).cell = some r₁ ∧ (run o (init progs) sched).state = 2 := by
  have h := reachable_inv o progs sched
  have a := (h.thr t₁ h₁).some_res r₁ e₁
  have b := (h.thr t₂ h₂).some_res r₂ e₂
  exact ⟨Option.some.inj (a.2.symm.trans b.2), a.2, a.1⟩

/-- the orderings of the source really are needed: with the load weakened to relaxed the model exhibits a racy read
    (so the ordering obligation extracted from the source is not vacuous) -/
theorem relaxed_load_races :
    (run { storeRelease := true, loadAcquire := false } (init [[.set 7], [.load]]) [0, 1, 0, 0, 0, 1, 1]).raced = true := by
  decide +kernel

theorem step_keeps_initialised (o : Ord) (s : Sys) (tid : Nat) (h : Inv o s) (h2 : s.state = 2) :
    (step o s tid).state = 2 ∧ (step o s tid).cell = s.cell := by
  rcases step_eff o s tid with hs | ⟨t, s', t', hg, e, hs⟩ <;> rw [hs]
  · exact ⟨h2, rfl⟩
  · exact (e.shared (h.critN_zero (List.mem_of_getElem? hg))).1 h2

/-- **stable once seen**: from any reachable initialised state, after any further schedule the cell is
    still initialised and still holds the same recorder -/
theorem stable_once_initialised (o : Ord) (sched : List Nat) :
    ∀ s, Inv o s → s.state = 2 → (run o s sched).state = 2 ∧ (run o s sched).cell = s.cell :=
  fun s h h2 =>
    (run_induction (J := fun s' => s'.state = 2 ∧ s'.cell = s.cell) sched
      (fun s' tid _ h' j => have m := step_keeps_initialised o s' tid h' j.1; ⟨m.1, m.2.trans j.2⟩) s h ⟨h2, rfl⟩).2

/-- what a call can still answer once the cell holds `r`: an installation is rejected (with some recorder
    handed back), a lookup finds `r`. In particular never `ok`, never `none`, never another recorder. -/
def LateRes (r : Nat) (x : Res) : Prop := (∃ e, x = Res.err e) ∨ x = Res.some r

/-- from `s` to `s'` every thread has kept its place and its results and gained only results satisfying `P` -/
def Gains (P : Res → Prop) (s s' : Sys) : Prop :=
  ∀ (i : Nat) (t : Thread), s.threads[i]? = some t →
    ∃ (t' : Thread) (extra : List Res), s'.threads[i]? = some t' ∧ t'.results = t.results ++ extra ∧ ∀ x ∈ extra, P x

theorem Gains.refl {P : Res → Prop} {s : Sys} : Gains P s s :=
  fun _ t hi => ⟨t, [], hi, (List.append_nil _).symm, nofun⟩

theorem Gains.trans {P : Res → Prop} {s₁ s₂ s₃ : Sys} (a : Gains P s₁ s₂) (b : Gains P s₂ s₃) : Gains P s₁ s₃ := by
  intro i t hi
  obtain ⟨t₂, e₁, h₂, hr₁, hl₁⟩ := a i t hi
  obtain ⟨t₃, e₂, h₃, hr₂, hl₂⟩ := b i t₂ h₂
  exact ⟨t₃, e₁ ++ e₂, h₃, by rw [hr₂, hr₁, List.append_assoc],
    fun x hx => (List.mem_append.mp hx).elim (hl₁ x) (hl₂ x)⟩

/-- one step gains what the stepping thread's call may answer -/
theorem step_gains {o : Ord} {s : Sys} {tid : Nat} {P : Res → Prop}
    (hP : ∀ t, s.threads[tid]? = some t → ∀ x, Answers s t x → P x) : Gains P s (step o s tid) := by
  rcases step_eff o s tid with hs | ⟨t, s', t', hg, e, hs⟩ <;> rw [hs]
  · exact Gains.refl
  intro i u hi
  show ∃ t'' extra, (setAt s.threads tid t')[i]? = some t'' ∧ _
  rw [getElem?_setAt]
  by_cases hti : tid = i
  · subst hti
    obtain rfl : t = u := Option.some.inj (hg.symm.trans hi)
    rw [if_pos ⟨rfl, (List.getElem?_eq_some_iff.mp hg).1⟩]
    rcases e.answer with ⟨_, hr⟩ | ⟨x, rfl, hx⟩
    · exact ⟨t', [], rfl, by rw [hr, List.append_nil], nofun⟩
    · exact ⟨_, [x], rfl, rfl, fun y hy => List.mem_singleton.mp hy ▸ hP t hg x hx⟩
  · rw [if_neg (hti ·.1)]
    exact Gains.refl i u hi

theorem late_of_answers {s : Sys} {t : Thread} {x : Res} {r : Nat} (hx : Answers s t x)
    (h2 : s.state = 2) (hc : s.cell = some r) (hcr : critN t = 0) : LateRes r x := by
  cases x with
  | err e => exact .inl ⟨e, rfl⟩
  | ok => cases hcr.symm.trans (if_pos (.inr hx))
  | none => exact absurd h2 hx.2
  | some r' => exact .inr (congrArg Res.some (Option.some.inj (hx.2.symm.trans hc)))
  | torn => cases hx.2.symm.trans hc

theorem run_after_init (o : Ord) (sched : List Nat) (s : Sys) (h : Inv o s) (h2 : s.state = 2) (r : Nat)
    (hc : s.cell = some r) : Gains (LateRes r) s (run o s sched) :=
  (run_induction (J := fun s' => s'.state = 2 ∧ s'.cell = some r ∧ Gains (LateRes r) s s') sched
    (fun s' tid _ h' ⟨a, b, g⟩ =>
      have m := step_keeps_initialised o s' tid h' a
      ⟨m.1, m.2.trans b, g.trans (step_gains fun t hg x hx =>
        late_of_answers hx a b (h'.critN_zero (List.mem_of_getElem? hg) (by omega)))⟩)
    s h ⟨h2, hc, Gains.refl⟩).2.2.2

/-- **after the first dispatch** (the property's sentence on every emission later than the first dispatched one, at full strength): take ANY programs and
    ANY schedule `sched₁` after which some thread's lookup has answered `Some r` (its emission was dispatched
    to recorder `r`). Then, whatever happens next (`sched₂`), every call that completes afterwards on ANY
    thread — including lookups that were already under way — answers either `Err` (an installation, rejected)
    or `Some r`: no later lookup falls back to the no-op recorder, none sees another recorder or a torn one,
    and no later installation succeeds. -/
theorem after_first_dispatch (o : Ord) (progs : List (List Call)) (sched₁ sched₂ : List Nat)
    (u : Thread) (r : Nat) (hu : u ∈ (run o (init progs) sched₁).threads) (hr : Res.some r ∈ u.results)
    (i : Nat) (t : Thread) (hi : (run o (init progs) sched₁).threads[i]? = some t) :
    ∃ t' extra, (run o (init progs) (sched₁ ++ sched₂)).threads[i]? = some t'
      ∧ t'.results = t.results ++ extra ∧ ∀ x ∈ extra, LateRes r x := by
  have h := reachable_inv o progs sched₁
  have a := (h.thr u hu).some_res r hr
  rw [run_append]
  exact run_after_init o sched₂ _ h a.1 r a.2 i t hi

/-- a thread whose installation answered `Ok` proves the cell initialised -/
theorem ok_means_initialised (o : Ord) (progs : List (List Call)) (sched : List Nat)
    (u : Thread) (hu : u ∈ (run o (init progs) sched).threads) (hok : Res.ok ∈ u.results) :
    (run o (init progs) sched).state = 2 :=
  (reachable_inv o progs sched).state_of_ok hu hok

/-- **after `set_global_recorder` has returned `Ok`** to anyone, every call that completes later on any
    thread is rejected (installations) or finds the installed recorder (lookups) -/
theorem after_install_returned (o : Ord) (progs : List (List Call)) (sched₁ sched₂ : List Nat)
    (u : Thread) (hu : u ∈ (run o (init progs) sched₁).threads) (hok : Res.ok ∈ u.results) :
    ∃ r, (run o (init progs) sched₁).cell = some r ∧
      ∀ (i : Nat) (t : Thread), (run o (init progs) sched₁).threads[i]? = some t →
        ∃ (t' : Thread) (extra : List Res), (run o (init progs) (sched₁ ++ sched₂)).threads[i]? = some t'
          ∧ t'.results = t.results ++ extra ∧ ∀ x ∈ extra, LateRes r x := by
  have h := reachable_inv o progs sched₁
  have h2 := h.state_of_ok hu hok
  obtain ⟨r, hc⟩ := h.cell2 h2
  rw [run_append]
  exact ⟨r, hc, run_after_init o sched₂ _ h h2 r hc⟩

/-- **before that, nothing is dispatched**: as long as the publishing store has not happened, no lookup of
    any thread has answered `Some` (every completed emission went to the no-op recorder) and no installation
    has answered `Ok` -/
theorem no_dispatch_before_publish (o : Ord) (progs : List (List Call)) (sched : List Nat)
    (hs : (run o (init progs) sched).state ≠ 2) (u : Thread) (hu : u ∈ (run o (init progs) sched).threads) :
    (∀ r, Res.some r ∉ u.results) ∧ Res.ok ∉ u.results := by
  have h := reachable_inv o progs sched
  exact ⟨fun r hr => hs ((h.thr u hu).some_res r hr).1, fun hok => hs (h.state_of_ok hu hok)⟩

/-- what a call can answer while the cell is being initialised: installations are rejected, lookups miss -/
def WedgedRes (x : Res) : Prop := (∃ e, x = Res.err e) ∨ x = Res.none

theorem wedged_of_answers {s : Sys} {t : Thread} {x : Res} (hx : Answers s t x)
    (h1 : s.state = 1) (hcr : critN t = 0) (hread : t.pc = .read → s.state = 2) : WedgedRes x := by
  have nr : t.pc ≠ .read := fun hp => by have := hread hp; omega
  cases x with
  | err e => exact .inl ⟨e, rfl⟩
  | ok => cases hcr.symm.trans (if_pos (.inr hx))
  | none => exact .inr rfl
  | some r' => exact absurd hx.1 nr
  | torn => exact absurd hx.1 nr

/-- one step of a thread other than the installer `w` while the cell is INITIALIZING -/
theorem step_while_initializing (o : Ord) (s : Sys) (tid w : Nat) (tw : Thread) (h : Inv o s)
    (h1 : s.state = 1) (hw : s.threads[w]? = some tw) (hcw : critN tw = 1) (hne : tid ≠ w) :
    (step o s tid).state = 1 ∧ (step o s tid).threads[w]? = some tw ∧ Gains WedgedRes s (step o s tid) := by
  -- with the installer taken out nobody is left between CAS and store
  have hcrit : ∀ t, s.threads[tid]? = some t → critN t = 0 := fun t hg => by
    have hsum := sum_map_setAt critN s.threads w { tw with pc := .done } tw hw
    have hmem : t ∈ setAt s.threads w { tw with pc := .done } :=
      List.mem_of_getElem? (i := tid) (by rw [getElem?_setAt, if_neg (hne ·.1.symm)]; exact hg)
    have := le_sum_map critN hmem
    have : critCount s = 1 := (h.c1 h1).2
    have : critN { tw with pc := .done } = 0 := rfl
    unfold critCount at *
    omega
  have gains : Gains WedgedRes s (step o s tid) := step_gains fun t hg x hx =>
    wedged_of_answers hx h1 (hcrit t hg) (h.thr t (List.mem_of_getElem? hg)).at_read
  rcases step_eff o s tid with hs | ⟨t, s', t', hg, e, hs⟩ <;> rw [hs] at gains ⊢
  · exact ⟨h1, hw, gains⟩
  refine ⟨?_, ?_, gains⟩
  · -- the state moves only in a winning CAS (from 0) or a store (by the installer)
    have := hcrit t hg
    rcases e.counts with ⟨hst, _⟩ | ⟨h0, _⟩ | ⟨_, _, hc, _⟩
    · exact hst.trans h1
    · cases h0.symm.trans h1
    · cases this.symm.trans hc
  · show (setAt s.threads tid t')[w]? = some tw
    rw [getElem?_setAt, if_neg (hne ·.1)]
    exact hw

/-- **a stalled installer wedges the cell**: from any reachable state in which thread `w` is between its
    winning CAS and its publishing store, every schedule that does not run `w` leaves the cell INITIALIZING, and
    every call completing meanwhile on any thread is a rejected installation or a
    lookup that misses (emission to the no-op recorder). Together with `src_set_window` (nothing in that window
    can fail) and `at_most_one_ok` this is the whole story of the window: it is left only by `w`'s store. -/
theorem wedged_while_installer_stalls (o : Ord) (sched : List Nat) (w : Nat) (tw : Thread) (hns : w ∉ sched) :
    ∀ (s : Sys), Inv o s → s.state = 1 → s.threads[w]? = some tw → critN tw = 1 →
    (run o s sched).state = 1 ∧
    ∀ (i : Nat) (t : Thread), s.threads[i]? = some t →
      ∃ (t' : Thread) (extra : List Res), (run o s sched).threads[i]? = some t'
        ∧ t'.results = t.results ++ extra ∧ ∀ x ∈ extra, WedgedRes x := by
  intro s h h1 hw hcw
  have := (run_induction (J := fun s' => s'.state = 1 ∧ s'.threads[w]? = some tw ∧ Gains WedgedRes s s') sched
    (fun s' tid ht h' ⟨a, b, g⟩ =>
      have m := step_while_initializing o s' tid w tw h' a b hcw (fun e => hns (e ▸ ht))
      ⟨m.1, m.2.1, g.trans m.2.2⟩)
    s h ⟨h1, hw, Gains.refl⟩).2
  exact ⟨this.1, this.2.2⟩

open MetricsVerif.GlobalRec in
/-- `with_recorder`: a local recorder wins over whatever the global cell answers -/
theorem dispatch_local_first (l : Nat) (g : Res) : dispatch (some l) g = .localRec l := rfl

open MetricsVerif.GlobalRec in
/-- `with_recorder` without a local recorder: the global recorder iff the cell answered `Some`, else no-op -/
theorem dispatch_global_iff (g : Res) (r : Nat) : dispatch none g = .global r ↔ g = Res.some r := by
  cases g <;> simp [dispatch]

open MetricsVerif.GlobalRec in
theorem dispatch_noop_iff (g : Res) : dispatch none g = .noop ↔ ∀ r, g ≠ Res.some r := by
  cases g <;> simp [dispatch]

open MetricsVerif.GlobalRec in
/-- what the API user observes for a late result: a rejected installation or an emission sent to `r` -/
theorem late_observed (r : Nat) (x : Res) (h : LateRes r x) :
    (∃ e, ofRes x = .rejected e) ∨ ofRes x = .sent (.global r) := by
  rcases h with ⟨e, rfl⟩ | rfl
  · exact Or.inl ⟨e, rfl⟩
  · exact Or.inr rfl

open MetricsVerif.GlobalRec in
/-- `after_first_dispatch` on the API level: for ANY API programs (installations, emissions, emissions under local
    recorders, any number of threads) and any schedule after which some emission was dispatched to the global
    recorder `r`, every cell call completing later is observed as a rejected installation or as an emission
    sent to `r` -/
theorem global_after_first_dispatch (o : Ord) (gprogs : List (List GCall)) (sched₁ sched₂ : List Nat)
    (u : Thread) (r : Nat) (hu : u ∈ (grun o gprogs sched₁).threads) (hr : Res.some r ∈ u.results)
    (i : Nat) (t : Thread) (hi : (grun o gprogs sched₁).threads[i]? = some t) :
    ∃ t' extra, (grun o gprogs (sched₁ ++ sched₂)).threads[i]? = some t'
      ∧ t'.results = t.results ++ extra
      ∧ ∀ x ∈ extra, (∃ e, ofRes x = .rejected e) ∨ ofRes x = .sent (.global r) := by
  obtain ⟨t', extra, a, b, c⟩ := after_first_dispatch o (gprogs.map toCell) sched₁ sched₂ u r hu hr i t hi
  exact ⟨t', extra, a, b, fun x hx => late_observed r x (c x hx)⟩

/-- a lookup that starts in an initialised state goes on to read the cell (it does not answer `None`) … -/
theorem load_after_init (o : Ord) (s : Sys) (t : Thread) (rest : List Call)
    (hpc : t.pc = .loadState) (hc : t.calls = .load :: rest) (h2 : s.state = 2) :
    (stepThread o s t).2.pc = .read ∧ (stepThread o s t).2.results = t.results := by
  unfold stepThread; rw [hpc, hc]; simp [h2]

/-- … and the read returns exactly the recorder in the cell -/
theorem read_returns_cell (o : Ord) (s : Sys) (t : Thread) (rest : List Call) (w : Nat)
    (hpc : t.pc = .read) (hc : t.calls = .load :: rest) (hw : s.cell = some w) :
    (stepThread o s t).2.results = t.results ++ [Res.some w] := by
  unfold stepThread; rw [hpc, hc]; simp [hw, advance_results]

/-- before initialisation a lookup answers `None` (the caller falls back to the no-op recorder) -/
theorem load_before_init (o : Ord) (s : Sys) (t : Thread) (rest : List Call)
    (hpc : t.pc = .loadState) (hc : t.calls = .load :: rest) (h2 : s.state ≠ 2) :
    (stepThread o s t).2.results = t.results ++ [Res.none] ∧ (stepThread o s t).1 = s := by
  unfold stepThread; rw [hpc, hc]; simp [h2, advance_results]

/-- **the loser gets its own recorder back**: a `set r` that loses the race answers `Err r` with the very
    recorder it was called with, and changes nothing in the cell -/
theorem loser_gets_own_back (o : Ord) (s : Sys) (t : Thread) (r : Nat) (rest : List Call)
    (hpc : t.pc = .cas) (hc : t.calls = .set r :: rest) (h0 : s.state ≠ 0) :
    (stepThread o s t).2.results = t.results ++ [Res.err r] ∧ (stepThread o s t).1 = s := by
  unfold stepThread; rw [hpc, hc]; simp [h0, advance_results]

/-- the winner's recorder is the one that ends up in the cell: a `set r` that wins writes `r` -/
theorem winner_installs_own (o : Ord) (s : Sys) (t : Thread) (r : Nat) (rest : List Call)
    (hpc : t.pc = .write) (hc : t.calls = .set r :: rest) :
    (stepThread o s t).1.cell = some r := by
  unfold stepThread; rw [hpc, hc]

/-! ### tie to the source: what the translator extracts from cell.rs and mod.rs (regenerated on every run), facts that
a run on x86 under an SC scheduler cannot give -/

def isRelease (s : String) : Bool := s == "Release" || s == "AcqRel" || s == "SeqCst"
def isAcquire (s : String) : Bool := s == "Acquire" || s == "AcqRel" || s == "SeqCst"

/-- the orderings cell.rs uses today (regenerated from the source on every run) -/
def srcOrd : Ord :=
  { storeRelease := isRelease Generated.cell_store_ordering, loadAcquire := isAcquire Generated.cell_load_ordering }

/-- obligation: the publishing store is a release store and the consuming load an acquire load -/
theorem src_orderings_ok : OrdOK srcOrd := by unfold OrdOK; decide

/-- obligation: `set` is CAS → write cell → store state, `try_load` is load state → read cell (the step
    machine's program order), and the CAS is at least acquire on success -/
theorem src_call_shape :
    Generated.cell_set_calls = ["state.compare_exchange", "recorder.write", "state.store"]
    ∧ Generated.cell_load_calls = ["state.load", "recorder.read"]
    ∧ isAcquire Generated.cell_cas_success = true :=
  ⟨rfl, rfl, rfl⟩

/-- `load_sees_whole` for the orderings in the source -/
theorem src_load_sees_whole (progs : List (List Call)) (sched : List Nat) :
    (run srcOrd (init progs) sched).raced = false
    ∧ ∀ t ∈ (run srcOrd (init progs) sched).threads, Res.torn ∉ t.results :=
  load_sees_whole srcOrd src_orderings_ok progs sched

/-- obligation: the pinned accesses are the ONLY atomic-looking accesses of the two functions and the pinned
    orderings the ONLY ordering tokens — an aliased `st.load(Relaxed)` next to a decoy acquire load, or a second
    store, changes one of these lists whatever the receiver is spelled like -/
theorem src_no_decoy_accesses :
    Generated.cell_load_atomic_ops = ["self.state.load"]
    ∧ Generated.cell_set_atomic_ops = ["self.state.compare_exchange", "self.state.store"]
    ∧ Generated.cell_load_all_orderings = [Generated.cell_load_ordering]
    ∧ Generated.cell_set_all_orderings
        = [Generated.cell_cas_success, Generated.cell_cas_failure, Generated.cell_store_ordering] :=
  ⟨rfl, rfl, rfl, rfl⟩

/-- obligation: everything `set` and `try_load` call, in order. Between winning the CAS and the publishing
    store there is exactly: take the slot pointer, box + leak the recorder, write it. No call into the recorder
    (or anything else that can panic or block) sits in the INITIALIZING window — the step machine's
    `write`/`store` steps have no failure mode because the code has none. -/
theorem src_set_window :
    Generated.cell_set_fn_calls
      = ["self.state.compare_exchange", "Ok", "self.recorder.get", ".write", "Some", "Box::leak", "Box::new",
         "self.state.store", "Ok", "Err", "SetRecorderError"]
    ∧ Generated.cell_load_fn_calls = ["self.state.load", "self.recorder.get", ".read"] :=
  ⟨rfl, rfl⟩

/-- obligation: the lookup layer of mod.rs is stateless and is what `Model/GlobalRec.lean` says:
    `set_global_recorder` only forwards to the cell; the global cell is mentioned three times (its definition,
    that forward, the lookup in `with_recorder`); the module's statics are the no-op recorder, the cell and ONE
    thread-local (the local-recorder slot) — so no memo, no second slot, no pre-check; `with_recorder` tests the
    local slot, then the cell, and applies `f` to local / global / no-op in that order and calls nothing else -/
theorem src_global_layer :
    Generated.global_set_body = "GLOBAL_RECORDER.set(recorder)"
    ∧ Generated.global_cell_uses = ["set", "try_load"]
    ∧ Generated.global_cell_mentions = 3
    ∧ Generated.global_statics = ["NOOP_RECORDER", "GLOBAL_RECORDER", "LOCAL_RECORDER"]
    ∧ Generated.global_thread_locals = 1
    ∧ Generated.with_recorder_conditions = ["local_recorder.get()", "GLOBAL_RECORDER.try_load()"]
    ∧ Generated.with_recorder_fn_calls
        = ["LOCAL_RECORDER.with", "Some", "local_recorder.get", "f", "recorder.as_ref", "Some",
           "GLOBAL_RECORDER.try_load", "f", "f"] :=
  ⟨rfl, rfl, rfl, rfl, rfl, rfl, rfl⟩

/-- the branch of `with_recorder` named by the argument `f` is applied to, read as a partial dispatch -/
def targetOfSrc (loc : Option Nat) (g : Res) (arg : String) : Option GlobalRec.Target :=
  if arg == "recorder.as_ref()" then loc.map GlobalRec.Target.localRec
  else if arg == "global_recorder" then (match g with | .some r => some (.global r) | _ => none)
  else if arg == "&NOOP_RECORDER" then some .noop
  else none

/-- first branch (in source order) that applies -/
def srcDispatch (loc : Option Nat) (g : Res) : Option GlobalRec.Target :=
  Generated.with_recorder_targets.findSome? (targetOfSrc loc g)

/-- obligation: the model's `dispatch` IS the extracted branch order of `with_recorder` -/
theorem src_dispatch_is_model (loc : Option Nat) (g : Res) :
    srcDispatch loc g = some (GlobalRec.dispatch loc g) := by
  have h : Generated.with_recorder_targets = ["recorder.as_ref()", "global_recorder", "&NOOP_RECORDER"] := rfl
  unfold srcDispatch
  rw [h]
  cases loc <;> cases g <;> simp [targetOfSrc, GlobalRec.dispatch, List.findSome?]

/-- obligation: only `Sync + 'static` recorders can be installed globally (the cell itself is
    `unsafe impl Sync` unconditionally and its `set` does not ask for `Sync`: the bound on the public
    function is the only thing between a `Cell`-based recorder and every thread) -/
theorem src_sync_bound :
    "Sync" ∈ Generated.global_set_bounds ∧ "'static" ∈ Generated.global_set_bounds
    ∧ "Recorder" ∈ Generated.global_set_bounds ∧ "'static" ∈ Generated.cell_set_bounds := by decide +kernel

/-- obligation: the names the two pinned bodies use mean what the model assumes. The file imports exactly
    `super::{Recorder, SetRecorderError}` and `std::{cell::UnsafeCell, sync::atomic::{AtomicUsize, Ordering}}` (no
    glob, no alias, no crate-local shim) and declares exactly the three constants, the struct, ONE impl block with
    `new`/`set`/`try_load` and the two UNSAFE impls — so no local `mod Ordering`, no wrapper type named
    `AtomicUsize`, no second impl can stand between the tokens `Ordering::Acquire`/`Release` (`src_orderings_ok`) and
    the std atomics; neither body declares an item of its own. The state constants are the model's 0/1/2 (`new()`
    starts at `UNINITIALIZED`, the model's initial state), the field holding the state IS an `AtomicUsize`, the
    recorder slot an `UnsafeCell<Option<&'static dyn Recorder>>`; `try_load` compares the loaded state with
    `INITIALIZED` and `set` takes the winning arm only on `Ok(UNINITIALIZED)`. -/
theorem src_cell_file :
    Generated.cell_uses = ["usesuper::{Recorder,SetRecorderError};",
                           "usestd::{cell::UnsafeCell,sync::atomic::{AtomicUsize,Ordering},};"]
    ∧ Generated.cell_items = ["const UNINITIALIZED: usize", "const INITIALIZING: usize", "const INITIALIZED: usize",
        "pub struct RecorderOnceCell", "impl RecorderOnceCell", "UNSAFE impl Send for RecorderOnceCell",
        "UNSAFE impl Sync for RecorderOnceCell"]
    ∧ Generated.cell_state_consts
        = [("UNINITIALIZED", "usize", (init []).state), ("INITIALIZING", "usize", 1), ("INITIALIZED", "usize", 2)]
    ∧ Generated.cell_fields = "{recorder:UnsafeCell<Option<&'staticdynRecorder>>,state:AtomicUsize,}"
    ∧ Generated.cell_new_body = "{Self{recorder:UnsafeCell::new(None),state:AtomicUsize::new(UNINITIALIZED)}}"
    ∧ Generated.cell_impl_fns = ["new", "set", "try_load"]
    ∧ Generated.cell_load_condition = "self.state.load(Ordering::" ++ Generated.cell_load_ordering ++ ")!=INITIALIZED"
    ∧ Generated.cell_set_arms = ["Ok(UNINITIALIZED)", "_"]
    ∧ Generated.cell_unsafe_blocks = 2
    ∧ Generated.cell_body_local_items = [] :=
  ⟨rfl, rfl, rfl, rfl, rfl, rfl, rfl, rfl, rfl, rfl⟩

/-- a race of two installers and two loaders -/
example :
    let s := run { storeRelease := true, loadAcquire := true }
      (init [[.set 1], [.set 2], [.load, .load], [.load]]) [0, 1, 2, 3, 1, 0, 2, 1, 1, 2, 2, 3, 3]
    s.state = 2 ∧ s.cell = some 2 ∧ s.raced = false ∧
    s.threads.map (·.results) = [[.err 1], [.ok], [.none, .some 2], [.some 2]] := by decide +kernel

/-- a stalled installer: thread 0 wins the CAS and is never run again; everybody else is rejected / misses -/
example :
    let s := run { storeRelease := true, loadAcquire := true }
      (init [[.set 1], [.set 2, .load], [.load, .set 3]]) [0, 0, 1, 2, 1, 2, 1, 2, 1, 2]
    s.state = 1 ∧ s.threads.map (·.results) = [[], [.err 2, .none], [.none, .err 3]] := by decide +kernel

/-- the long-lived emitter: looks before the installation (no-op), under a local recorder, and after -/
example :
    let progs : List (List GlobalRec.GCall) := [[.emit, .emitLocal 21, .emit], [.install 1], [.install 2, .emit]]
    let s := GlobalRec.grun { storeRelease := true, loadAcquire := true } progs [0, 0, 1, 2, 1, 2, 1, 1, 0, 0, 2, 2, 2]
    GlobalRec.gobserve progs s =
      [[.sent .noop, .sent (.localRec 21), .sent (.global 1)], [.installed], [.rejected 2, .sent (.global 1)]] := by
  decide +kernel

/-- a nested lookup is left at the head of a thread's program only by a call that answered `Some` -/
theorem settle_head_nested (r : Res) (cs : List Call) (h : (settle r cs).head? = some Call.nested) :
    r.isSome = true := by
  induction cs with
  | nil => simp [settle] at h
  | cons c rest ih =>
    cases c with
    | set x => simp [settle] at h
    | load => simp [settle] at h
    | nested =>
      simp only [settle] at h
      by_cases hs : r.isSome = true
      · exact hs
      · rw [if_neg hs] at h; exact ih h

/-- what one thread step does to the thread's program: nothing, or the current call completes with an answer
    `r` (then `settle r` decides which nested lookups exist) — and an answer `Some` comes from the read step only -/
theorem stepThread_calls (o : Ord) (s : Sys) (t : Thread) :
    (stepThread o s t).2.calls = t.calls
    ∨ ∃ r, (stepThread o s t).2 = t.advance r ∧ (r.isSome = true → t.pc = .read) := by
  rcases (stepThread_eff o s t).answer with ⟨hc, _⟩ | ⟨x, hx, ha⟩
  · exact .inl hc
  · refine .inr ⟨x, hx, ?_⟩
    cases x with
    | some r => exact fun _ => ha.1
    | _ => exact nofun

/-- every thread that is about to make a nested lookup (an emission from inside a dispatched call) does so in
    an initialised cell -/
def NestedOK (s : Sys) : Prop := ∀ t ∈ s.threads, t.calls.head? = some Call.nested → s.state = 2

theorem init_nestedOK (progs : List (List Call)) : NestedOK (init progs) := by
  intro t ht hn
  obtain ⟨p, _, rfl⟩ := List.mem_map.mp ht
  cases settle_head_nested .none p hn

/-- the program changes only when a call completes, and a nested lookup is left at its head only by an answer
    `Some`, which only the read step gives -/
theorem step_nestedOK (o : Ord) (s : Sys) (tid : Nat) (h : Inv o s) (hn : NestedOK s) :
    NestedOK (step o s tid) := by
  intro u hu hhead
  refine (step_keeps_initialised o s tid h ?_).1
  rcases step_eff o s tid with hs | ⟨t, s', t', hg, e, hs⟩ <;> rw [hs] at hu
  · exact hn u hu hhead
  have ht := List.mem_of_getElem? hg
  rcases mem_setAt hu with rfl | hu
  · rcases e.answer with ⟨hc, _⟩ | ⟨x, rfl, hx⟩
    · exact hn t ht (hc ▸ hhead)
    · cases x with
      | some r => exact (h.thr t ht).at_read hx.1
      | _ => cases settle_head_nested _ _ hhead
  · exact hn u hu hhead

/-- **an emission made from inside a dispatched call finds the installed recorder**: for ANY programs and ANY
    schedule, whenever a thread is about to make (or is making) a nested lookup, the cell is initialised and
    holds a recorder — so by `nested_lookup_reads`/`nested_read_returns_cell` that lookup answers `Some` of
    it, and by `same_recorder` it is the recorder the enclosing call was dispatched to. It never falls back
    to the no-op recorder. -/
theorem nested_dispatch_finds_recorder (o : Ord) (progs : List (List Call)) (sched : List Nat)
    (t : Thread) (ht : t ∈ (run o (init progs) sched).threads) (hn : t.calls.head? = some Call.nested) :
    (run o (init progs) sched).state = 2 ∧ ∃ r, (run o (init progs) sched).cell = some r := by
  have h := reachable_inv o progs sched
  have h2 := (run_induction sched (fun s tid _ => step_nestedOK o s tid) _ (init_inv o progs) (init_nestedOK progs)).2 t ht hn
  exact ⟨h2, h.cell2 h2⟩

/-- a nested lookup in an initialised cell goes on to read it (does not answer `None`) … -/
theorem nested_lookup_reads (o : Ord) (s : Sys) (t : Thread) (rest : List Call)
    (hpc : t.pc = .loadState) (hc : t.calls = .nested :: rest) (h2 : s.state = 2) :
    (stepThread o s t).2.pc = .read ∧ (stepThread o s t).2.results = t.results := by
  unfold stepThread; rw [hpc, hc]; simp [h2]

/-- … and answers exactly the recorder in the cell -/
theorem nested_read_returns_cell (o : Ord) (s : Sys) (t : Thread) (rest : List Call) (w : Nat)
    (hpc : t.pc = .read) (hc : t.calls = .nested :: rest) (hw : s.cell = some w) :
    (stepThread o s t).2.results = t.results ++ [Res.some w] := by
  unfold stepThread; rw [hpc, hc]; simp [hw, advance_results]

/-- a lookup that misses cancels the nested lookups behind it (the no-op recorder emits nothing) and leaves
    the rest of the program alone -/
theorem miss_cancels_nested (k : Nat) (cs : List Call) (hcs : cs.head? ≠ some Call.nested) :
    settle .none (List.replicate k Call.nested ++ cs) = cs := by
  induction k with
  | zero =>
    cases cs with
    | nil => rfl
    | cons c rest => cases c <;> simp_all [settle]
  | succ n ih => simp [List.replicate_succ, settle, Res.isSome, ih]

open MetricsVerif.GlobalRec in
/-- the same API call with the recorder's panic taken out -/
def calm : GCall → GCall
  | .emitPanic => .emit
  | .emitLocalPanic l => .emitLocal l
  | c => c

open MetricsVerif.GlobalRec in
theorem toCell_calm (p : List GCall) : toCell (p.map calm) = toCell p := by
  induction p with
  | nil => rfl
  | cons c cs ih => cases c <;> simp [calm, toCell, ih]

open MetricsVerif.GlobalRec in
/-- **a caught panic inside a recorder call is invisible to the lookup layer**: a panicking emission projects onto
    the same cell calls as a plain one (`toCell_calm`), so for ANY API programs and ANY schedule the process is in
    the state it would be in had none of the recorder calls panicked. This is a statement about the projection, not
    about the step machine: that `toCell` may forget the panic — the layer keeps nothing across a call, so an
    unwinding call leaves nothing behind — is what `src_global_layer` and `src_dispatch_is_bare_call` pin. -/
theorem caught_panic_is_invisible (o : Ord) (gprogs : List (List GCall)) (sched : List Nat) :
    grun o (gprogs.map (·.map calm)) sched = grun o gprogs sched := by
  unfold grun ginit
  congr 2
  rw [List.map_map]
  apply List.map_congr_left
  intro p _
  exact toCell_calm p

open MetricsVerif.GlobalRec in
/-- an observation that was delivered in full to the global recorder `r` (or to a local recorder in scope) -/
def Delivered (r : Nat) : GRes → Prop
  | .sent (.global x) => x = r
  | .sent (.localRec _) => True
  | .unwound (.global x) => x = r
  | .unwound (.localRec _) => True
  | .sentAll ts => ts ≠ [] ∧ ∀ t ∈ ts, t = Target.global r
  | _ => False

open MetricsVerif.GlobalRec in
theorem takeNested_append (n : Nat) (rs : List Res) : (takeNested n rs).1 ++ (takeNested n rs).2 = rs := by
  induction n generalizing rs with
  | zero => rfl
  | succ n ih =>
    cases rs with
    | nil => rfl
    | cons r rs =>
      unfold takeNested
      split
      · exact congrArg (r :: ·) (ih rs)
      · rfl

open MetricsVerif.GlobalRec in
theorem takeNested_mem (n : Nat) (rs : List Res) :
    (∀ x ∈ (takeNested n rs).1, x ∈ rs) ∧ (∀ x ∈ (takeNested n rs).2, x ∈ rs) :=
  ⟨fun _ h => takeNested_append n rs ▸ List.mem_append_left _ h,
   fun _ h => takeNested_append n rs ▸ List.mem_append_right _ h⟩

open MetricsVerif.GlobalRec in
/-- one call of an emitting program whose lookups all find `r`: nothing is observed (its answers are still missing),
    or one observation, delivered, and the rest of the program goes on with some of the remaining answers -/
theorem observe_cons_delivered (r : Nat) (c : GCall) (cs : List GCall) (hc : c.installs = false) (rs : List Res)
    (hrs : ∀ x ∈ rs, x = Res.some r) :
    observe (c :: cs) rs = [] ∨ ∃ g rs', observe (c :: cs) rs = g :: observe cs rs' ∧ Delivered r g
      ∧ ∀ x ∈ rs', x ∈ rs := by
  cases c with
  | install | installIn | installLocal => cases hc
  | emitLocal l | emitLocalPanic l => exact .inr ⟨_, rs, rfl, trivial, fun _ => id⟩
  | emit | emitPanic =>
    cases rs with
    | nil => exact .inl rfl
    | cons x xs => exact .inr ⟨_, xs, rfl, by rw [hrs x (.head _)]; rfl, fun _ => .tail _⟩
  | emitNested k =>
    cases rs with
    | nil => exact .inl rfl
    | cons x xs =>
      have hm := takeNested_mem (k + 1) (x :: xs)
      refine .inr ⟨_, _, rfl, ⟨?_, fun t ht => ?_⟩, hm.2⟩
      · simp [takeNested, hrs x (.head _), Res.isSome]
      · obtain ⟨y, hy, rfl⟩ := List.mem_map.mp ht
        rw [hrs y (hm.1 y hy)]; rfl
  | emitIn =>
    cases rs with
    | nil => exact .inl rfl
    | cons x xs =>
      cases xs with
      | nil => exact .inl rfl
      | cons y ys =>
        refine .inr ⟨_, ys, rfl, ?_, fun _ h => .tail _ (.tail _ h)⟩
        rw [hrs x (.head _), hrs y (.tail _ (.head _))]
        exact ⟨nofun, by simp [dispatch]⟩

open MetricsVerif.GlobalRec in
/-- **whatever a thread does once its lookups find `r`, it is delivered**: for any emitting program (plain,
    panicking, nested to any depth, from inside a closure, under local recorders — in any order), if every
    lookup the thread completed answered `Some r` then every observation is `Delivered r`: a caught panic or a
    nested emission earlier in the program does not change where the later ones go -/
theorem observe_all_delivered (r : Nat) (p : List GCall) (hp : ∀ c ∈ p, c.installs = false) :
    ∀ (rs : List Res), (∀ x ∈ rs, x = Res.some r) → ∀ g ∈ observe p rs, Delivered r g := by
  induction p with
  | nil => exact fun _ _ _ hg => nomatch hg
  | cons c cs ih =>
    intro rs hrs g hg
    rcases observe_cons_delivered r c cs (hp c (.head _)) rs hrs with h | ⟨g', rs', h, hd, hsub⟩ <;> rw [h] at hg
    · cases hg
    · rcases List.mem_cons.mp hg with rfl | hg
      · exact hd
      · exact ih (fun c hc => hp c (.tail _ hc)) rs' (fun x hx => hrs x (hsub x hx)) g hg

/-- obligation: in every branch of `with_recorder` the application `f(..)` is the WHOLE innermost block — no
    statement before it inside the branch, none after it returns (so no per-call state is set up or torn down
    around the call into the recorder, and nothing is skipped when the call unwinds) — and the module neither
    catches nor inspects unwinding. With `src_global_layer` (one thread-local: the local slot) this is what
    `caught_panic_is_invisible` and the static projection `toCell` stand on. -/
theorem src_dispatch_is_bare_call :
    Generated.with_recorder_f_blocks = ["{f(recorder.as_ref())}", "{f(global_recorder)}", "{f(&NOOP_RECORDER)}"]
    ∧ Generated.global_unwind_mentions = 0 :=
  ⟨rfl, rfl⟩

/-- the thread that goes on after a fault: emits (no-op), the installation lands, emits, its recorder call panics
    (caught), emits again, then a recorder that emits from inside the call two levels deep, then a closure -/
example :
    let progs : List (List GlobalRec.GCall) := [[.emit, .emit, .emitPanic, .emit, .emitNested 2, .emitIn], [.install 1]]
    let s := GlobalRec.grun { storeRelease := true, loadAcquire := true } progs
      [0, 0, 1, 1, 1, 1, 0, 0, 0, 0, 0, 0, 0, 0, 0, 0, 0, 0, 0, 0, 0, 0, 0, 0, 0]
    GlobalRec.gobserve progs s =
      [[.sent .noop, .sent (.global 1), .unwound (.global 1), .sent (.global 1),
        .sentAll [.global 1, .global 1, .global 1], .sentAll [.global 1, .global 1]], [.installed]] := by
  decide +kernel

/-- before the installation the same faults do nothing: no recorder is reached, so nothing panics and nothing
    is emitted from inside; the nested lookups are cancelled (two steps per call, not six) -/
example :
    let progs : List (List GlobalRec.GCall) := [[.emitPanic, .emitNested 2, .emitIn, .emitLocalPanic 7]]
    let s := GlobalRec.grun { storeRelease := true, loadAcquire := true } progs [0, 0, 0, 0, 0]
    GlobalRec.gobserve progs s
      = [[.sent .noop, .sentAll [.noop], .sentAll [.noop, .noop], .unwound (.localRec 7)]]
    ∧ (s.threads.map (·.pc)) = [.done] := by
  decide +kernel

/-- a result that proves the cell initialised to whoever got it: an installation that succeeded, a lookup that
    found a recorder -/
def wins : Res → Bool
  | .ok => true
  | .some _ => true
  | _ => false

/-- a result a call may still give once the cell is initialised (`LateRes` for some recorder) -/
def late : Res → Bool
  | .err _ => true
  | .some _ => true
  | _ => false

/-- one thread's results read in program order: after a winning entry only late ones -/
def Chain (l : List Res) : Prop := l.Pairwise fun x y => wins x = true → late y = true

theorem Chain.snoc {l : List Res} {z : Res} (h : Chain l) (hz : l.any wins = true → late z = true) :
    Chain (l ++ [z]) :=
  List.pairwise_append.mpr ⟨h, List.pairwise_singleton _ _, fun x hx _ hy hw =>
    List.mem_singleton.mp hy ▸ hz (List.any_eq_true.mpr ⟨x, hx, hw⟩)⟩

theorem late_of_LateRes (r : Nat) (x : Res) (h : LateRes r x) : late x = true := by
  rcases h with ⟨e, rfl⟩ | rfl <;> rfl

theorem any_wins_state2 {o : Ord} {s : Sys} (h : Inv o s) {t : Thread} (ht : t ∈ s.threads)
    (hw : t.results.any wins = true) : s.state = 2 := by
  obtain ⟨x, hx, hwx⟩ := List.any_eq_true.mp hw
  cases x with
  | some r => exact ((h.thr t ht).some_res r hx).1
  | ok => exact h.state_of_ok ht hx
  | _ => cases hwx

/-- every thread's results are in program order -/
def ProgOrd (s : Sys) : Prop := ∀ t ∈ s.threads, Chain t.results

theorem init_progOrd (progs : List (List Call)) : ProgOrd (init progs) := by
  intro t ht
  obtain ⟨p, _, rfl⟩ := List.mem_map.mp ht
  exact .nil

/-- a thread that has a winning entry completes its next call in an initialised cell: the answer is late -/
theorem step_progOrd (o : Ord) (s : Sys) (tid : Nat) (h : Inv o s) (hp : ProgOrd s) : ProgOrd (step o s tid) := by
  rcases step_eff o s tid with hs | ⟨t, s', t', hg, e, hs⟩ <;> rw [hs]
  · exact hp
  intro u hu
  have ht := List.mem_of_getElem? hg
  rcases mem_setAt hu with rfl | hu
  · rcases e.answer with ⟨_, hr⟩ | ⟨x, rfl, hx⟩
    · exact hr ▸ hp t ht
    · refine (hp t ht).snoc fun hw => ?_
      have h2 := any_wins_state2 h ht hw
      obtain ⟨r, hc⟩ := h.cell2 h2
      exact late_of_LateRes r x (late_of_answers hx h2 hc (h.critN_zero ht (by omega)))
  · exact hp u hu

/-- **program order on one thread, installers included** (`observe_all_delivered` needs a program without
    installations): for ANY programs, ANY number of threads and EVERY schedule, split any
    thread's results (oldest first) at an entry that is a successful installation or a lookup that found a
    recorder. Then the cell holds a recorder `r` and every LATER result of that thread is an installation rejected
    or a lookup that found `r` — never the no-op fallback, never another recorder, never a second `Ok`. (`r` is
    the recorder the cell holds; whose it is, is `winner_installs_own`.) -/
theorem program_order (o : Ord) (progs : List (List Call)) (sched : List Nat)
    (t : Thread) (ht : t ∈ (run o (init progs) sched).threads) (pre post : List Res) (x : Res)
    (hs : t.results = pre ++ x :: post) (hx : x = Res.ok ∨ ∃ r, x = Res.some r) :
    ∃ r, (run o (init progs) sched).cell = some r ∧ ∀ y ∈ post, LateRes r y := by
  have h := reachable_inv o progs sched
  have hp := (run_induction sched (fun s tid _ => step_progOrd o s tid) _ (init_inv o progs) (init_progOrd progs)).2
  have hwx : wins x = true := by rcases hx with rfl | ⟨r, rfl⟩ <;> rfl
  have h2 : (run o (init progs) sched).state = 2 :=
    any_wins_state2 h ht (by rw [hs]; simp [hwx])
  obtain ⟨r, hc⟩ := h.cell2 h2
  refine ⟨r, hc, fun y hy => ?_⟩
  have hch : Chain (pre ++ x :: post) := hs ▸ hp t ht
  have hl := (List.pairwise_cons.mp (List.pairwise_append.mp hch).2.1).1 y hy hwx
  cases y with
  | err e => exact .inl ⟨e, rfl⟩
  | some r' =>
    have := ((h.thr t ht).some_res r' (by rw [hs]; simp [hy])).2
    exact .inr (congrArg Res.some (Option.some.inj (this.symm.trans hc)))
  | _ => cases hl

open MetricsVerif.GlobalRec in
/-- `program_order` for API programs (installations inside closures and local scopes included), on the process-wide
    cell -/
theorem gprogram_order (o : Ord) (gprogs : List (List GCall)) (sched : List Nat)
    (t : Thread) (ht : t ∈ (grun o gprogs sched).threads) (pre post : List Res) (x : Res)
    (hs : t.results = pre ++ x :: post) (hx : x = Res.ok ∨ ∃ r, x = Res.some r) :
    ∃ r, (grun o gprogs sched).cell = some r ∧ ∀ y ∈ post, LateRes r y :=
  program_order o (gprogs.map toCell) sched t ht pre post x hs hx

open MetricsVerif.GlobalRec in
/-- what a `with_recorder` closure that installs and then emits observes is read off its three cell answers (outer
    lookup, `set`, inner lookup); and an inner answer that is late for `r` and not an `Err` is a dispatch to `r`.
    Which answers can follow one another is `gprogram_order`. -/
theorem closure_install_observed (c : Nat) (cs : List GCall) (r₁ r₂ r₃ : Res) (rs : List Res) :
    observe (.installIn c :: cs) (r₁ :: r₂ :: r₃ :: rs)
      = .closureInstall (dispatch none r₁) r₂ (dispatch none r₃) :: observe cs rs
    ∧ (∀ r, LateRes r r₃ → (∀ e, r₃ ≠ Res.err e) → dispatch none r₃ = .global r) := by
  refine ⟨by simp [observe], ?_⟩
  intro r hl hne
  rcases hl with ⟨e, he⟩ | rfl
  · exact absurd he (hne e)
  · rfl

open MetricsVerif.GlobalRec in
/-- an installation made inside a local scope is an installation on the GLOBAL cell (one `set`, no lookup), and the
    emission next to it goes to the local recorder whatever the cell holds -/
theorem scoped_install_observed (l c : Nat) (cs : List GCall) (r : Res) (rs : List Res) :
    toCell (.installLocal l c :: cs) = Call.set c :: toCell cs
    ∧ observe (.installLocal l c :: cs) (r :: rs) = .scopedInstall r l :: observe cs rs := by
  exact ⟨rfl, by simp [observe]⟩

/-- thread 0 emits from a closure (no-op), installs recorder 3 from INSIDE that closure and emits again (reaches 3),
    then emits at top level (reaches 3); thread 1 installs inside a local scope, is rejected, its scoped emission goes
    to the local recorder and its next plain emission to recorder 3 -/
example :
    let progs : List (List GlobalRec.GCall) := [[.installIn 3, .emit], [.installLocal 21 4, .emit]]
    let s := GlobalRec.grun { storeRelease := true, loadAcquire := true } progs
      [0, 1, 0, 0, 1, 0, 0, 0, 0, 0, 0, 1, 1, 1, 0, 0]
    GlobalRec.gobserve progs s =
      [[.closureInstall .noop .ok (.global 3), .sent (.global 3)], [.scopedInstall (.err 4) 21, .sent (.global 3)]] := by
  decide +kernel

/-- the installation inside the local scope wins; the closure of thread 0 then sees: outer no-op, rejected, inner
    reaches recorder 4 -/
example :
    let progs : List (List GlobalRec.GCall) := [[.installIn 3, .emit], [.installLocal 21 4]]
    let s := GlobalRec.grun { storeRelease := true, loadAcquire := true } progs
      [0, 1, 0, 1, 1, 1, 0, 0, 0, 0, 0, 0, 0]
    GlobalRec.gobserve progs s =
      [[.closureInstall .noop (.err 3) (.global 4), .sent (.global 4)], [.scopedInstall .ok 21]] := by
  decide +kernel

end MetricsVerif.C02
