/-
C10 — DogStatsD aggregation conserves counts across flushes under any interleaving.

Step machine: `Model/StatsdAgg.lean` (one step = one atomic operation of `AtomicCounter::{increment, flush}` plus
the send decision of `State::flush`; PC names = yield-point ids in storage.rs).  The model is of the code after
the `fix:` commits (timestamp mode; idleness decided on the delta).  Main theorems: for every increment-only
program list with ONE flusher thread (the forwarder owns `FlushState` by `&mut`), ANY number of incrementing
threads and EVERY schedule.  Then: gauges as a linearization, the timestamp mode, `absolute` calls (sequentially,
and racing the flusher outside the window of the known finding K-C10-abs-race), decreasing absolute values, and the
idle set over many keys with rejected writes.
-/
import MetricsVerif.Proofs.StatsdAgg
import MetricsVerif.Proofs.StatsdAbs
import MetricsVerif.Props.C10Hist
import MetricsVerif.Generated.SourceFacts

namespace MetricsVerif.C10
open MetricsVerif.StatsdAgg

/-- programs: increments and flushes only, flushes only in thread `f` -/
def IncFlush (f : Nat) (progs : List (List Call)) : Prop :=
  (∀ p ∈ progs, ∀ c ∈ p, isIncFlushCall c = true)
  ∧ (∀ (i : Nat) (p : List Call), i ≠ f → progs[i]? = some p → ∀ c ∈ p, noFlush c = true)

theorem init_thread {progs : List (List Call)} {i : Nat} {t : Thread} (ht : (init false progs).threads[i]? = some t) :
    ∃ p, progs[i]? = some p ∧ t = mkThread p := by
  simp only [init, List.getElem?_map] at ht
  cases hp : progs[i]? with
  | none => rw [hp] at ht; cases ht
  | some p => rw [hp] at ht; cases ht; exact ⟨p, rfl, rfl⟩

theorem init_inv (f : Nat) (progs : List (List Call)) (h : IncFlush f progs) : Inv f (init false progs) := by
  have hplain : (init false progs).last = ((init false progs).marks.head?.getD 0) % M
      ∧ (init false progs).outcomes.map (·.1) = deltasOf (init false progs).marks := ⟨rfl, rfl⟩
  refine { legacy_off := rfl, cur := rfl, desc := trivial, marks_le := Nat.le_refl _, others := ?_, thr := ?_,
           align := ?_, align_none := fun _ => hplain, idle_eq := rfl, rule := trivial }
  · intro i t hi ht
    obtain ⟨p, hp, rfl⟩ := init_thread ht
    exact ⟨rfl, h.2 i p hi hp⟩
  · intro i t ht
    obtain ⟨p, hp, rfl⟩ := init_thread ht
    exact ⟨rfl, h.1 p (List.mem_of_getElem? hp)⟩
  · intro t ht
    obtain ⟨p, _, rfl⟩ := init_thread ht
    exact (AlignT.plain (by simp [mkThread]) (by simp [mkThread])).mpr hplain

theorem reachable_inv (f : Nat) (progs : List (List Call)) (h : IncFlush f progs) (sched : List Nat) :
    Inv f (run (init false progs) sched) := run_inv f sched _ (init_inv f progs h)

/-- `current` always holds exactly the increments whose `fetch_add` has executed (mod 2^64) -/
theorem current_is_applied (f : Nat) (progs : List (List Call)) (h : IncFlush f progs) (sched : List Nat) :
    (run (init false progs) sched).current = (run (init false progs) sched).applied % M :=
  (reachable_inv f progs h sched).cur

/-- the flusher is between two flushes (not inside one) -/
def FlusherResting (f : Nat) (s : Sys) : Prop :=
  ∀ t, s.threads[f]? = some t → t.pc ≠ .fSwapLast ∧ t.pc ≠ .fSwapUpdates

/-- between two flushes the flusher's registers play no part: `last` and the deltas are those of the marks -/
theorem resting_aligned {f : Nat} {s : Sys} (hi : Inv f s) (hr : FlusherResting f s) :
    s.last = (s.marks.head?.getD 0) % M ∧ s.outcomes.map (·.1) = deltasOf s.marks := by
  cases ht : s.threads[f]? with
  | none => exact hi.align_none ht
  | some t => exact (AlignT.plain (hr t ht).1 (hr t ht).2).mp (hi.align t ht)

/-- **each delta is what was added between two flush loads.**  With `marks` = the number of increments that
    had reached `current` at each flush's load (newest first, non-increasing towards the past): the deltas
    computed by the flushes are exactly the differences of consecutive marks — never more than was actually
    added since the previous flush — in every interleaving. -/
theorem deltas_are_increments_between_loads (f : Nat) (progs : List (List Call)) (h : IncFlush f progs)
    (sched : List Nat) (hr : FlusherResting f (run (init false progs) sched)) :
    let s := run (init false progs) sched
    s.outcomes.map (·.1) = deltasOf s.marks ∧ Desc s.marks ∧ (s.marks.head?.getD 0) ≤ s.applied := by
  have hi := reachable_inv f progs h sched
  exact ⟨(resting_aligned hi hr).2, hi.desc, hi.marks_le⟩

/-- a skipped delta is always zero: **no non-zero delta is ever discarded** -/
theorem Rule.skipped_zero : ∀ (l : List (Nat × Bool)), Rule l → ∀ o ∈ l, o.2 = false → o.1 = 0 := by
  intro l
  induction l with
  | nil => intro _ o ho; cases ho
  | cons x r ih =>
    intro hr o ho hb
    obtain ⟨d, b⟩ := x
    rcases List.mem_cons.mp ho with rfl | ho
    · -- skipped: `!(d == 0 && …) = false`
      have hb : b = false := hb
      subst hb
      exact beq_iff_eq.mp ((Bool.and_eq_true _ _).mp ((Bool.not_eq_false' _).mp hr.1.symm)).1
    · exact ih hr.2 o ho hb

theorem nonzero_delta_always_sent (f : Nat) (progs : List (List Call)) (h : IncFlush f progs) (sched : List Nat) :
    ∀ o ∈ (run (init false progs) sched).outcomes, o.1 ≠ 0 → o.2 = true :=
  fun o ho hne => (Bool.not_eq_false _).mp fun hb => hne (Rule.skipped_zero _ (reachable_inv f progs h sched).rule o ho hb)

theorem sum_sent_eq_all (l : List (Nat × Bool)) (h : Rule l) :
    ((l.filter (·.2)).map (·.1)).sum = (l.map (·.1)).sum := by
  induction l with
  | nil => rfl
  | cons x r ih =>
    obtain ⟨d, b⟩ := x
    have hz := Rule.skipped_zero _ h (d, b) (by simp)
    cases b with
    | true => simp [ih h.2]
    | false => simp [ih h.2, show d = 0 from hz rfl]

/-- **the deltas sent add up to the increments made** (telescoping): whenever the flusher is between two
    flushes, (sum of all deltas written) ≡ (increments that had reached `current` at the last flush's load)
    (mod 2^64); what is still missing is exactly `current − last`, which the next flush sends. -/
theorem deltas_telescope (f : Nat) (progs : List (List Call)) (h : IncFlush f progs) (sched : List Nat)
    (hr : FlusherResting f (run (init false progs) sched)) :
    let s := run (init false progs) sched
    sentSum s % M = (s.marks.head?.getD 0) % M ∧ s.last = (s.marks.head?.getD 0) % M := by
  have hi := reachable_inv f progs h sched
  refine ⟨?_, (resting_aligned hi hr).1⟩
  unfold sentSum
  rw [sum_sent_eq_all _ hi.rule, (resting_aligned hi hr).2]
  exact deltasOf_sum _ hi.desc

/-- **a counter that stops changing is sent as zero exactly once**: in the sequence of flush outcomes
    (newest first) a zero delta is written iff the delta before it was non-zero (or it is the first flush);
    so between two changes exactly one zero goes out, and every non-zero delta is written. -/
theorem zero_once (f : Nat) (progs : List (List Call)) (h : IncFlush f progs) (sched : List Nat) :
    Rule (run (init false progs) sched).outcomes := (reachable_inv f progs h sched).rule

theorem zero_once_unfolded (d2 d1 : Nat) (b2 b1 : Bool) (r : List (Nat × Bool)) (h : Rule ((d2, b2) :: (d1, b1) :: r)) :
    (d2 ≠ 0 → b2 = true) ∧ (d2 = 0 → d1 ≠ 0 → b2 = true) ∧ (d2 = 0 → d1 = 0 → b2 = false) := by
  have := h.1
  refine ⟨?_, ?_, ?_⟩
  · intro hd; simp [this, hd]
  · intro hd hd1; simp [this, hd, hd1]
  · intro hd hd1; simp [this, hd, hd1]

/-! ### gauges: every flush sends the most recent value -/

/-- the value in the gauge after a linearized sequence of calls -/
def lastSet : List GCall → Nat → Nat
  | [], cur => cur
  | .set v :: rest, _ => lastSet rest v
  | .flush :: rest, cur => lastSet rest cur

theorem gaugeRun_append (l rest : List GCall) : ∀ cur,
    gaugeRun (l ++ rest) cur = gaugeRun l cur ++ gaugeRun rest (lastSet l cur) := by
  induction l with
  | nil => intro cur; rfl
  | cons c r ih =>
    intro cur
    cases c with
    | set v => simp only [List.cons_append, gaugeRun, lastSet]; exact ih v
    | flush => simp only [List.cons_append, gaugeRun, lastSet, ih cur]

theorem lastSet_append (l rest : List GCall) : ∀ cur, lastSet (l ++ rest) cur = lastSet rest (lastSet l cur) := by
  induction l with
  | nil => intro cur; rfl
  | cons c r ih => intro cur; cases c <;> simp only [List.cons_append, lastSet, ih]

theorem lastSet_flushes (l : List GCall) (h : ∀ c ∈ l, c = GCall.flush) : ∀ cur, lastSet l cur = cur := by
  induction l with
  | nil => intro cur; rfl
  | cons c r ih =>
    intro cur
    have := h c (by simp); subst this
    simp only [lastSet]; exact ih (fun x hx => h x (by simp [hx])) cur

/-- in any linearization of sets and flushes, a flush sends the value of the latest `set` before it -/
theorem gauge_flush_latest (pre : List GCall) (b : Nat) (post : List GCall) (init : Nat)
    (hpost : ∀ c ∈ post, c = GCall.flush) :
    gaugeRun (pre ++ [.set b] ++ post ++ [.flush]) init
      = gaugeRun (pre ++ [.set b] ++ post) init ++ [b] := by
  rw [gaugeRun_append (pre ++ [GCall.set b] ++ post) [GCall.flush] init, lastSet_append, lastSet_append,
    lastSet_flushes post hpost]
  rfl

/-- the operations after a prefix start from the value the prefix leaves -/
theorem gauge_ops_append (add sub : Nat → Nat → Nat) (pre rest : List GOp) : ∀ (init : Nat),
    gaugeOps add sub (pre ++ rest) init
      = gaugeOps add sub pre init ++ gaugeOps add sub rest (gaugeVal add sub pre init) := by
  induction pre with
  | nil => intro init; rfl
  | cons c r ih =>
    intro init
    cases c <;> simp only [List.cons_append, gaugeOps, gaugeVal, ih]

/-- **every flush sends the gauge's most recent value, for all three update operations**: in any linearization of
    `set` / `increment` / `decrement` / `flush` a flush sends exactly the value produced by the operations before
    it (no update lost, none applied twice), whatever `add`/`sub` are -/
theorem gauge_ops_flush_latest (add sub : Nat → Nat → Nat) (pre : List GOp) : ∀ (init : Nat),
    gaugeOps add sub (pre ++ [.flush]) init = gaugeOps add sub pre init ++ [gaugeVal add sub pre init] :=
  gauge_ops_append add sub pre [.flush]

/-- SOURCE FACT: every gauge update is ONE atomic operation on `inner` (`store` for set, a single `fetch_update`
    read-modify-write for increment/decrement — not a load followed by a store), increment adds and decrement
    subtracts, each is followed by the `updates` bump, and `flush` is one `load` -/
theorem src_gauge_shape :
    Generated.agg_gauge_set_calls = ["inner.store", "updates.fetch_add"]
    ∧ Generated.agg_gauge_increment_calls = ["inner.fetch_update", "updates.fetch_add"]
    ∧ Generated.agg_gauge_decrement_calls = ["inner.fetch_update", "updates.fetch_add"]
    ∧ Generated.agg_gauge_flush_calls = ["inner.load", "updates.swap"]
    ∧ Generated.agg_gauge_increment_arith = "+"
    ∧ Generated.agg_gauge_decrement_arith = "-" :=
  ⟨rfl, rfl, rfl, rfl, rfl, rfl⟩

example : gaugeOps (· + ·) (· - ·) [.set 5, .incr 3, .flush, .decr 6, .flush, .flush] 0 = [8, 2, 2] := by decide

/-! ### timestamps: sent exactly in the mode documented to send one -/

/-- the arms of `get_aggregation_timestamp` agree with the documentation of `AggregationMode`
    (both regenerated from the source on every run) -/
theorem timestamp_iff_documented :
    (Generated.agg_ts_arm_conservative = "some" ↔ Generated.agg_doc_conservative_sends_ts = "yes")
    ∧ (Generated.agg_ts_arm_aggressive = "some" ↔ Generated.agg_doc_aggressive_sends_ts = "yes")
    ∧ (Generated.agg_ts_arm_conservative = "none" ↔ Generated.agg_doc_conservative_sends_ts = "no")
    ∧ (Generated.agg_ts_arm_aggressive = "none" ↔ Generated.agg_doc_aggressive_sends_ts = "no") := by decide +kernel

/-- the source has the call order and the idle test the step machine models -/
theorem src_shape :
    Generated.agg_counter_flush_calls = ["current.load", "last.swap", "updates.swap"]
    ∧ Generated.agg_counter_increment_calls = ["is_absolute.store", "current.fetch_add", "updates.fetch_add"]
    ∧ Generated.agg_counter_absolute_calls = ["is_absolute.swap", "last.store", "current.store", "updates.fetch_add"]
    ∧ Generated.agg_counter_idle_test = "value == 0" :=
  ⟨rfl, rfl, rfl, rfl⟩

/-! ### absolute-only counters (sequential histories): deltas add up to last value minus first value -/

/-- sequential semantics of complete `absolute` / `flush` calls on one counter: (isAbs, last, current, deltas);
    an `inc` call in the list is skipped, not executed -/
def seqAbs : List Call → (Bool × Nat × Nat × List Nat) → (Bool × Nat × Nat × List Nat)
  | [], st => st
  | .abs v :: rest, (isAbs, last, _, ds) =>
    seqAbs rest (true, (if isAbs then last else v % M), v % M, ds)
  | .flush :: rest, (isAbs, last, cur, ds) => seqAbs rest (isAbs, cur, cur, ds ++ [(cur + M - last) % M])
  | .inc _ :: rest, st => seqAbs rest st

/-- the deltas are appended to the ones given, and nothing else depends on those -/
theorem seqAbs_deltas (calls : List Call) : ∀ (a : Bool) (l c : Nat) (ds : List Nat),
    seqAbs calls (a, l, c, ds) =
      ((seqAbs calls (a, l, c, [])).1, (seqAbs calls (a, l, c, [])).2.1, (seqAbs calls (a, l, c, [])).2.2.1,
       ds ++ (seqAbs calls (a, l, c, [])).2.2.2) := by
  induction calls with
  | nil => intro a l c ds; simp only [seqAbs, List.append_nil]
  | cons c rest ih =>
    intro a l cur ds
    cases c with
    | abs v => exact ih ..
    | inc n => exact ih ..
    | flush =>
      simp only [seqAbs, List.nil_append]
      rw [ih, ih a cur cur [_], List.append_assoc]

/-- from a counter in absolute mode the new deltas plus the old `last` give the new `last` (mod 2^64): each flush
    adds `current.wrapping_sub(last)` and moves `last` to `current` -/
theorem seqAbs_telescopes (calls : List Call) : ∀ (last cur : Nat), last < M → cur < M →
    ((seqAbs calls (true, last, cur, [])).2.2.2.sum + last) % M = (seqAbs calls (true, last, cur, [])).2.1 % M
      ∧ (seqAbs calls (true, last, cur, [])).2.1 < M := by
  induction calls with
  | nil => intro last cur hl _; exact ⟨by simp only [seqAbs, List.sum_nil, Nat.zero_add], hl⟩
  | cons c rest ih =>
    intro last cur hl hc
    cases c with
    | abs v => simp only [seqAbs, if_true]; exact ih last (v % M) hl (Nat.mod_lt _ M_pos)
    | inc n => exact ih last cur hl hc
    | flush =>
      simp only [seqAbs, List.nil_append]
      rw [seqAbs_deltas]
      obtain ⟨h1, h2⟩ := ih cur cur hc hc
      refine ⟨?_, h2⟩
      have hd : ((cur + M - last) % M + last) % M = cur % M := by rw [wrapping_sub_add hl hc, Nat.mod_eq_of_lt hc]
      rw [← h1, ← Nat.add_mod_eq_add_mod_left _ hd, List.sum_append, List.sum_cons, List.sum_nil, Nat.add_zero,
        Nat.add_comm _ (List.sum _), Nat.add_assoc]

/-- the counter already in absolute mode with `last` = the first absolute value: after any sequence of absolute
    values and flushes (`seqAbs` skips `inc` calls, so they may occur in `calls` without being modelled),
    (sum of the deltas sent) + (first value) ≡ (value at the last flush) (mod 2^64) — i.e. the deltas add up to last
    value minus first value -/
theorem abs_only_telescopes (calls : List Call) : ∀ (last cur : Nat) (ds : List Nat), last < M → cur < M →
    ((seqAbs calls (true, last, cur, ds)).2.2.2.sum + last) % M
        = (ds.sum + (seqAbs calls (true, last, cur, ds)).2.1) % M
      ∧ (seqAbs calls (true, last, cur, ds)).2.1 < M := by
  intro last cur ds hl hc
  obtain ⟨h1, h2⟩ := seqAbs_telescopes calls last cur hl hc
  rw [seqAbs_deltas]
  exact ⟨by rw [List.sum_append, Nat.add_assoc]; exact Nat.add_mod_eq_add_mod_left _ h1, h2⟩

/-- SOURCE FACT: the memory orderings of the counter operations are the ones the interleaving model assumes to be
    (at least) release/acquire on the flush side: `flush` reads `current` with Acquire and swaps `last`/`updates`
    with AcqRel; `absolute` publishes with Release stores; the `fetch_add`s are single RMWs -/
theorem src_orderings :
    Generated.shape_agg_counter_flush
        = [("current.load", ["Acquire"]), ("last.swap", ["AcqRel"]), ("updates.swap", ["AcqRel"])]
    ∧ Generated.shape_agg_counter_increment
        = [("is_absolute.store", ["Release"]), ("current.fetch_add", ["Relaxed"]), ("updates.fetch_add", ["Relaxed"])]
    ∧ Generated.shape_agg_counter_absolute
        = [("is_absolute.swap", ["Release"]), ("last.store", ["Release"]), ("current.store", ["Release"]),
           ("updates.fetch_add", ["Relaxed"])] :=
  ⟨rfl, rfl, rfl⟩

/-- SOURCE FACT: the aggregation timestamp is in SECONDS since the epoch (what DogStatsD's `|T` field takes) -/
theorem src_timestamp_unit : Generated.agg_ts_unit = "as_secs" := rfl

/-! ### what was wrong before the fixes (kernel-evaluated witnesses on the `legacy` decision) -/

/-- legacy idle logic: an increment split around a flush while the key is idle — its delta is computed and
    DISCARDED (the 5 is never sent), and later the zero goes out twice -/
theorem legacy_loses_delta_and_repeats_zero :
    let s := run (init true [[.inc 5], [.flush, .flush, .flush, .flush]])
      [0, 1, 1, 1, 1, 0, 0, 1, 1, 1, 0, 1, 1, 1, 1, 1, 1]
    s.outcomes.reverse = [(0, true), (5, false), (0, true), (0, true)] := by decide +kernel

/-- the same schedule on the fixed decision: the 5 is sent, then one zero, then nothing -/
theorem fixed_same_schedule :
    let s := run (init false [[.inc 5], [.flush, .flush, .flush, .flush]])
      [0, 1, 1, 1, 1, 0, 0, 1, 1, 1, 0, 1, 1, 1, 1, 1, 1]
    s.outcomes.reverse = [(0, true), (5, true), (0, true), (0, false)] := by decide +kernel

/-! ### known finding K-C10-abs-race: the first `absolute` racing a flush

`absolute(v)` on a counter in incremental mode stores `last := v` and then `current := v`; a flush between the
two stores loads the OLD `current` and swaps `last`, computing a wrapped delta of about 2^64. -/

theorem first_absolute_races_flush :
    let s := run (init false [[.abs 10], [.flush]]) [0, 1, 0, 0, 1, 1, 1, 0, 0]
    s.outcomes = [(M - 10, true)] := by decide +kernel

/-! ### absolute-only counters racing the flusher: exact OUTSIDE the K-C10-abs-race window

ONE updater thread (thread 0) calling `absolute` with non-decreasing values (`AbsNondec 0 prog`: absolute calls only,
values non-decreasing and below 2^64), ONE flusher (thread 1, `AllFlush fl`), EVERY schedule without a window step
(`absRaceCount … = 0`, Model/StatsdAgg.lean: no flush's (load `current`, swap `last`) pair overlaps the (`last` store,
`current` store) pair of the `absolute` that switches the counter into absolute mode).  Unlike the increment
identities these are exact in ℕ, not modulo 2^64: no delta wraps. -/

theorem AInv_bounds {prog : List Call} {s : Sys} {mid : Bool} (h : AInv prog s mid) :
    Dall s ≤ s.current ∧ s.current < M := by
  obtain ⟨tu, tf, b, c, _, _, _, _, hfl, hup⟩ := h
  rcases hup with ⟨_, _, rfl, _⟩ | ⟨_, rfl, rfl, h1⟩ | ⟨_, _, rfl, _⟩
  · exact hfl.bounds
  · rw [hfl.flat.1, h1.cur]; exact ⟨Nat.le_refl _, M_pos⟩
  · exact hfl.bounds

/-- **no wrapped delta outside the window**: every delta any flush computed is at most the value `current` holds
    (one of the values passed to `absolute`, or 0), in every schedule without a window step — "no single delta
    exceeds what was actually added".  (Inside the window a flush sends about 2^64: `first_absolute_races_flush`.) -/
theorem abs_no_wrapped_delta_outside_window (prog fl : List Call) (hnd : AbsNondec 0 prog) (hfl : AllFlush fl)
    (sched : List Nat) (hw : absRaceCount (init false [prog, fl]) false sched = 0) :
    let s := run (init false [prog, fl]) sched
    s.current < M ∧ ∀ o ∈ s.outcomes, o.1 ≤ s.current := by
  intro s
  obtain ⟨mid, h⟩ := abs_reachable prog fl hnd hfl sched hw
  have hb := AInv_bounds h
  refine ⟨hb.2, fun o ho => ?_⟩
  have := le_sum_map (·.1) ho
  unfold Dall at hb
  exact Nat.le_trans this hb.1

/-- **the deltas sent add up to (value at the last flush) − (first value), exactly, outside the window**: whenever
    the flusher is between two flushes, either nothing has been stored into `current` yet and every delta sent was 0,
    or (sum of the deltas written) + (first absolute value) = `last` (the value the latest flush loaded) ≤ `current`;
    what is missing, `current − last`, is what the next flush computes. -/
theorem abs_deltas_sum_outside_window (prog fl : List Call) (hnd : AbsNondec 0 prog) (hfl : AllFlush fl)
    (sched : List Nat) (hw : absRaceCount (init false [prog, fl]) false sched = 0)
    (hr : FlusherResting 1 (run (init false [prog, fl]) sched)) :
    let s := run (init false [prog, fl]) sched
    (s.current = 0 ∧ sentSum s = 0) ∨ (sentSum s + firstVal prog = s.last ∧ s.last ≤ s.current) := by
  intro s
  obtain ⟨mid, tu, tf, b, c, hthr, hc, _, _, hf, hup⟩ := abs_reachable prog fl hnd hfl sched hw
  have hs : sentSum s = Dall s := sum_sent_eq_all _ hc.rule
  have hrest := hr tf (by show s.threads[1]? = some tf; rw [hthr]; rfl)
  rw [hs]
  rcases hup with ⟨_, rfl, rfl, h0, _⟩ | ⟨_, rfl, rfl, h1⟩ | ⟨_, rfl, rfl, _⟩
  · rw [h0] at hf; exact Or.inl ⟨h0, hf.flat.1⟩
  · exact Or.inl ⟨h1.cur, hf.flat.1⟩
  · exact Or.inr ⟨hf.rest hrest.2, hf.le⟩

/-- the same once every call has finished (`v1` = the first absolute value): the deltas sent add up to the value the
    last flush saw minus the first value -/
theorem abs_deltas_sum_at_quiescence (v1 : Nat) (rest fl : List Call) (hnd : AbsNondec 0 (.abs v1 :: rest))
    (hfl : AllFlush fl) (sched : List Nat) (hw : absRaceCount (init false [.abs v1 :: rest, fl]) false sched = 0)
    (hq : ∀ t ∈ (run (init false [.abs v1 :: rest, fl]) sched).threads, t.pc = .done) :
    let s := run (init false [.abs v1 :: rest, fl]) sched
    sentSum s + v1 = s.last ∧ s.last ≤ s.current ∧ s.current < M := by
  intro s
  obtain ⟨mid, tu, tf, b, c, hthr, hc, hut, _, hf2, hup⟩ := abs_reachable _ fl hnd hfl sched hw
  have hs : sentSum s = Dall s := sum_sent_eq_all _ hc.rule
  have hu : tu.pc = .done := hq tu (by show tu ∈ s.threads; rw [hthr]; simp)
  have hf : tf.pc = .done := hq tf (by show tf ∈ s.threads; rw [hthr]; simp)
  rw [hs]
  rcases hup with ⟨_, _, _, _, h0⟩ | ⟨_, _, _, h1⟩ | ⟨_, rfl, rfl, _⟩
  · have := hut.udone hu
    rw [h0.calls] at this; cases this
  · rw [h1.pc] at hu; cases hu
  · exact ⟨hf2.rest (by rw [hf]; decide), hf2.le, hf2.lt⟩

/-- the window predicate flags the known finding and nothing before it: the schedule of `first_absolute_races_flush`
    contains exactly ONE window step (the flusher's load of `current`, taken while the updater sits between its `last`
    store and its `current` store), so the hypothesis of the three theorems above is needed; the corpus schedule of
    the harness with two absolutes and two flushes contains none -/
theorem first_absolute_race_is_window :
    absRaceCount (init false [[.abs 10], [.flush]]) false [0, 1, 0, 0, 1, 1, 1, 0, 0] = 1
    ∧ absRaceCount (init false [[.abs 10], [.flush]]) false [0, 1, 0, 0] = 0
    ∧ absRaceCount (init false [[.abs 10, .abs 25], [.flush, .flush]]) false
        [0, 1, 0, 0, 0, 0, 1, 1, 1, 0, 0, 0, 1, 1, 1] = 0 := by decide +kernel

/-- the other way into the window: the `last` store lands between a flush's load and its swap -/
theorem first_absolute_race_other_entry :
    let sched := [0, 1, 0, 1, 0, 1, 1, 0, 0]
    absRaceCount (init false [[.abs 10], [.flush]]) false sched = 1
    ∧ (run (init false [[.abs 10], [.flush]]) sched).outcomes = [(M - 10, true)] := by decide +kernel

/-- non-vacuity: a flush loads between two absolutes, another one after the last; no window step; the deltas are
    10 − 10 and 25 − 10 -/
example :
    let progs : List (List Call) := [[.abs 10, .abs 25], [.flush, .flush]]
    let sched := [0, 1, 0, 0, 0, 0, 1, 1, 1, 0, 0, 0, 1, 1, 1]
    let s := run (init false progs) sched
    AbsNondec 0 [.abs 10, .abs 25] ∧ absRaceCount (init false progs) false sched = 0
    ∧ (∀ t ∈ s.threads, t.pc = .done) ∧ sent s = [0, 15] ∧ s.last = 25 := by
  refine ⟨⟨by omega, by decide, by omega, by decide, trivial⟩, by decide, by decide, by decide, by decide⟩

/-! ### absolute values that DECREASE: "no single delta exceeds what was actually added" is false of the code

`absolute(v)` in absolute mode is a plain `current.store(v)` (`src_shape`: `current.store`, not `fetch_max`); a flush computes
`current.wrapping_sub(last)`.  When the value flushed is smaller than the one flushed before, the delta wraps: the agent is
told the counter grew by about 2^64 although nothing was added.  (`CounterFn::absolute`'s contract: "a caller attempts to
set an older (smaller) value after the counter has been updated to the latest (larger) value. This method must cope with
those cases."  `metrics::atomics`' own `AtomicU64` copes with `fetch_max`; this `AtomicCounter` does not.)
The SUM identity survives (mod 2^64) for arbitrary values: `abs_only_telescopes` has no monotonicity hypothesis. -/

/-- one sequential flush of an absolute-mode counter: the delta it sends is at most the value it flushed — i.e. it did
    not wrap — EXACTLY WHEN the value did not decrease since the previous flush -/
theorem abs_flush_delta_le_iff (last cur : Nat) (hl : last < M) (hc : cur < M) :
    (cur + M - last) % M ≤ cur ↔ last ≤ cur := by
  rcases Nat.lt_or_ge cur last with h | h
  · rw [(wrapping_sub_gt h hl).1]
    exact iff_of_false (Nat.not_le.mpr (wrapping_sub_gt h hl).2) (Nat.not_le.mpr h)
  · rw [wrapping_sub_le h hc]
    exact iff_of_true (Nat.sub_le ..) h

/-- …and when it did decrease, the delta sent is `2^64 − (decrease)`: larger than every value ever passed in -/
theorem abs_flush_decrease_wraps (last cur : Nat) (hl : last < M) (h : cur < last) :
    (cur + M - last) % M = M - (last - cur) ∧ cur < (cur + M - last) % M := by
  rw [(wrapping_sub_gt h hl).1]
  exact ⟨rfl, (wrapping_sub_gt h hl).2⟩

/-- deltas sent by a sequential history of complete calls on a fresh counter -/
def seqDeltas (calls : List Call) : List Nat := (seqAbs calls (false, 0, 0, [])).2.2.2

/-- the largest value passed to `absolute` -/
def maxAbs : List Call → Nat
  | [] => 0
  | .abs v :: r => max v (maxAbs r)
  | _ :: r => maxAbs r

/-- absolute / flush calls only, values below 2^64 -/
def AbsFlushOnly (calls : List Call) : Prop :=
  ∀ c ∈ calls, match c with | .abs v => v < M | .flush => True | .inc _ => False

/-- **KNOWN FINDING K-C10-abs-decreasing (witness)**: `absolute(100); flush; absolute(40); flush` — the second flush sends
    2^64 − 60.  Replayed on the real code by the harness corpus (`agg run 0 a100+a40,f+f 0.0.0.0.0.1.1.1.1.0.0.0.1.1.1`
    and stream B's sequential histories). -/
theorem abs_decreasing_wraps_witness :
    seqDeltas [.abs 100, .flush, .abs 40, .flush] = [0, M - 60] := by decide

/-- no flush is needed between the two values: `absolute(24); absolute(0); flush` sends 2^64 − 24 (the mode-switching
    `absolute` stored `last := 24`).  The real code sends the same (harness stream A). -/
theorem abs_decreasing_wraps_witness_no_flush_between :
    seqDeltas [.abs 24, .abs 0, .flush] = [M - 24] := by decide

/-- **the clause "no single delta exceeds what was actually added" at full strength is FALSE of the code** for
    absolute-only counters (sequential histories suffice): not every delta is bounded by the largest value ever set -/
theorem abs_no_delta_exceeds_added_fails :
    ¬ (∀ calls : List Call, AbsFlushOnly calls → ∀ d ∈ seqDeltas calls, d ≤ maxAbs calls) := by
  intro h
  have := h [.abs 100, .flush, .abs 40, .flush] (by intro c hc; simp at hc; rcases hc with rfl | rfl | rfl | rfl <;> simp [M])
    (M - 60) (by rw [abs_decreasing_wraps_witness]; simp)
  simp [maxAbs, M] at this

/-- sequential histories of `absolute`/`flush` whose values never decrease (starting at `lo`) -/
def SeqNondec : Nat → List Call → Prop
  | _, [] => True
  | lo, .abs v :: r => lo ≤ v ∧ v < M ∧ SeqNondec v r
  | lo, .flush :: r => SeqNondec lo r
  | _, .inc _ :: _ => False

/-- **the provable part (sequential)**: when the values never decrease, no delta wraps — every delta any flush sends is at
    most the value the counter holds, `last ≤ current` throughout, and each flush sends exactly `current − last`.
    (Racing the flusher: `abs_no_wrapped_delta_outside_window`.) -/
theorem abs_no_delta_exceeds_added_partial (calls : List Call) : ∀ (last cur : Nat) (ds : List Nat),
    SeqNondec cur calls → last ≤ cur → cur < M → (∀ d ∈ ds, d ≤ cur) →
    let r := seqAbs calls (true, last, cur, ds)
    (∀ d ∈ r.2.2.2, d ≤ r.2.2.1) ∧ r.2.1 ≤ r.2.2.1 ∧ r.2.2.1 < M := by
  induction calls with
  | nil => intro last cur ds _ hl hc hd; exact ⟨hd, hl, hc⟩
  | cons c rest ih =>
    intro last cur ds hn hl hc hd
    cases c with
    | inc n => exact hn.elim
    | abs v =>
      obtain ⟨h1, h2, h3⟩ := hn
      simp only [seqAbs, if_true]
      rw [Nat.mod_eq_of_lt h2]
      exact ih last v ds h3 (Nat.le_trans hl h1) h2 (fun d hdm => Nat.le_trans (hd d hdm) h1)
    | flush =>
      simp only [seqAbs]
      refine ih cur cur _ hn (Nat.le_refl _) hc ?_
      intro d hdm
      simp only [List.mem_append, List.mem_singleton] at hdm
      rcases hdm with hdm | rfl
      · exact hd d hdm
      · exact (abs_flush_delta_le_iff last cur (Nat.lt_of_le_of_lt hl hc) hc).mpr hl

/-- the same finding on the step machine, in a schedule WITHOUT any K-C10-abs-race window step: the hypothesis
    `AbsNondec` of `abs_no_wrapped_delta_outside_window` cannot be dropped -/
theorem abs_decreasing_wraps_outside_window :
    let progs : List (List Call) := [[.abs 100, .abs 40], [.flush, .flush]]
    let sched := [0, 0, 0, 0, 0, 1, 1, 1, 1, 0, 0, 0, 1, 1, 1]
    absRaceCount (init false progs) false sched = 0
    ∧ (run (init false progs) sched).outcomes = [(M - 60, true), (0, true)]
    ∧ (∀ t ∈ (run (init false progs) sched).threads, t.pc = .done) := by decide +kernel

/-! ### idle bookkeeping per key: many keys (also keys sharing a name), rejected writes -/

theorem contains_congr {a b : List Nat} {k : Nat} (h : k ∈ a ↔ k ∈ b) : a.contains k = b.contains k := by
  rw [Bool.eq_iff_iff]; simpa using h

/-- a visit of ANOTHER key leaves `is_counter_idle(k)` unchanged -/
theorem visit_other (idle : List Nat) (k k' delta : Nat) (ok : Bool) (h : k' ≠ k) :
    (visit idle k' delta ok).1.contains k = idle.contains k := by
  unfold visit
  split
  · split
    · rfl
    · apply contains_congr; simp [Ne.symm h]
  · apply contains_congr; simp [List.mem_filter, Ne.symm h]

/-- a visit of `k` itself decides exactly like the one-key machine, and leaves the mark the one-key machine leaves -/
theorem visit_same (idle : List Nat) (k delta : Nat) (ok : Bool) :
    (visit idle k delta ok).2.1 = (StatsdAgg.decide false (idle.contains k) delta 0).1
    ∧ (visit idle k delta ok).2.2 = ((StatsdAgg.decide false (idle.contains k) delta 0).1 && ok)
    ∧ (visit idle k delta ok).1.contains k = (StatsdAgg.decide false (idle.contains k) delta 0).2 := by
  rw [decide_fixed]
  unfold visit
  cases hd : (delta == 0) <;> cases hc : idle.contains k <;> simp_all [List.mem_filter]

/-- **the idle set is per key**: whatever other keys are visited in between (any number, any deltas, any write results —
    including keys with the same NAME and other labels, which are other ids), the decisions and messages for key `k` over
    any number of flushes are exactly those of the one-key machine run on `k`'s own deltas.  Hence every one-key theorem
    (`zero_once`, `nonzero_delta_always_sent`) holds for each key of a many-key state. -/
theorem idle_bookkeeping_per_key (k : Nat) (vs : List Visit) : ∀ (idle : List Nat),
    ((visits idle vs).filter (fun o => o.1 == k)).map (fun o => (o.2.1, o.2.2.1, o.2.2.2))
      = oneKey (idle.contains k) ((vs.filter (fun v => v.k == k)).map (fun v => (v.delta, v.ok))) := by
  induction vs with
  | nil => intro idle; rfl
  | cons v r ih =>
    intro idle
    by_cases hk : v.k = k
    · have hs := visit_same idle k v.delta v.ok
      simp only [visits, hk, List.filter_cons, beq_self_eq_true, if_true, List.map_cons, oneKey]
      rw [ih, hs.2.2, hs.1, hs.2.1]
    · have hb : (v.k == k) = false := by simpa using hk
      simp only [visits, List.filter_cons, hb, Bool.false_eq_true, if_false]
      rw [ih, visit_other idle k v.k v.delta v.ok hk]

/-- SOURCE FACT: the counter loop of `State::flush` is the `visit` of the model — `counter.flush()` first (which swaps
    `last`), then the idle test / mark / clear, and the `write_counter` LAST (so a rejected write changes neither); the idle
    set is a set of whole `Key`s (name and labels), and its three functions are `insert` / `remove` / `contains` of the key
    itself -/
theorem src_idle_set :
    Generated.agg_state_counter_loop_calls
        = ["counter.flush", "is_counter_idle", "mark_counter_as_idle", "clear_counter_idle", "write_counter"]
    ∧ Generated.agg_idle_set_type = "HashSet<Key>"
    ∧ Generated.agg_idle_fns = ["{self.idle_counters.insert(key);}", "{self.idle_counters.remove(key);}",
        "{self.idle_counters.contains(key)}"] :=
  ⟨rfl, rfl, rfl⟩

/-- forward form of "zero exactly once": a decision is "skip" iff this delta and the previous one are both zero -/
def ZeroOnce : Bool → List (Nat × Bool × Bool) → Prop
  | _, [] => True
  | prevZero, (d, dec, _) :: r => dec = !(d == 0 && prevZero) ∧ ZeroOnce (d == 0) r

theorem oneKey_zero_once (ds : List (Nat × Bool)) : ∀ idle, ZeroOnce idle (oneKey idle ds) := by
  induction ds with
  | nil => intro _; trivial
  | cons x r ih =>
    intro idle
    obtain ⟨d, ok⟩ := x
    simp only [oneKey, ZeroOnce, decide_fixed, true_and]
    exact ih _

/-- **zero exactly once, per key, in a many-key state** (decisions; from a fresh `FlushState`) -/
theorem multi_key_zero_once (k : Nat) (vs : List Visit) :
    ZeroOnce false (((visits [] vs).filter (fun o => o.1 == k)).map (fun o => (o.2.1, o.2.2.1, o.2.2.2))) := by
  rw [idle_bookkeeping_per_key]; exact oneKey_zero_once _ _

/-- accounting with rejected writes: a message goes out only if it was decided; what the messages carry plus what the
    rejected writes carried is everything the flushes computed (a skipped delta is zero) -/
theorem oneKey_accounting (ds : List (Nat × Bool)) : ∀ idle,
    (∀ o ∈ oneKey idle ds, o.2.2 = true → o.2.1 = true)
    ∧ (((oneKey idle ds).filter (·.2.2)).map (·.1)).sum
        + (((oneKey idle ds).filter (fun o => o.2.1 && !o.2.2)).map (·.1)).sum = (ds.map (·.1)).sum := by
  induction ds with
  | nil => intro _; exact ⟨(by intro o ho; cases ho), rfl⟩
  | cons x r ih =>
    intro idle
    obtain ⟨d, ok⟩ := x
    obtain ⟨ih1, ih2⟩ := ih (d == 0)
    rw [oneKey, decide_fixed]
    refine ⟨?_, ?_⟩
    · intro o ho
      rcases List.mem_cons.mp ho with rfl | ho
      · intro h; exact ((Bool.and_eq_true _ _).mp h).1
      · exact ih1 o ho
    · -- the head carries `d` in a message, or in a rejected write, or was skipped and then `d = 0`
      rw [List.map_cons, List.sum_cons, ← ih2]
      generalize oneKey (d == 0) r = tl
      cases hdec : !(d == 0 && idle)
      · have hd : d = 0 := by
          simp only [Bool.not_eq_false', Bool.and_eq_true, beq_iff_eq] at hdec; exact hdec.1
        rw [hd]; exact (Nat.zero_add _).symm
      · cases ok
        · exact Nat.add_left_comm ..
        · exact Nat.add_assoc ..

/-- if the writer accepts every line, messages = decisions (the model of the one-key theorems, where a decided send
    always goes out) -/
theorem oneKey_all_accepted (ds : List (Nat × Bool)) (h : ∀ x ∈ ds, x.2 = true) : ∀ idle,
    ∀ o ∈ oneKey idle ds, o.2.2 = o.2.1 := by
  induction ds with
  | nil => intro _ o ho; cases ho
  | cons x r ih =>
    intro idle o ho
    obtain ⟨d, ok⟩ := x
    have hok : ok = true := h (d, ok) (by simp)
    simp only [oneKey, List.mem_cons] at ho
    rcases ho with rfl | ho
    · simp [hok]
    · exact ih (fun x hx => h x (by simp [hx])) _ o ho

/-- **a rejected write loses its delta, and a rejected zero is never sent**: key 1's line is too long twice (delta 5, then
    the zero), then fits: the 5 is decided but no message carries it (`last` was already swapped: no later flush makes up
    for it), the zero is decided, rejected, the key is marked idle all the same, and the third flush — whose line would
    fit — skips it: "sent as zero exactly once" becomes "at most once".  Key 2 (same flushes) is unaffected. -/
theorem rejected_write_loses_delta_and_zero :
    visits [] [⟨1, 5, false⟩, ⟨2, 3, true⟩, ⟨1, 0, false⟩, ⟨2, 0, true⟩, ⟨1, 0, true⟩, ⟨2, 0, true⟩]
      = [(1, 5, true, false), (2, 3, true, true), (1, 0, true, false), (2, 0, true, true),
         (1, 0, false, false), (2, 0, false, false)] := by decide +kernel

/-- two keys sharing a name (ids 1 and 2) with one idle and the other active: the idle one's zero is sent once -/
example :
    visits [] [⟨1, 0, true⟩, ⟨2, 4, true⟩, ⟨1, 0, true⟩, ⟨2, 4, true⟩, ⟨1, 0, true⟩, ⟨2, 0, true⟩]
      = [(1, 0, true, true), (2, 4, true, true), (1, 0, false, false), (2, 4, true, true),
         (1, 0, false, false), (2, 0, true, true)] := by decide +kernel

/-! ### non-vacuity: a program of two incrementing threads and one flusher meets `IncFlush`; one of its runs -/

example : IncFlush 2 [[.inc 3, .inc 4], [.inc 5], [.flush, .flush, .flush]] := by
  refine ⟨by decide, ?_⟩
  intro i p hi hp
  match i, hi, hp with
  | 0, _, hp => simp at hp; subst hp; decide
  | 1, _, hp => simp at hp; subst hp; decide
  | 2, hi, _ => exact absurd rfl hi
  | (n + 3), _, hp => simp at hp

example :
    let s := run (init false [[.inc 3, .inc 4], [.inc 5], [.flush, .flush, .flush]])
      [0, 1, 2, 0, 0, 2, 1, 1, 2, 2, 0, 0, 0, 0, 1, 2, 2, 2, 2, 2, 2, 0]
    sent s = [3, 9, 0] ∧ s.applied = 12 := by decide +kernel

end MetricsVerif.C10
