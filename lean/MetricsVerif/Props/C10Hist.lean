/-
C10, histogram clause — "every histogram value recorded with sampling off is sent in exactly one flush",
for `record` racing `State::flush` in every interleaving.  Separate file because `Model/StatsdAgg` and
`Model/Bucket` both have `Sys`/`Thread`/`run`; imported by `Props/C10.lean`.
-/
import MetricsVerif.Model.StatsdHist
import MetricsVerif.Proofs.StatsdHist
import MetricsVerif.Props.C05
import MetricsVerif.Generated.SourceFacts

namespace MetricsVerif.C10
open MetricsVerif.Bucket MetricsVerif.StatsdHist

/-! Recorder threads `0 … n-1` (`record v` = `AtomicBucket::push v`), ONE flusher (thread `n`) doing any number of
`State::flush`es (`is_empty`; if it answered `false`, ONE `clear_with` whose detached values go to the writer).
The statements hold for every block size, every answer list of the flusher's `is_empty` calls (in particular the
one consistent with the run, which is the run the code produces) and EVERY schedule. -/

theorem push_not_mem_flushCalls (answers : List Bool) (v : Nat) : Call.push v ∉ flushCalls answers := by
  induction answers with
  | nil => exact List.not_mem_nil
  | cons a r ih => cases a <;> simp [flushCalls, ih]

theorem count_push_progsOf (recs : List (List Nat)) (answers : List Bool) (v : Nat) :
    (progsOf recs answers).flatten.count (Call.push v) = recs.flatten.count v :=
  count_push_recorders recs [flushCalls answers] v (fun p hp => by
    cases List.mem_singleton.mp hp
    exact push_not_mem_flushCalls answers v)

/-- what the flusher sent is part of what the bucket's clears delivered -/
theorem sentAll_count_le_delivered (s : Sys) (f : Nat) (v : Nat) :
    (sentAll s f).count v ≤ (delivered s).count v := by
  rw [sentAll_eq]
  cases h : s.threads[f]? with
  | none => exact Nat.zero_le _
  | some t => exact count_cleared_le_delivered s f t h v

/-- **no histogram value is sent twice, none is invented — in every interleaving.**  For any recorder threads,
    any number of flushes, every schedule, at every moment and value by value: (occurrences in all the flushes so
    far) + (what is still in the bucket for a later flush) never exceeds the number of times the value was
    recorded.  So a value recorded once is in AT MOST one flush, never in two, never both sent and still pending. -/
theorem hist_never_sent_twice (B : Nat) (recs : List (List Nat)) (answers : List Bool) (sched : List Nat) (v : Nat) :
    let s := run (init B (progsOf recs answers)) sched
    (sentAll s recs.length).count v + (visible s).count v ≤ recs.flatten.count v := by
  intro s
  have h1 := C05.never_duplicates B (progsOf recs answers) sched v
  have h2 := sentAll_count_le_delivered s recs.length v
  rw [count_push_progsOf] at h1
  simp only [s] at h2 ⊢
  omega

/-- a schedule of scheduler grants is that very schedule of single steps (one grant = one model step: the detaching
    CAS of `clear_with` has its own yield point `bkt.clear.cas` in bucket.rs): what the driver evaluates is a `run` of
    the step machine -/
theorem foldl_grant_eq_run (sched : List Nat) : ∀ s : Sys, sched.foldl grant s = run s sched := fun _ => rfl

/-- the same for the runs the correspondence stream replays (schedules of grants) -/
theorem hist_never_sent_twice_grants (B : Nat) (recs : List (List Nat)) (answers : List Bool) (sched : List Nat)
    (v : Nat) :
    let s := sched.foldl grant (init B (progsOf recs answers))
    (sentAll s recs.length).count v + (visible s).count v ≤ recs.flatten.count v := by
  intro s
  simp only [s, foldl_grant_eq_run]
  exact hist_never_sent_twice B recs answers _ v

/-! `C05.conservation_except_K1` (any programs, every schedule without a K1 step = a slot claim landing on a block a
clear has already detached) applied to recorders + ONE flusher: the recorder threads never clear, so everything the
bucket's clears delivered was sent by the flusher. -/

/-- **every recorded value is sent exactly once or is still waiting for the next flush — outside K1.**  Any number of
    recorder threads, any number of flushes by ONE flusher, any block size, EVERY schedule that contains no K1 step
    (`C05.stragglerClaims … = 0`, the decidable predicate on the schedule that the driver's `bucket k1` op evaluates):
    when all calls have finished, value by value,
    (times recorded) = (occurrences over all the flushes sent) + (occurrences still in the bucket). -/
theorem hist_sent_or_pending_except_K1 (B : Nat) (recs : List (List Nat)) (answers : List Bool) (sched : List Nat)
    (hk : C05.stragglerClaims B (progsOf recs answers) sched = 0)
    (hq : quiescent (run (init B (progsOf recs answers)) sched) = true) (v : Nat) :
    let s := run (init B (progsOf recs answers)) sched
    recs.flatten.count v = (sentAll s recs.length).count v + (visible s).count v := by
  intro s
  have h1 := C05.conservation_except_K1 B (progsOf recs answers) sched hk hq v
  rw [count_push_progsOf] at h1
  have h2 : delivered s = sentAll s recs.length :=
    delivered_eq_sentAll s recs.length (fun i hi => threadAt_run nodeliv_step i sched _ (progsOf_nodeliv B recs answers i hi))
  rw [← h2]
  exact h1

/-- **every histogram value recorded with sampling off is sent in exactly one flush — outside K1.**  Any number of
    recorder threads, ONE flusher doing any number of `State::flush`es (`as ++ [a]`), any block size; the schedule is
    `pre ++ post` where after `pre` every recorder has finished and the flusher is about to start its LAST flush
    (`is_empty`, then `clear_with` unless the flush is skipped), `post` runs it to the end (quiescence), and that
    flush's `is_empty` answered what the flush acted on (how the code behaves: it skips iff `is_empty` said `true`).
    If no step of the schedule is a K1 step, then nothing is left in the bucket and, value by value, the flushes
    together sent every value exactly as often as it was recorded: a value recorded once is in exactly ONE flush,
    once (`hist_never_sent_twice` already excludes "twice" in every schedule; this excludes "never").  The K1
    hypothesis is needed: `hist_exactly_once_fails` / `hist_exactly_once_fails_is_K1`. -/
theorem hist_exactly_once_except_K1 (B : Nat) (recs : List (List Nat)) (as : List Bool) (a : Bool)
    (pre post : List Nat) (t0 t1 : Thread) (v : Nat)
    (hk : C05.stragglerClaims B (progsOf recs (as ++ [a])) (pre ++ post) = 0)
    (hrec : ∀ i t, i ≠ recs.length → (run (init B (progsOf recs (as ++ [a]))) pre).threads[i]? = some t → t.pc = .done)
    (h0 : (run (init B (progsOf recs (as ++ [a]))) pre).threads[recs.length]? = some t0)
    (hpc : t0.pc = .eLoadTail) (hcalls : t0.calls = flushCalls [a])
    (hq : quiescent (run (init B (progsOf recs (as ++ [a]))) (pre ++ post)) = true)
    (h1 : (run (init B (progsOf recs (as ++ [a]))) (pre ++ post)).threads[recs.length]? = some t1)
    (hans : emptyAnswers t1.results = emptyAnswers t0.results ++ [a]) :
    let s := run (init B (progsOf recs (as ++ [a]))) (pre ++ post)
    visible s = [] ∧ (sentAll s recs.length).count v = recs.flatten.count v := by
  intro s
  have hrun : s = run (run (init B (progsOf recs (as ++ [a]))) pre) post := run_append pre post _
  have hvis : visible s = [] := by
    rw [hrun]
    exact final_flush_drains _ recs.length a t0 t1 post (lwrun pre _ (init_lwinv B _)) hrec h0 hpc hcalls
      (hrun ▸ h1) (pc_done_of_quiescent hq h1) hans
  have hacc : recs.flatten.count v = (sentAll s recs.length).count v + (visible s).count v :=
    hist_sent_or_pending_except_K1 B recs (as ++ [a]) (pre ++ post) hk hq v
  rw [hvis] at hacc
  exact ⟨hvis, hacc.symm⟩

/-- the same per flush: the number of occurrences of `v` in everything sent by the first `f` flushes is the sum, over
    those flushes, of the number of occurrences of `v` in each flush's payload -/
theorem hist_exactly_once_per_flush (s : Sys) (f : Nat) (v : Nat) :
    (sentAll s f).count v = ((clearedOf (flusherResults s f)).map (fun vs => vs.count v)).sum := by
  unfold sentAll
  generalize clearedOf (flusherResults s f) = l
  induction l with
  | nil => rfl
  | cons x xs ih => simp only [List.flatten_cons, List.count_append, List.map_cons, List.sum_cons, ih]

/-- the full clause "every recorded value is sent in exactly ONE flush" is FALSE of the code (inherits K-C05-K1):
    recorder 1 loads the tail, the flush finds the histogram non-empty, detaches and reads the chain, then
    recorder 1 claims and publishes its slot in the detached block.  The run is consistent (`is_empty` answered
    `false`), both records completed, the flush sent only the first value and the second is not in the bucket
    either: it is sent by no flush.  (Block size 2 keeps the kernel evaluation small; the harness replays the
    schedule on the real code with 64.) -/
theorem hist_exactly_once_fails :
    let recs := [[1], [2]]
    let s := run (init 2 (progsOf recs [false])) [0, 0, 0, 0, 0, 1, 1, 2, 2, 2, 2, 2, 2, 2, 2, 1, 1]
    quiescent s = true ∧ consistent s 2 [false] = true ∧ completedPushes s = 2
      ∧ sentAll s 2 = [1] ∧ visible s = [] := by decide +kernel

/-- the K1 hypothesis of `hist_exactly_once_except_K1` is needed, and the predicate flags exactly the known window:
    the schedule of `hist_exactly_once_fails` contains exactly ONE K1 step (recorder 1's claim, taken after the
    flush's detach CAS); cut before that claim it contains none -/
theorem hist_exactly_once_fails_is_K1 :
    C05.stragglerClaims 2 (progsOf [[1], [2]] [false]) [0, 0, 0, 0, 0, 1, 1, 2, 2, 2, 2, 2, 2, 2, 2, 1, 1] = 1
    ∧ C05.stragglerClaims 2 (progsOf [[1], [2]] [false]) [0, 0, 0, 0, 0, 1, 1, 2, 2, 2, 2, 2, 2, 2, 2] = 0 := by decide +kernel

/-- non-vacuity for `hist_exactly_once_except_K1` (block size 1, so every record hands the block over): two recorders,
    three flushes; the last flush starts after both recorders have finished, finds the histogram non-empty and sends
    the rest.  No K1 step; every value is in exactly one flush. -/
example :
    let recs := [[1, 2], [3]]
    let pre := [2, 2, 0, 0, 0, 0, 0, 1, 1, 1, 1, 1, 1, 1, 2, 2, 2, 2, 2, 2, 2, 2, 0, 0, 0, 0, 0, 0, 0, 2, 2]
    let post := [2, 2, 2, 2, 2, 2, 2, 2, 2, 2, 2, 2, 2, 2, 2]
    let s0 := run (init 1 (progsOf recs [true, false, false])) pre
    let s := run (init 1 (progsOf recs [true, false, false])) (pre ++ post)
    C05.stragglerClaims 1 (progsOf recs [true, false, false]) (pre ++ post) = 0
      ∧ (s0.threads.map (·.pc)) = [.done, .done, .eLoadTail]
      ∧ (s0.threads[2]?.map (·.calls)) = some (flushCalls [false])
      ∧ quiescent s = true
      ∧ emptyAnswers (flusherResults s 2) = [true, false, false]
      ∧ flushesOf (emptyAnswers (flusherResults s 2)) (clearedOf (flusherResults s 2)) = [none, some [3, 1], some [2]]
      ∧ visible s = [] := by decide +kernel

/-- SOURCE FACT (regenerated on every run): with sampling off every `AtomicHistogram` operation is exactly one call
    on the bucket — `record` → `push`, `is_empty` → `is_empty`, `flush` → ONE `clear_with` (snapshot and clear are
    one detach, not `data_with` followed by `clear`) — and the histogram loop of `State::flush` is `is_empty`,
    `continue` when it answers true, then `flush`: the program `flushCalls` of the model -/
theorem src_hist_shape :
    Generated.agg_hist_raw_record_calls = ["bucket.push"]
    ∧ Generated.agg_hist_raw_is_empty_calls = ["bucket.is_empty"]
    ∧ Generated.agg_hist_raw_flush_calls = ["bucket.clear_with"]
    ∧ Generated.agg_hist_state_calls = ["is_empty", "flush"]
    ∧ Generated.agg_hist_state_skip = "histogram.is_empty()" :=
  ⟨rfl, rfl, rfl, rfl, rfl⟩

/-- non-vacuity: two recorders and three flushes (skip, send, skip) over a block hand-over (block size 1) -/
example :
    let recs := [[1, 2], [3]]
    let s := run (init 1 (progsOf recs [true, false, true]))
      [2, 2, 0, 0, 0, 0, 0, 1, 1, 1, 1, 1, 1, 1, 0, 0, 0, 0, 0, 0, 0, 2, 2, 2, 2, 2, 2, 2, 2, 2, 2, 2, 2, 2, 2, 2, 2, 2, 2]
    consistent s 2 [true, false, true] = true
      ∧ flushesOf (emptyAnswers (flusherResults s 2)) (clearedOf (flusherResults s 2)) = [none, some [2, 3, 1], none]
      ∧ quiescent s = true := by decide +kernel

end MetricsVerif.C10
