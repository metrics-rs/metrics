/-
C07 — Prometheus output reports exactly what was recorded, each sample once.

Model: `Model/Prom.lean` (sequential recorder state machine).  Theorems are for ALL operation sequences
(any interleaving of register/update/describe/upkeep/render calls, any keys, any configuration).
Arithmetic on gauge/histogram values is exact (dyadic rationals); IEEE rounding is outside the model.
Concurrent `record()` vs. drain is the composition with the bucket model (C05).
-/
import MetricsVerif.Proofs.Prom
import MetricsVerif.Generated.SourceFacts

namespace MetricsVerif.C07
open MetricsVerif.Prom MetricsVerif.PromFmt MetricsVerif.PromRender

/-- a recorder configured by `cfg` with nothing described, registered or recorded -/
def init (cfg : Cfg) : St := { cfg }

/-! ## histograms: every sample is counted exactly once, however record / upkeep / render interleave -/

/-- **conservation invariant**: for every series `p`, samples already in its distribution plus samples
    still pending in the buckets of the keys rendered as `p` = samples ever recorded for `p`. -/
theorem hist_conserved (cfg : Cfg) (ops : List Op) (p : Parts) :
    let s := run (init cfg) ops
    dCount (getDist s.dists p) + pendCount cfg s.hists p = (ops.map (opCount cfg p)).sum
    ∧ dSum (getDist s.dists p) + pendSum cfg s.hists p = (ops.map (opSum cfg p)).sum := by
  -- in the fresh recorder nothing is stored and nothing is pending
  obtain ⟨h1, h2⟩ := run_stats ops (init cfg) p
  exact ⟨h1.trans (Nat.zero_add _), h2.trans (Int.zero_add _)⟩

/-- what `render()` shows for a series (it drains first): `_count` = number of samples ever recorded under
    the keys rendered as that series, `_sum` = their sum — for any history. -/
theorem render_reports_hist (cfg : Cfg) (ops : List Op) (p : Parts) :
    let s := (renderLines (run (init cfg) ops)).1
    dCount (getDist s.dists p) = (ops.map (opCount cfg p)).sum
    ∧ dSum (getDist s.dists p) = (ops.map (opSum cfg p)).sum := by
  have h : _ ∧ _ := hist_conserved cfg ops p
  have hd := drainFold_stats cfg (run (init cfg) ops).hists p (run (init cfg) ops).dists
  show dCount (getDist (drain (run (init cfg) ops)).dists p) = _ ∧ dSum (getDist (drain (run (init cfg) ops)).dists p) = _
  rw [drain_dists, run_cfg]
  exact ⟨hd.1.trans h.1, hd.2.trans h.2⟩

/-- the count/sum texts written for a distribution are those of the distribution -/
theorem distSeries_shows (qs : List Str) (ls : List Str) (d : Dist) :
    (∃ bs, (distSeries qs ls d).data = .hist bs (natText d.count) (intTok d.sum))
    ∨ (∃ q, (distSeries qs ls d).data = .summ q (intTok d.sum) (natText d.count)) := by
  cases d with
  | hist b c n s => exact Or.inl ⟨_, rfl⟩
  | summ n s => exact Or.inr ⟨_, rfl⟩

/-! ## counters and gauges: each key has its own cell, updated only by its own operations -/

/-- what the history says the counter for `k` holds -/
def specCounter (k : MKey) (acc : Option Nat) : Op → Option Nat
  | .cinc k' n => if k' = k then some (((acc.getD 0) + n) % two64) else acc
  | .cabs k' n => if k' = k then some (max (acc.getD 0) n) else acc
  | _ => acc

theorem step_counter (s : St) (op : Op) (k : MKey) :
    lookup (step s op).counters k = specCounter k (lookup s.counters k) op := by
  cases op with
  | describe n u d => simp only [step, specCounter]; split <;> rfl
  | cinc k' n => exact lookup_upsert_comm ..
  | cabs k' n => exact lookup_upsert_comm ..
  | _ => rfl

/-- **counter refinement**: after any history the cell of `k` is the fold of `k`'s own operations -/
theorem counter_refines (cfg : Cfg) (ops : List Op) (k : MKey) :
    lookup (run (init cfg) ops).counters k = ops.foldl (specCounter k) none :=
  run_fold (fun s => lookup s.counters k) (specCounter k) (fun s op => step_counter s op k) ops (init cfg)

/-- increments only ⇒ the sum of the increments modulo 2^64 -/
theorem counter_sum (k : MKey) (ns : List Nat) (acc : Nat) :
    (ns.map (fun n => Op.cinc k n)).foldl (specCounter k) (some (acc % two64)) = some ((acc + ns.sum) % two64) := by
  induction ns generalizing acc with
  | nil => simp
  | cons n ns ih =>
    simp only [List.map_cons, List.foldl_cons, specCounter, if_true, Option.getD_some, List.sum_cons]
    rw [Nat.mod_add_mod, ih, Nat.add_assoc]

/-- an absolute update never lowers the counter and leaves it at least at the given value -/
theorem counter_abs_monotone (k : MKey) (acc : Option Nat) (n : Nat) :
    ∃ v, specCounter k acc (.cabs k n) = some v ∧ acc.getD 0 ≤ v ∧ n ≤ v := by
  refine ⟨max (acc.getD 0) n, by simp [specCounter], Nat.le_max_left _ _, Nat.le_max_right _ _⟩

def specGauge (k : MKey) (acc : Option Val) : Op → Option Val
  | .gset k' v => if k' = k then some v else acc
  | .gadd k' n => if k' = k then some ((acc.getD (.dy 0)).add n) else acc
  | _ => acc

theorem step_gauge (s : St) (op : Op) (k : MKey) :
    lookup (step s op).gauges k = specGauge k (lookup s.gauges k) op := by
  cases op with
  | describe n u d => simp only [step, specGauge]; split <;> rfl
  | gset k' v => exact lookup_upsert_comm ..
  | gadd k' n => exact lookup_upsert_comm ..
  | _ => rfl

theorem gauge_refines (cfg : Cfg) (ops : List Op) (k : MKey) :
    lookup (run (init cfg) ops).gauges k = ops.foldl (specGauge k) none :=
  run_fold (fun s => lookup s.gauges k) (specGauge k) (fun s op => step_gauge s op k) ops (init cfg)

/-- a `set` leaves exactly the value given, whatever came before -/
theorem gauge_set_last (k : MKey) (acc : Option Val) (v : Val) : specGauge k acc (.gset k v) = some v := by
  simp [specGauge]

/-! ## HELP shows the first description given for the name -/

def specDesc (n : Str) (acc : Option (Str × Option MUnit)) : Op → Option (Str × Option MUnit)
  | .describe name unit desc => if sanitizeMetricName name = n then (match acc with | some a => some a | none => some (desc, unit)) else acc
  | _ => acc

theorem step_desc (s : St) (op : Op) (n : Str) :
    lookup (step s op).descs n = specDesc n (lookup s.descs n) op := by
  cases op with
  | describe name unit desc =>
    simp only [step, specDesc]
    cases h : lookup s.descs (sanitizeMetricName name) with
    | some a =>
      by_cases e : sanitizeMetricName name = n
      · subst e; simp [h]
      · simp [e]
    | none =>
      -- a first description is appended, which is what `upsert` does with an absent key
      have e : _ = s.descs ++ [(sanitizeMetricName name, (desc, unit))] := upsert_of_lookup_none _ _ _ id h
      simp only
      rw [← e, lookup_upsert_comm]
      by_cases e : sanitizeMetricName name = n
      · subst e; simp [h]
      · simp [e]
  | _ => rfl

/-- **first description wins** (per sanitised name) -/
theorem desc_refines (cfg : Cfg) (ops : List Op) (n : Str) :
    lookup (run (init cfg) ops).descs n = ops.foldl (specDesc n) none :=
  run_fold (fun s => lookup s.descs n) (specDesc n) (fun s op => step_desc s op n) ops (init cfg)

theorem desc_first_wins (n : Str) (a : Str × Option MUnit) (op : Op) : specDesc n (some a) op = some a := by
  cases op <;> simp [specDesc]

/-! ## labels: global labels, overridden in place by the key's own labels of the same name -/

/-- the merged label set: the key's own value if the key has a label of that name (the last one given),
    otherwise the global one -/
theorem merged_labels (own globals : List (Str × Str)) (n : Str) :
    lookup (own.foldl (fun m kv => imInsert m kv.1 kv.2) globals) n
      = own.foldl (fun acc kv => if kv.1 = n then some kv.2 else acc) (lookup globals n) := by
  induction own generalizing globals with
  | nil => rfl
  | cons kv rest ih => simp only [List.foldl_cons]; rw [ih, imInsert_eq_upsert, lookup_upsert_comm]

/-- an `IndexMap::insert` never shortens the label list: it overwrites one entry in place or appends one -/
theorem imInsert_length_le (m : List (Str × Str)) (k v : Str) : m.length ≤ (imInsert m k v).length := by
  induction m with
  | nil => simp [imInsert]
  | cons x xs ih => simp only [imInsert]; split <;> simp <;> omega

/-- `add_global_label` given the same name again: the label takes the LAST value given (and, `imInsert` being an
    in-place update, keeps its first position) — the configured global label set is the last-wins fold of the calls -/
theorem global_labels_last_wins (raw : List (Str × Str)) (n : Str) :
    lookup (buildGlobals raw) n = raw.foldl (fun acc kv => if kv.1 = n then some kv.2 else acc) none := by
  simpa [buildGlobals] using merged_labels raw [] n

/-! ## `record_many(v, n)` is `n` times `record(v)` -/

theorem hrecMany_unfold (s : St) (k : MKey) (v : Int) (n : Nat) :
    step s (.hrecMany k v (n + 1)) = step (step s (.hrec k v)) (.hrecMany k v n) := by
  simp only [step, upsert_upsert]
  congr 2
  funext p
  simp [List.replicate_succ]

/-- a `record_many(v, n)` with `n ≥ 1` leaves the recorder in exactly the state `n` single `record(v)` calls leave it
    in (for `n = 0` it only registers the key, which `hist_conserved` covers: it adds 0 to `_count` and `_sum`) -/
theorem hrecMany_eq_records (k : MKey) (v : Int) (n : Nat) :
    ∀ s : St, step s (.hrecMany k v (n + 1)) = run s (List.replicate (n + 1) (.hrec k v)) := by
  induction n with
  | zero => intro s; simp [step, run]
  | succ n ih =>
    intro s
    rw [hrecMany_unfold, ih]
    simp [run, List.replicate_succ]

/-! ## rendering twice: the very same lines (not only the same counts) -/

theorem drainFold_present (cfg : Cfg) (hs : List (MKey × List Int)) (ds) (kh : MKey × List Int) (hm : kh ∈ hs) :
    (getDist (hs.foldl (drainOne cfg) ds) (partsOf cfg kh.1)).isSome :=
  foldl_reaches (fun ds => (getDist ds (partsOf cfg kh.1)).isSome) (drainOne cfg) kh
    (fun ds => by rw [getDist_drainOne]; simp)
    (fun ds x h => by rw [getDist_drainOne]; split <;> simp [h]) hs ds (Or.inl hm)

theorem drainOne_nil_id (cfg : Cfg) (ds) (k : MKey) (h : (getDist ds (partsOf cfg k)).isSome) :
    drainOne cfg ds (k, []) = ds := by
  unfold drainOne
  unfold partsOf getDist at h
  simp only
  generalize keyToParts k.name k.labels cfg.globals = np at h ⊢
  obtain ⟨n, l⟩ := np
  cases hm : lookup ds n with
  | none => simp [hm] at h
  | some m =>
    rw [hm] at h
    obtain ⟨d, hd⟩ := Option.isSome_iff_exists.1 h
    exact upsert_id _ hm (upsert_id _ hd rfl)

theorem drainFold_nil_id (cfg : Cfg) (ks : List (MKey × List Int)) :
    ∀ ds, (∀ kh ∈ ks, (getDist ds (partsOf cfg kh.1)).isSome) →
      (ks.map (fun kh => (kh.1, ([] : List Int)))).foldl (drainOne cfg) ds = ds := by
  induction ks with
  | nil => intro ds _; rfl
  | cons kh rest ih =>
    intro ds h
    simp only [List.map_cons, List.foldl_cons]
    rw [drainOne_nil_id cfg ds kh.1 (h kh (List.mem_cons_self ..))]
    exact ih ds (fun kh' hm => h kh' (List.mem_cons_of_mem _ hm))

/-- The second drain goes over the same keys, now with empty buckets; after the first drain each of them has a
    distribution (`drainFold_present`), and recording nothing into a distribution that exists changes nothing
    (`drainOne_nil_id`). -/
theorem drain_drain (s : St) : drain (drain s) = drain s := by
  have hd : (drain (drain s)).dists = (drain s).dists := by
    rw [drain_dists (drain s), drain_hists, drain_cfg]
    apply drainFold_nil_id
    intro kh hm
    rw [drain_dists]
    exact drainFold_present s.cfg s.hists s.dists kh hm
  have hh : (drain (drain s)).hists = (drain s).hists := by
    simp [drain_hists, List.map_map, Function.comp_def]
  show { drain s with dists := (drain (drain s)).dists, hists := (drain (drain s)).hists } = drain s
  rw [hd, hh]

/-- draining twice is draining once: `render(); render()` with no update in between shows the same state -/
theorem render_idempotent_counts (cfg : Cfg) (ops : List Op) (p : Parts) :
    let s1 := (renderLines (run (init cfg) ops)).1
    let s2 := (renderLines s1).1
    dCount (getDist s2.dists p) = dCount (getDist s1.dists p) ∧ dSum (getDist s2.dists p) = dSum (getDist s1.dists p) := by
  intro s1 s2
  rw [show s2 = s1 from drain_drain _]
  exact ⟨rfl, rfl⟩

/-- **render twice = the same lines**: with no update in between, a second `render()` returns exactly the lines
    of the first and leaves the same state (in the model the summary quantile values are the opaque token `q`; in
    the code they age with the clock, which is the exception the property makes) -/
theorem render_idempotent_lines (s : St) : renderLines (renderLines s).1 = renderLines s := by
  simp only [renderLines, drain_drain]

/-! ## what the rendered lines show (the theorems above are about the state; these reach the text lines)

In the three `render_shows_*` statements the family name on the line is existentially quantified and not tied to the
key; what they fix is the labels and the value text of a line that is written. -/

/-- one step of the grouping loop -/
def groupStep (globals : List (Str × Str)) (fams : List (Str × List Series)) (kv : MKey × Str) :=
  let (name, labels) := keyToParts kv.1.name kv.1.labels globals
  upsert fams name [] (fun ss => ss ++ [(⟨labels, .scalar kv.2⟩ : Series)])

def hasSeries (fams : List (Str × List Series)) (name : Str) (x : Series) : Prop :=
  ∃ ss, lookup fams name = some ss ∧ x ∈ ss

theorem lookup_groupStep (globals) (fams) (kv : MKey × Str) (name : Str) :
    lookup (groupStep globals fams kv) name
      = if name = (keyToParts kv.1.name kv.1.labels globals).1
        then some ((lookup fams (keyToParts kv.1.name kv.1.labels globals).1).getD []
          ++ [⟨(keyToParts kv.1.name kv.1.labels globals).2, .scalar kv.2⟩])
        else lookup fams name :=
  lookup_upsert ..

theorem groupStep_keeps (globals) (fams) (kv : MKey × Str) (name : Str) (x : Series) (h : hasSeries fams name x) :
    hasSeries (groupStep globals fams kv) name x := by
  obtain ⟨ss, hl, hx⟩ := h
  unfold hasSeries
  rw [lookup_groupStep]
  split
  · subst_vars; rw [hl]; exact ⟨_, rfl, List.mem_append_left _ hx⟩
  · exact ⟨ss, hl, hx⟩

theorem groupStep_adds (globals) (fams) (kv : MKey × Str) :
    hasSeries (groupStep globals fams kv) (keyToParts kv.1.name kv.1.labels globals).1
      ⟨(keyToParts kv.1.name kv.1.labels globals).2, .scalar kv.2⟩ := by
  unfold hasSeries
  rw [lookup_groupStep, if_pos rfl]
  exact ⟨_, rfl, List.mem_append_right _ (List.mem_singleton.mpr rfl)⟩

/-- every entry given to the grouping loop ends up as a series of the family of its sanitised name, carrying its
    merged labels and its value text -/
theorem groupFamilies_shows (entries : List (MKey × Str)) (globals : List (Str × Str)) (kv : MKey × Str)
    (h : kv ∈ entries) :
    hasSeries (groupFamilies entries globals) (keyToParts kv.1.name kv.1.labels globals).1
      ⟨(keyToParts kv.1.name kv.1.labels globals).2, .scalar kv.2⟩ :=
  foldl_reaches (hasSeries · _ _) (groupStep globals) kv (fun fams => groupStep_adds globals fams kv)
    (fun fams e h => groupStep_keeps globals fams e _ _ h) entries [] (Or.inl h)

theorem renderFamily_mem (us : Bool) (name : Str) (desc) (ty : Str) (series : List Series) (x : Series) (hx : x ∈ series) :
    ∃ fam, ∀ l ∈ seriesLines fam x, l ∈ renderFamily us name desc ty series :=
  ⟨_, fun l hl => by
    unfold renderFamily
    simp only [List.mem_append, List.mem_flatMap]
    exact Or.inl (Or.inr ⟨x, hx, hl⟩)⟩

theorem groupFamilies_line (us : Bool) (descs : Str → Option (Str × Option MUnit)) (ty : Str) {α : Type}
    (cells : List (MKey × α)) (tok : α → Str) (globals : List (Str × Str)) (k : MKey) (v : α)
    (h : lookup cells k = some v) :
    ∃ fam, Line.sample fam none (keyToParts k.name k.labels globals).2 none (tok v)
      ∈ ((groupFamilies (cells.map fun kv => (kv.1, tok kv.2)) globals).map
          fun f => renderFamily us f.1 (descs f.1) ty f.2).flatten := by
  obtain ⟨ss, hs1, hs2⟩ := groupFamilies_shows (cells.map fun kv => (kv.1, tok kv.2)) globals (k, tok v)
    (List.mem_map.2 ⟨(k, v), lookup_some_mem _ _ _ h, rfl⟩)
  obtain ⟨fam, hf⟩ := renderFamily_mem us (keyToParts k.name k.labels globals).1 (descs _) ty ss _ hs2
  exact ⟨fam, List.mem_flatten.2
    ⟨_, List.mem_map.2 ⟨_, lookup_some_mem _ _ _ hs1, rfl⟩, hf _ (List.mem_singleton.2 rfl)⟩⟩

/-- **counter line**: whenever the history leaves the counter of key `k` at `v` (see `counter_refines` /
    `counter_sum` for what `v` is), `render()` writes a sample line that carries the merged labels of `k`'s series
    and the value text of `v`. -/
theorem render_shows_counter (cfg : Cfg) (ops : List Op) (k : MKey) (v : Nat)
    (h : ops.foldl (specCounter k) none = some v) :
    ∃ fam, Line.sample fam none (partsOf cfg k).2 none (natText v) ∈ (renderLines (run (init cfg) ops)).2.flatten := by
  obtain ⟨fam, hf⟩ := groupFamilies_line cfg.unitSuffix (lookup (drain (run (init cfg) ops)).descs) "counter".toList
    (run (init cfg) ops).counters natText cfg.globals k v (by rw [counter_refines, h])
  refine ⟨fam, ?_⟩
  simp only [renderLines, drain_cfg, run_cfg ops (init cfg), List.flatten_append, List.mem_append]
  exact Or.inl (Or.inl hf)

/-- **gauge line**: the same for gauges — the value token is the last value's (`gauge_refines`, `gauge_set_last`). -/
theorem render_shows_gauge (cfg : Cfg) (ops : List Op) (k : MKey) (v : Val)
    (h : ops.foldl (specGauge k) none = some v) :
    ∃ fam, Line.sample fam none (partsOf cfg k).2 none v.tok ∈ (renderLines (run (init cfg) ops)).2.flatten := by
  obtain ⟨fam, hf⟩ := groupFamilies_line cfg.unitSuffix (lookup (drain (run (init cfg) ops)).descs) "gauge".toList
    (run (init cfg) ops).gauges Val.tok cfg.globals k v (by rw [gauge_refines, h])
  refine ⟨fam, ?_⟩
  simp only [renderLines, drain_cfg, run_cfg ops (init cfg), List.flatten_append, List.mem_append]
  exact Or.inl (Or.inr hf)

/-- **histogram / summary lines**: for every series `p` that has a distribution after the drain, `render()` writes
    a `_count` line whose text is the number of samples ever recorded under the keys rendered as `p`, and a `_sum`
    line whose text is their sum, both with `p`'s labels and under the same family name — for any history of
    record / record_many / upkeep / render calls. -/
theorem render_shows_hist (cfg : Cfg) (ops : List Op) (p : Parts) (d : Dist)
    (h : getDist (renderLines (run (init cfg) ops)).1.dists p = some d) :
    ∃ fam, Line.sample fam (some "count".toList) p.2 none (natText ((ops.map (opCount cfg p)).sum))
              ∈ (renderLines (run (init cfg) ops)).2.flatten
         ∧ Line.sample fam (some "sum".toList) p.2 none (intTok ((ops.map (opSum cfg p)).sum))
              ∈ (renderLines (run (init cfg) ops)).2.flatten := by
  have hr := render_reports_hist cfg ops p
  simp only [h, dCount, dSum, Option.map_some, Option.getD_some] at hr
  rw [← hr.1, ← hr.2]
  let s := drain (run (init cfg) ops)
  obtain ⟨m, h1, h2⟩ := getDist_some_mem (ds := s.dists) h
  have hx : distSeries s.cfg.quantiles p.2 d ∈ m.map (fun ld => distSeries s.cfg.quantiles ld.1 ld.2) :=
    List.mem_map.mpr ⟨(p.2, d), h2, rfl⟩
  obtain ⟨fam, hf⟩ := renderFamily_mem s.cfg.unitSuffix p.1 (lookup s.descs p.1) (distType s.cfg p.1) _ _ hx
  have inl : ∀ l, l ∈ seriesLines fam (distSeries s.cfg.quantiles p.2 d) → l ∈ (renderLines (run (init cfg) ops)).2.flatten := by
    intro l hl
    simp only [renderLines, List.mem_flatten]
    refine ⟨_, ?_, hf l hl⟩
    simp only [List.mem_append, List.mem_map]
    exact Or.inr ⟨(p.1, m), h1, rfl⟩
  refine ⟨fam, inl _ ?_, inl _ ?_⟩ <;> cases d <;>
    simp only [distSeries, seriesLines, Dist.count, Dist.sum, List.mem_append, List.mem_cons, true_or, or_true]

/-! ## source facts (tools/extract.py → Generated/SourceFacts.lean, regenerated from the repository on every run)

Facts about the drain path that no sequential run on x86 can observe; the model's `drain` / `hrecMany` /
`Dist.record` are justified by them. -/

/-- `drain_histograms_to_distributions` takes the distributions lock FIRST and empties the bucket (`clear_with`) with
    `record_samples` as its callback while holding it: the model's `drain` is one atomic step, and a concurrent
    `render()` can never find a sample neither in the bucket nor in the distribution. -/
theorem src_drain_under_lock : Generated.prom_drain_steps = ["lock", "clear_with", "record_samples"] := rfl

/-- `run_upkeep` is exactly one drain; `get_recent_metrics` (hence `render`) drains and only afterwards takes its
    snapshot of the distributions — the model's `Op.upkeep` and `renderLines`. -/
theorem src_upkeep_and_render_drain :
    Generated.prom_run_upkeep_body = "{self.drain_histograms_to_distributions();}"
    ∧ Generated.prom_get_recent_metrics_calls = ["drain_histograms_to_distributions", "distributions.read"] :=
  ⟨rfl, rfl⟩

/-- the exporter's histogram handle defines `record` only (both the timestamping bucket and the generational
    wrapper), it pushes the value it was given unchanged, and the trait's default `record_many` is the loop of `count`
    `record` calls — the model's `Op.hrecMany` (`hrecMany_eq_records`). -/
theorem src_record_path :
    Generated.prom_histogram_fn_methods = ["record"]
    ∧ Generated.prom_histogram_record_push = "(value,now)"
    ∧ Generated.generational_histogram_fn_methods = ["record"]
    ∧ Generated.histogram_fn_record_many_default = "{for_in0..count{self.record(value);}}" :=
  ⟨rfl, rfl, rfl, rfl⟩

/-- folding drained samples: the summary arm adds every sample to the rolling summary AND to the running sum, the
    histogram arm hands every sample to `Histogram::record_many`; `RollingSummary::add` counts the sample in its very
    first statement — before any of the time-dependent branches — and nowhere else (the model's `Dist.record`:
    `count + 1`, `sum + v`, whatever the time stamps). -/
theorem src_fold_path :
    Generated.prom_record_samples_summary_arm = "{for(sample,ts)insamples{hist.add(*sample,*ts);*sum+=*sample;}}"
    ∧ Generated.prom_record_samples_histogram_arm = "{hist.record_many(samples.iter().map(|(sample,_ts)|sample));}"
    ∧ Generated.rolling_add_first_statement = "self.count+=1;"
    ∧ Generated.rolling_add_count_updates = 1 :=
  ⟨rfl, rfl, rfl, rfl⟩

/-! ## the model evaluated on concrete recorders -/

example :
    let k : MKey := ⟨"lat".toList, []⟩
    let cfg : Cfg := { unitSuffix := false, globals := buildGlobals [("z".toList, "1".toList), ("a".toList, "2".toList), ("z".toList, "3".toList)],
                       buckets := none, overrides := [], quantiles := [] }
    cfg.globals = [("z".toList, "3".toList), ("a".toList, "2".toList)]
    ∧ (step (init cfg) (.hrecMany k 7 3)).hists = (run (init cfg) [.hrec k 7, .hrec k 7, .hrec k 7]).hists
    ∧ (step (init cfg) (.hrecMany k 7 0)).hists = [(k, [])] := by decide +kernel

example :
    let k : MKey := ⟨"c".toList, [("host".toList, "a".toList)]⟩
    let cfg : Cfg := { unitSuffix := false, globals := [], buckets := none, overrides := [], quantiles := [] }
    Line.sample "c".toList none ["host=\"a\"".toList] none "12".toList
      ∈ (renderLines (run (init cfg) [.cinc k 5, .cinc k 7])).2.flatten := by decide +kernel


example :
    let k : MKey := ⟨"lat".toList, [("host".toList, "a".toList)]⟩
    let cfg : Cfg := { unitSuffix := false, globals := [], buckets := some [0, 1024], overrides := [], quantiles := [] }
    let s := (renderLines (run (init cfg) [.hrec k 5, .upkeep, .hrec k 2000, .hrec k (-3)])).1
    getDist s.dists (partsOf cfg k) = some (.hist [0, 1024] [1, 2] 3 2002) := by decide +kernel

end MetricsVerif.C07
