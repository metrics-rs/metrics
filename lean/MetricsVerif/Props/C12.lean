/-
C12 — idle metrics are dropped exactly when they were idle longer than the timeout.

The property itself is about `Model/Recency.lean` with `byKind = true` (the code of this tree, after
commit 0c2b681: entries per kind), for **all** operation sequences (register / update — also value-preserving — / clock
advance / observe), all keys and kinds, all masks and timeouts.  The shape is an invariant over operation
sequences that ties `Recency`'s entries to the history (`entry_history`), from which the statements of the
property follow.  `kinds_independent_legacy_false` keeps the defect of the code before the repair as a
kernel-checked witness.  Then: the generation stamp under concurrent updates (`Model/GenRace.lean`), the exporter's
output (`Model/PromIdle.lean`), an update racing the deletion (`Model/IdleRace.lean`), and histories in which the
registry is changed behind `Recency`'s back (`XOp`).
-/
import MetricsVerif.Proofs.Recency
import MetricsVerif.Proofs.GenRace
import MetricsVerif.Proofs.PromIdle
import MetricsVerif.Proofs.IdleRace
import MetricsVerif.Generated.SourceFacts
import MetricsVerif.Proofs.SrcShapes

namespace MetricsVerif.C12
open MetricsVerif.Recency

def registered (s : St) (i : Id) : Prop := (lookup s.metrics i).isSome = true

instance (s : St) (i : Id) : Decidable (registered s i) := by unfold registered; infer_instance

/-- the state reached from a fresh `Recency` + `Registry` by a history -/
def after (cfg : Cfg) (ops : List Op) : St := run (init cfg) ops

/-- the operation is an update (not a mere registration) of metric `i` -/
def Op.updates (i : Id) : Op → Bool
  | .upd k key _ => decide ((k, key) = i)
  | _ => false

/-- the operation concerns metric `i`: it is aimed at `i`, or it is global (clock advance, observation) -/
def Op.relevant (i : Id) (op : Op) : Bool :=
  match op.target with
  | some j => decide (j = i)
  | none => true

/-- the metric is registered in every state passed while running `ops` from `s` (start and end included) -/
def regAlong (i : Id) : St → List Op → Prop
  | s, [] => registered s i
  | s, op :: rest => registered s i ∧ regAlong i (step s op) rest

instance regAlong.dec (i : Id) : ∀ (s : St) (ops : List Op), Decidable (regAlong i s ops)
  | s, [] => by unfold regAlong; infer_instance
  | s, op :: rest => by
    unfold regAlong
    exact @instDecidableAnd _ _ _ (regAlong.dec i (step s op) rest)

def updCount (i : Id) (ops : List Op) : Nat := (ops.filter (Op.updates i)).length

/-- **The history behind a `Recency` entry.**  `IdleSince cfg i ops t`: the history `ops` contains an
    observation, made at time `t`, that found `i` registered, and from that observation to the end of the
    history `i` was never updated and never left the registry. -/
def IdleSince (cfg : Cfg) (i : Id) (ops : List Op) (t : Nat) : Prop :=
  ∃ pre mid, ops = pre ++ Op.observe :: mid ∧ (after cfg pre).now = t ∧ registered (after cfg pre) i ∧
    regAlong i (step (after cfg pre) .observe) mid ∧ ∀ op ∈ mid, Op.updates i op = false

theorem wf_after (cfg : Cfg) (h : cfg.byKind = true) (ops : List Op) : WF (after cfg ops) :=
  wf_run _ _ (wf_init cfg h)

theorem after_cfg (cfg : Cfg) (ops : List Op) : (after cfg ops).cfg = cfg := by
  simp [after, run_cfg, init]

theorem after_snoc (cfg : Cfg) (ops : List Op) (op : Op) : after cfg (ops ++ [op]) = step (after cfg ops) op := by
  simp [after, run]

theorem after_append (cfg : Cfg) (a b : List Op) : after cfg (a ++ b) = run (after cfg a) b := by
  simp [after, run_append]

theorem registered_congr {s s' : St} {i : Id} (h : lookup s'.metrics i = lookup s.metrics i) :
    registered s' i ↔ registered s i := by
  unfold registered; rw [h]

theorem registered_iff (s : St) (i : Id) : registered s i ↔ ∃ m, (view s i).1 = some m := by
  unfold registered view
  cases lookup s.metrics i <;> simp

theorem updCount_eq_zero (i : Id) (ops : List Op) : updCount i ops = 0 ↔ ∀ op ∈ ops, Op.updates i op = false := by
  simp [updCount, List.filter_eq_nil_iff]

theorem updCount_snoc (i : Id) (ops : List Op) (op : Op) :
    updCount i (ops ++ [op]) = updCount i ops + (if Op.updates i op then 1 else 0) := by
  unfold updCount
  rw [List.filter_append, List.length_append]
  by_cases h : Op.updates i op = true <;> simp [List.filter, h]

theorem regAlong_snoc (i : Id) (s : St) (ops : List Op) (op : Op) :
    regAlong i s (ops ++ [op]) ↔ regAlong i s ops ∧ registered (step (run s ops) op) i := by
  induction ops generalizing s with
  | nil => simp [regAlong, run]
  | cons o os ih =>
    simp only [List.cons_append, regAlong, ih, run, List.foldl_cons]
    exact and_assoc.symm

theorem regAlong_last (i : Id) (s : St) (ops : List Op) (h : regAlong i s ops) : registered (run s ops) i := by
  induction ops generalizing s with
  | nil => exact h
  | cons o os ih => exact ih _ h.2

/-- one observation, seen from one metric: its registry entry is left alone, or it is removed together with its
    `Recency` entry — the latter only if the kind is covered and the entry carries the metric's present generation and
    is older than the timeout -/
theorem observe_keeps_or_expires (s : St) (hwf : WF s) (i : Id) :
    lookup (step s .observe).metrics i = lookup s.metrics i ∨
      (view (step s .observe) i = (none, none) ∧
        ∃ m T lu, view s i = (some m, some (m.gen, lu)) ∧ Covered s.cfg i.1 T ∧ T < s.now - lu) := by
  have := obsView_keeps_or_expires s.cfg i.1 s.now (view s i)
  rwa [← view_observe s hwf.1 hwf.2 i] at this

theorem observe_uncovered (s : St) (hwf : WF s) (i : Id)
    (h : s.cfg.timeout = none ∨ maskMatches s.cfg.mask i.1 = false) :
    lookup (step s .observe).metrics i = lookup s.metrics i := by
  rcases observe_keeps_or_expires s hwf i with h' | ⟨_, _, _, _, _, hc, _⟩
  · exact h'
  · rcases h with h | h
    · exact absurd (hc.1.symm.trans h) nofun
    · exact absurd (hc.2.symm.trans h) nofun

/-- an operation other than an observation leaves the `Recency` entry of every metric alone, keeps a registered
    metric registered, and raises its generation by one exactly if it is an update of it (otherwise the metric is
    unchanged) -/
theorem opView_non_observe (cfg : Cfg) (i : Id) (now : Nat) (vm : Option Metric) (ve : Option (Nat × Nat)) (op : Op)
    (h : op ≠ .observe) :
    ∃ vm', opView cfg i now (vm, ve) op = (vm', ve) ∧ ∀ m, vm = some m →
      (∃ m', vm' = some m' ∧ m'.gen = m.gen + (if Op.updates i op then 1 else 0)) ∧
      (Op.updates i op = false → vm' = some m) := by
  cases op with
  | reg k key =>
    by_cases e : (k, key) = i
    · exact ⟨some (vm.getD (fresh i.1)), by simp [opView, e],
        fun m hm => ⟨⟨m, by simp [hm], by simp [Op.updates]⟩, fun _ => by simp [hm]⟩⟩
    · exact ⟨vm, by simp [opView, e], fun m hm => ⟨⟨m, hm, by simp [Op.updates]⟩, fun _ => hm⟩⟩
  | upd k key u =>
    by_cases e : (k, key) = i
    · exact ⟨some ⟨(vm.getD (fresh i.1)).gen + 1, (vm.getD (fresh i.1)).val.apply u⟩, by simp [opView, e],
        fun m hm => ⟨⟨_, rfl, by simp [hm, Op.updates, e]⟩, fun x => by simp [Op.updates, e] at x⟩⟩
    · exact ⟨vm, by simp [opView, e], fun m hm => ⟨⟨m, hm, by simp [Op.updates, e]⟩, fun _ => hm⟩⟩
  | adv n => exact ⟨vm, rfl, fun m hm => ⟨⟨m, hm, rfl⟩, fun _ => hm⟩⟩
  | observe => exact absurd rfl h

theorem opView_irrelevant (cfg : Cfg) (i : Id) (now : Nat) (v : View) (op : Op) (h : Op.relevant i op = false) :
    opView cfg i now v op = v := by
  cases op with
  | reg k key | upd k key u =>
    have : ¬ (k, key) = i := by simpa [Op.relevant, Op.target] using h
    simp [opView, this]
  | adv n | observe => cases h

theorem snoc_induction {α : Type} {P : List α → Prop} (h0 : P []) (hs : ∀ l a, P l → P (l ++ [a])) (l : List α) :
    P l := by
  rw [← List.reverse_reverse l]
  induction l.reverse with
  | nil => exact h0
  | cons a t ih => rw [List.reverse_cons]; exact hs _ _ ih

/-- **Invariant.**  Whenever `Recency` holds an entry `(g, t)` for a metric, the history contains an
    observation at time `t` that saw the metric, the metric has stayed in the registry ever since, and its
    current generation is `g` plus the number of updates made after that observation.  In particular the
    metric is still registered, `g` is not ahead of its generation, and equal generations mean "no update
    since that observation". -/
theorem entry_history (cfg : Cfg) (hk : cfg.byKind = true) (i : Id) (ops : List Op) (g t : Nat)
    (h : (view (after cfg ops) i).2 = some (g, t)) :
    ∃ pre mid m, ops = pre ++ Op.observe :: mid ∧ (after cfg pre).now = t ∧ registered (after cfg pre) i ∧
      regAlong i (step (after cfg pre) .observe) mid ∧
      (view (after cfg ops) i).1 = some m ∧ m.gen = g + updCount i mid := by
  revert g t
  induction ops using snoc_induction with
  | h0 => intro g t h; cases h
  | hs acc op hacc =>
    intro g t hgt
    have hwf := wf_after cfg hk acc
    rw [after_snoc, view_step _ hwf, after_cfg] at hgt
    rw [after_snoc, view_step _ hwf, after_cfg]
    generalize hv : view (after cfg acc) i = v at hgt hacc ⊢
    obtain ⟨vm, ve⟩ := v
    -- common continuation: the entry is unchanged by the step and the metric stays registered
    have keep : ∀ (vm' : Option Metric), opView cfg i (after cfg acc).now (vm, ve) op = (vm', ve) →
        (∀ m, vm = some m → ∃ m', vm' = some m' ∧
          m'.gen = m.gen + (if Op.updates i op then 1 else 0)) →
        ∃ pre mid m, acc ++ [op] = pre ++ Op.observe :: mid ∧ (after cfg pre).now = t ∧
          registered (after cfg pre) i ∧ regAlong i (step (after cfg pre) .observe) mid ∧
          (opView cfg i (after cfg acc).now (vm, ve) op).1 = some m ∧ m.gen = g + updCount i mid := by
      intro vm' hop hgen
      rw [hop] at hgt ⊢
      obtain ⟨pre, mid, m, rfl, ht, hr, hal, hm, hg⟩ := hacc g t hgt
      obtain ⟨m', hm', hg'⟩ := hgen m hm
      refine ⟨pre, mid ++ [op], m', by simp, ht, hr, ?_, hm', ?_⟩
      · rw [regAlong_snoc]
        refine ⟨hal, ?_⟩
        have : step (run (step (after cfg pre) .observe) mid) op = after cfg ((pre ++ Op.observe :: mid) ++ [op]) := by
          simp [after, run, List.foldl_append]
        rw [this, registered_iff, after_snoc, view_step _ hwf, after_cfg, hv, hop]
        exact ⟨m', hm'⟩
      · rw [updCount_snoc, hg', hg]; omega
    by_cases hobs : op = .observe
    case neg =>
      obtain ⟨vm', hop, hgen⟩ := opView_non_observe cfg i (after cfg acc).now vm ve op hobs
      exact keep vm' hop fun m hm => (hgen m hm).1
    subst hobs
    cases vm with
    | none => exact keep none rfl nofun
    | some m =>
      simp only [opView] at hgt ⊢
      rcases obsView_cases cfg i.1 (after cfg acc).now m ve with ⟨ho, _⟩ | ⟨ho, _⟩ | ⟨ho, _⟩
      · exact keep (some m) ho fun m' hm' => ⟨m', hm', rfl⟩
      · -- refreshed (or first sighting): this very observation is the witness
        rw [ho] at hgt ⊢
        cases hgt
        refine ⟨acc, [], m, rfl, rfl, ?_, ?_, rfl, rfl⟩
        · rw [registered_iff, hv]; exact ⟨m, rfl⟩
        · show registered _ i
          rw [registered_iff, view_step _ hwf, after_cfg, hv]
          exact ⟨m, congrArg Prod.fst ho⟩
      · rw [ho] at hgt; cases hgt

theorem now_le_run (s : St) (ops : List Op) : s.now ≤ (run s ops).now := by
  induction ops generalizing s with
  | nil => exact Nat.le_refl _
  | cons op ops ih =>
    refine Nat.le_trans ?_ (ih (step s op))
    rw [step_now]; cases op <;> simp

theorem regAlong_head (i : Id) (s : St) (ops : List Op) (h : regAlong i s ops) : registered s i := by
  cases ops with
  | nil => exact h
  | cons o os => exact h.1

/-- an entry whose generation is the metric's generation survives, unchanged, any stretch of history in which
    the metric is not updated and does not leave the registry -/
theorem idle_entry_stable (cfg : Cfg) (i : Id) (m : Metric) (t' : Nat)
    (mid : List Op) (s : St) (hwf : WF s) (hcfg : s.cfg = cfg)
    (hv : view s i = (some m, some (m.gen, t'))) (hreg : regAlong i s mid)
    (hno : ∀ op ∈ mid, Op.updates i op = false) : view (run s mid) i = (some m, some (m.gen, t')) := by
  induction mid generalizing s with
  | nil => exact hv
  | cons op rest ih =>
    refine ih (step s op) (wf_step s op hwf) (by rw [step_cfg, hcfg]) ?_ hreg.2
      (fun o ho => hno o (List.mem_cons_of_mem _ ho))
    by_cases hobs : op = .observe
    · subst hobs
      -- still registered after the observation, so not expired; and the entry's generation is the metric's: unchanged
      have hreg' := (registered_iff _ _).1 (regAlong_head i _ _ hreg.2)
      have hvo : view (step s .observe) i = obsView s.cfg i.1 s.now (some m, some (m.gen, t')) :=
        hv ▸ view_observe s hwf.1 hwf.2 i
      rw [hvo] at hreg' ⊢
      rcases obsView_cases s.cfg i.1 s.now m (some (m.gen, t')) with ⟨ho, _⟩ | ⟨_, _, _, h'⟩ | ⟨ho, _⟩
      · exact ho
      · rcases h' with h' | ⟨lg, lu, h', hne⟩
        · cases h'
        · cases h'; exact absurd rfl hne
      · rw [ho] at hreg'; obtain ⟨_, x⟩ := hreg'; cases x
    · obtain ⟨vm', hop, hgen⟩ := opView_non_observe cfg i s.now (some m) (some (m.gen, t')) op hobs
      rw [view_step _ hwf, hcfg, hv, hop, ((hgen m rfl).2 (hno op List.mem_cons_self))]

/-- **dropped_iff.**  An observation removes a registered metric from the registry **iff** the metric's
    kind is covered by the idle timeout `T` and the history contains an earlier observation, made at a time
    `t` with `now − t > T` (strictly), that saw the metric, since which the metric was never updated
    (value-preserving updates count as updates) and never left the registry. -/
theorem dropped_iff (cfg : Cfg) (hk : cfg.byKind = true) (i : Id) (ops : List Op)
    (hreg : registered (after cfg ops) i) :
    ¬ registered (step (after cfg ops) .observe) i ↔
      ∃ T t, Covered cfg i.1 T ∧ IdleSince cfg i ops t ∧ T < (after cfg ops).now - t := by
  have hwf := wf_after cfg hk ops
  constructor
  · intro hdrop
    rcases observe_keeps_or_expires _ hwf i with h | ⟨_, m, T, lu, hv, hc, ht⟩
    · exact absurd ((registered_congr h).2 hreg) hdrop
    · rw [after_cfg] at hc
      obtain ⟨pre, mid, m', hops, hnow, hr, hal, hm', hg⟩ := entry_history cfg hk i ops m.gen lu (congrArg Prod.snd hv)
      cases hm'.symm.trans (congrArg Prod.fst hv)
      exact ⟨T, lu, hc, ⟨pre, mid, hops, hnow, hr, hal, (updCount_eq_zero i mid).mp (by omega)⟩, ht⟩
  · rintro ⟨T, t, hc, ⟨pre, mid, hops, hnow, hr, hal, hno⟩, ht⟩
    -- the observation at `pre` leaves an entry (gen, lu) with lu ≤ t
    have hwfp := wf_after cfg hk pre
    obtain ⟨m0, hm0⟩ := (registered_iff _ _).mp hr
    have hr1 := regAlong_head i _ _ hal
    have hv1 : ∃ lu, lu ≤ t ∧ view (step (after cfg pre) .observe) i = (some m0, some (m0.gen, lu)) := by
      have hvp : view (after cfg pre) i = (some m0, (view (after cfg pre) i).2) := by rw [← hm0]
      rw [registered_iff, view_step _ hwfp, after_cfg, hvp] at hr1
      rw [view_step _ hwfp, after_cfg, hvp]
      simp only [opView] at hr1 ⊢
      rcases obsView_cases cfg i.1 (after cfg pre).now m0 (view (after cfg pre) i).2 with ⟨ho, h⟩ | ⟨ho, _⟩ | ⟨ho, _⟩
      · rcases h with h | h | ⟨T', lu, _, he, _⟩
        · rw [hc.1] at h; cases h
        · rw [hc.2] at h; cases h
        · refine ⟨lu, ?_, by rw [ho, he]⟩
          obtain ⟨pre0, mid0, _, hp, hn0, _⟩ := entry_history cfg hk i pre m0.gen lu he
          rw [← hnow, ← hn0, hp, after_append]
          exact now_le_run _ _
      · exact ⟨t, Nat.le_refl _, by rw [ho, hnow]⟩
      · rw [ho] at hr1; obtain ⟨_, h⟩ := hr1; cases h
    obtain ⟨lu, hlu, hv1⟩ := hv1
    have hstable := idle_entry_stable cfg i m0 lu mid (step (after cfg pre) .observe)
      (wf_step _ _ hwfp) (by rw [step_cfg, after_cfg]) hv1 hal hno
    have hrun : run (step (after cfg pre) .observe) mid = after cfg ops := by
      rw [hops]; simp [after, run, List.foldl_append]
    rw [hrun] at hstable
    rw [registered_iff, view_step _ hwf, after_cfg, hstable]
    simp only [opView]
    rw [obsView_expired cfg i.1 _ T m0 lu hc (by omega)]
    rintro ⟨_, h⟩; cases h

/-- **kept_within_timeout.**  If no earlier observation that saw the metric unchanged lies more than the
    timeout back (`now − t ≤ T` for every such `t`; exactly the timeout keeps), the observation keeps the
    metric with its full value and generation. -/
theorem kept_within_timeout (cfg : Cfg) (hk : cfg.byKind = true) (i : Id) (ops : List Op) (T : Nat)
    (hT : cfg.timeout = some T) (hreg : registered (after cfg ops) i)
    (hidle : ∀ t, IdleSince cfg i ops t → (after cfg ops).now - t ≤ T) :
    lookup (step (after cfg ops) .observe).metrics i = lookup (after cfg ops).metrics i := by
  rcases observe_keeps_or_expires _ (wf_after cfg hk ops) i with h | ⟨h, _⟩
  · exact h
  · have hdrop : ¬ registered (step (after cfg ops) .observe) i := fun x => by
      obtain ⟨_, y⟩ := (registered_iff _ _).1 x
      rw [h] at y; cases y
    obtain ⟨T', t, hc, hi, ht⟩ := (dropped_iff cfg hk i ops hreg).mp hdrop
    have := hidle t hi
    cases hc.1.symm.trans hT
    omega

/-- **kept_if_updated.**  A metric updated (by any update, value-preserving or not) since the previous
    observation is kept by the next observation, with its full value and generation — whatever the clock did
    in between. -/
theorem kept_if_updated (cfg : Cfg) (hk : cfg.byKind = true) (k : Kind) (key : Key) (u : Upd)
    (pre mid : List Op) (hmid : ∀ op ∈ mid, op.target.isSome ∨ ∃ n, op = .adv n) :
    let s := after cfg (pre ++ Op.upd k key u :: mid)
    registered s (k, key) ∧ lookup (step s .observe).metrics (k, key) = lookup s.metrics (k, key) := by
  intro s
  -- after the update the entry's generation (if any) is behind the metric's
  let P : St → Prop := fun s => ∃ m, (view s (k, key)).1 = some m ∧ ∀ g t, (view s (k, key)).2 = some (g, t) → g < m.gen
  have h1 : P (after cfg (pre ++ [Op.upd k key u])) := by
    have hwf := wf_after cfg hk pre
    show ∃ m, _
    rw [after_snoc, view_step _ hwf, after_cfg]
    simp only [opView, if_true]
    refine ⟨_, rfl, ?_⟩
    intro g t hgt
    obtain ⟨_, mid0, m, _, _, _, _, hm, hg⟩ := entry_history cfg hk (k, key) pre g t hgt
    simp [hm, hg]; omega
  have h2 : ∀ (mid : List Op) (s : St), WF s → s.cfg = cfg → P s →
      (∀ op ∈ mid, op.target.isSome ∨ ∃ n, op = .adv n) → P (run s mid) := by
    intro mid
    induction mid with
    | nil => intro s _ _ h _; exact h
    | cons op rest ih =>
      intro s hwf hcfg ⟨m, hm, hlt⟩ hall
      refine ih (step s op) (wf_step s op hwf) (by rw [step_cfg, hcfg]) ?_ (fun o ho => hall o (List.mem_cons_of_mem _ ho))
      have hobs : op ≠ .observe := fun e => by
        rcases hall op List.mem_cons_self with h | ⟨n, h⟩ <;> subst e <;> cases h
      -- the entry stays, the generation does not go down
      obtain ⟨vm', hop, hgen⟩ := opView_non_observe cfg (k, key) s.now _ (view s (k, key)).2 op hobs
      obtain ⟨⟨m', hm', hg⟩, _⟩ := hgen m hm
      have hv : view (step s op) (k, key) = (vm', (view s (k, key)).2) := (view_step _ hwf _ _).trans (hcfg ▸ hop)
      show ∃ m, _
      rw [hv]
      exact ⟨m', hm', fun g t hgt => by have := hlt g t hgt; omega⟩
  have hs : s = run (after cfg (pre ++ [Op.upd k key u])) mid := by
    show after cfg _ = _
    rw [← after_append]; simp
  have hwfs : WF s := wf_after cfg hk _
  obtain ⟨m, hm, hlt⟩ : P s := hs ▸ h2 mid _ (wf_after cfg hk _) (after_cfg _ _) h1 hmid
  refine ⟨(registered_iff _ _).mpr ⟨m, hm⟩, ?_⟩
  rcases observe_keeps_or_expires s hwfs (k, key) with h | ⟨_, m', _, lu, hv, _, _⟩
  · exact h
  · rw [hv] at hm hlt
    cases hm
    exact absurd (hlt _ _ rfl) (Nat.lt_irrefl _)

/-- **never_dropped_outside_mask.**  A metric whose kind is not in the mask is never removed, however long
    it is idle. -/
theorem never_dropped_outside_mask (cfg : Cfg) (hk : cfg.byKind = true) (i : Id) (ops : List Op)
    (hmask : maskMatches cfg.mask i.1 = false) :
    lookup (step (after cfg ops) .observe).metrics i = lookup (after cfg ops).metrics i :=
  observe_uncovered _ (wf_after cfg hk ops) i (.inr (by rw [after_cfg]; exact hmask))

/-- **never_dropped_without_timeout.**  Without an idle timeout an observation removes nothing: the whole
    registry is unchanged. -/
theorem never_dropped_without_timeout (cfg : Cfg) (hk : cfg.byKind = true) (i : Id) (ops : List Op)
    (hT : cfg.timeout = none) :
    lookup (step (after cfg ops) .observe).metrics i = lookup (after cfg ops).metrics i :=
  observe_uncovered _ (wf_after cfg hk ops) i (.inl (by rw [after_cfg]; exact hT))

/-- a drop removes the metric from the registry *and* its entry from `Recency` -/
theorem dropped_clears_entry (cfg : Cfg) (hk : cfg.byKind = true) (i : Id) (ops : List Op)
    (hreg : registered (after cfg ops) i) (hdrop : ¬ registered (step (after cfg ops) .observe) i) :
    view (step (after cfg ops) .observe) i = (none, none) := by
  rcases observe_keeps_or_expires _ (wf_after cfg hk ops) i with h | ⟨h, _⟩
  · exact absurd ((registered_congr h).2 hreg) hdrop
  · exact h

/-- a metric that is neither registered nor tracked stays so as long as no operation is aimed at it -/
theorem absent_stable (cfg : Cfg) (i : Id) (mid : List Op) (s : St) (hwf : WF s) (hcfg : s.cfg = cfg)
    (hv : view s i = (none, none)) (hmid : ∀ op ∈ mid, op.target ≠ some i) : view (run s mid) i = (none, none) := by
  induction mid generalizing s with
  | nil => exact hv
  | cons op rest ih =>
    apply ih (step s op) (wf_step s op hwf) (by rw [step_cfg, hcfg]) _ (fun o ho => hmid o (List.mem_cons_of_mem _ ho))
    have hop := hmid op List.mem_cons_self
    rw [view_step _ hwf, hv]
    cases op with
    | adv n => rfl
    | observe => rfl
    | _ => exact opView_irrelevant _ _ _ _ _ (by simpa [Op.relevant, Op.target] using hop)

/-- **fresh_after_drop.**  A metric dropped by an observation and later registered and emitted again
    (nothing aimed at it in between) reappears with generation 1 and the value of a brand-new metric after
    that one update — nothing of its former value survives — and the next observation keeps it. -/
theorem fresh_after_drop (cfg : Cfg) (hk : cfg.byKind = true) (k : Kind) (key : Key) (ops mid : List Op) (u : Upd)
    (hreg : registered (after cfg ops) (k, key))
    (hdrop : ¬ registered (step (after cfg ops) .observe) (k, key))
    (hmid : ∀ op ∈ mid, op.target ≠ some (k, key)) :
    let s := after cfg ((ops ++ Op.observe :: mid) ++ [Op.upd k key u])
    lookup s.metrics (k, key) = some ⟨1, (Val.zero k).apply u⟩ ∧
    lookup (step s .observe).metrics (k, key) = some ⟨1, (Val.zero k).apply u⟩ := by
  intro s
  have h0 := dropped_clears_entry cfg hk (k, key) ops hreg hdrop
  have hwf1 : WF (step (after cfg ops) .observe) := wf_step _ _ (wf_after cfg hk ops)
  have h1 := absent_stable cfg (k, key) mid _ hwf1 (by rw [step_cfg, after_cfg]) h0 hmid
  have hrun : run (step (after cfg ops) .observe) mid = after cfg (ops ++ Op.observe :: mid) := by
    simp [after, run, List.foldl_append]
  rw [hrun] at h1
  have hs : lookup s.metrics (k, key) = some ⟨1, (Val.zero k).apply u⟩ := by
    show (view s (k, key)).1 = _
    show (view (after cfg _) (k, key)).1 = _
    rw [after_snoc, view_step _ (wf_after cfg hk _), h1]
    simp [opView, fresh]
  refine ⟨hs, ?_⟩
  have := (kept_if_updated cfg hk k key u (ops ++ Op.observe :: mid) [] (by simp)).2
  rw [← hs]
  exact this

/-- a metric's view and the clock after a history, as a fold over it -/
theorem track_after (cfg : Cfg) (hk : cfg.byKind = true) (i : Id) (ops : List Op) :
    (view (after cfg ops) i, (after cfg ops).now)
      = ops.foldl (fun p op => xopTrack cfg i p (.base op)) ((none, none), 0) := by
  rw [after, run_eq_xrun, track_xrun _ (wf_init cfg hk), List.foldl_map]
  rfl

/-- **noninterference.**  What happens to a metric — registry entry, value, generation, `Recency` entry,
    hence every keep/drop decision — is determined by the operations aimed at it, the clock and the
    observations alone: all operations aimed at other metrics can be deleted from the history. -/
theorem noninterference (cfg : Cfg) (hk : cfg.byKind = true) (i : Id) (ops : List Op) :
    view (after cfg ops) i = view (after cfg (ops.filter (Op.relevant i))) i := by
  refine congrArg Prod.fst ((track_after cfg hk i ops).trans (.trans ?_ (track_after cfg hk i _).symm))
  rw [List.foldl_filter]
  congr
  funext p op
  split
  · rfl
  · next h =>
    have hr := Bool.eq_false_iff.2 h
    have hv := opView_irrelevant cfg i p.2 p.1 op hr
    cases op with
    | adv n => cases hr
    | _ => exact Prod.ext hv rfl

/-- **kinds_independent.**  An operation on `(k₁, key)` never affects `(k₂, key)` for `k₁ ≠ k₂`: inserting it
    anywhere in any history leaves the other kind's metric under the same key exactly as it was.  (This is
    the statement that was false before commit 0c2b681: `kinds_independent_legacy_false`.) -/
theorem kinds_independent (cfg : Cfg) (hk : cfg.byKind = true) (k₁ k₂ : Kind) (key : Key) (hne : k₁ ≠ k₂)
    (op : Op) (hop : op.target = some (k₁, key)) (a b : List Op) :
    lookup (after cfg (a ++ op :: b)).metrics (k₂, key) = lookup (after cfg (a ++ b)).metrics (k₂, key) := by
  apply lookup_of_view_eq
  rw [noninterference cfg hk _ (a ++ op :: b), noninterference cfg hk _ (a ++ b)]
  have : Op.relevant (k₂, key) op = false := by simp [Op.relevant, hop, hne]
  simp [List.filter_append, List.filter, this]

/-- the history on which the code before the repair breaks independence: counter `s` and gauge `s`, the same key -/
def legacyWitnessA : List Op := [.upd .counter ['s'] (.inc 5), .upd .gauge ['s'] (.set 1)]
def legacyWitnessB : List Op := [.observe, .upd .counter ['s'] (.inc 1), .adv 11, .observe]

/-- **The defect of the code before the repair**, kernel-evaluated: with `Recency` keyed by the key only, a
    second `set` of gauge `s` decides whether counter `s` — incremented since the previous observation —
    survives the next observation (it is deleted with its value 6). -/
theorem kinds_independent_legacy_false :
    let cfg : Cfg := { mask := 7, timeout := some 10, byKind := false }
    lookup (after cfg (legacyWitnessA ++ Op.upd .gauge ['s'] (.set 2) :: legacyWitnessB)).metrics (.counter, ['s']) = none ∧
    lookup (after cfg (legacyWitnessA ++ legacyWitnessB)).metrics (.counter, ['s']) = some ⟨2, .c 6⟩ := by
  decide +kernel

/-- the same history on the repaired model: the counter is kept with its full value either way -/
example :
    let cfg : Cfg := { mask := 7, timeout := some 10 }
    lookup (after cfg (legacyWitnessA ++ Op.upd .gauge ['s'] (.set 2) :: legacyWitnessB)).metrics (.counter, ['s']) = some ⟨2, .c 6⟩ ∧
    lookup (after cfg (legacyWitnessA ++ legacyWitnessB)).metrics (.counter, ['s']) = some ⟨2, .c 6⟩ := by
  decide +kernel

/-- exactly the timeout keeps, one tick more drops; the gauge (outside the mask) stays -/
example :
    let cfg : Cfg := { mask := 1, timeout := some 10 }
    let h := [Op.upd .counter ['a'] (.inc 3), .upd .gauge ['a'] (.set 4), .observe, .adv 10]
    registered (after cfg (h ++ [.observe])) (.counter, ['a']) ∧
    ¬ registered (after cfg (h ++ [.adv 1, .observe])) (.counter, ['a']) ∧
    registered (after cfg (h ++ [.adv 1000, .observe, .adv 1000, .observe])) (.gauge, ['a']) := by
  decide +kernel

/-- `dropped_iff`'s right-hand side is inhabited: an `IdleSince` witness with `now − t > T` -/
example :
    let cfg : Cfg := { mask := 7, timeout := some 10 }
    let ops := [Op.upd .counter ['a'] (.inc 3), .observe, .adv 5, .observe, .adv 6]
    registered (after cfg ops) (.counter, ['a']) ∧ IdleSince cfg (.counter, ['a']) ops 0 ∧
      10 < (after cfg ops).now - 0 ∧ ¬ registered (step (after cfg ops) .observe) (.counter, ['a']) := by
  refine ⟨by decide, ⟨[Op.upd .counter ['a'] (.inc 3)], [.adv 5, .observe, .adv 6], rfl, by decide, by decide,
    by decide, by decide⟩, by decide, by decide⟩

/-- a value-preserving update (`increment(0)`) keeps the metric alive; re-registration after a drop starts
    from zero -/
example :
    let cfg : Cfg := { mask := 7, timeout := some 10 }
    lookup (after cfg [Op.upd .counter ['a'] (.inc 3), .observe, .adv 11, .upd .counter ['a'] (.inc 0), .observe]).metrics
        (.counter, ['a']) = some ⟨2, .c 3⟩ ∧
    lookup (after cfg [Op.upd .counter ['a'] (.inc 3), .observe, .adv 11, .observe, .upd .counter ['a'] (.inc 2), .observe]).metrics
        (.counter, ['a']) = some ⟨1, .c 2⟩ := by
  decide +kernel

/-! ### updates racing an observation: the generation stamp never runs ahead of the value

`Recency` decides "unchanged since the last observation" from the generation alone.  That is sound under
concurrency only if an observation never pairs a generation with a value older than that generation — step
machine `Model/GenRace.lean` (updater: value write, then generation bump; observer: generation read, then value
read), any number of updaters and observers, EVERY interleaving. -/

open MetricsVerif.GenRace in
/-- every observation `(g, v)` recorded in any interleaving has `g ≤ v`: the value read already contains the
    first `g` updates, and nothing beyond what was applied -/
theorem stamp_never_ahead_of_value (updates observations : List Nat) (sched : List Nat)
    (o : Obs) (ho : o ∈ (GenRace.run (GenRace.init false updates observations) sched).obss) (p : Nat × Nat) (hp : p ∈ o.seen) :
    p.1 ≤ p.2 ∧ p.2 ≤ (GenRace.run (GenRace.init false updates observations) sched).applied :=
  (run_inv (total updates) sched _ (init_inv updates observations)).seen o ho p hp

open MetricsVerif.GenRace in
/-- once the updaters are done: an observation stamped with the final generation has read the final value — so a
    later observation that finds the generation unchanged may rightly conclude that nothing changed since -/
theorem final_stamp_means_final_value (updates observations : List Nat) (sched : List Nat)
    (hq : quiescent (GenRace.run (GenRace.init false updates observations) sched) = true)
    (o : Obs) (ho : o ∈ (GenRace.run (GenRace.init false updates observations) sched).obss) (p : Nat × Nat) (hp : p ∈ o.seen)
    (hg : p.1 = (GenRace.run (GenRace.init false updates observations) sched).gen) :
    p.2 = (GenRace.run (GenRace.init false updates observations) sched).applied
      ∧ (GenRace.run (GenRace.init false updates observations) sched).applied = total updates := by
  have hI := run_inv (total updates) sched _ (init_inv updates observations)
  obtain ⟨h1, h2⟩ := hI.seen o ho p hp
  obtain ⟨q1, q2⟩ := quiescent_sums _ hq
  have ha := hI.acct
  have hl := hI.left
  omega

/-- the order is what this rests on: with the generation bumped BEFORE the value write, one updater and one
    observer reach an observation stamped with the final generation that shows the old value -/
theorem bump_first_breaks :
    let s := GenRace.run (GenRace.init true [1] [1]) [0, 1, 1, 0]
    GenRace.quiescent s = true ∧ s.gen = 1 ∧ s.applied = 1 ∧ (s.obss.map (·.seen)) = [[(1, 0)]] := by decide +kernel

/-- non-vacuity: two updaters and an observer that reads between a value write and its generation bump -/
example :
    let s := GenRace.run (GenRace.init false [2, 1] [2]) [0, 2, 1, 2, 0, 1, 0, 0, 2, 2]
    GenRace.quiescent s = true ∧ (s.obss.map (·.seen)) = [[(0, 2), (3, 3)]] := by decide +kernel

/-- source facts (regenerated from /repo on every run): `with_increment` applies the closure and only then bumps
    the generation; the exporter reads the generation before the value, for counters and for gauges -/
theorem src_generation_order :
    Generated.gen_with_increment_steps = ["apply", "bump:fetch_add"]
    ∧ Generated.prom_counter_read_order = ["generation", "value:load"]
    ∧ Generated.prom_gauge_read_order = ["generation", "value:load"] :=
  ⟨rfl, rfl, rfl⟩


open MetricsVerif.Src in
/-- SOURCE FACT: the generation bump is a Release RMW and the exporter's generation read an Acquire load, so an
    observer that sees the bumped generation also sees the value update that preceded the bump -/
theorem src_generation_orderings :
    names Generated.shape_generational_with_increment = ["gen.fetch_add"]
    ∧ allRelease Generated.shape_generational_with_increment "gen.fetch_add" = true
    ∧ names Generated.shape_generational_get_generation = ["gen.load"]
    ∧ allAcquire Generated.shape_generational_get_generation "gen.load" = true :=
  ⟨rfl, rfl, rfl, rfl⟩

/-- SOURCE FACT: every update method of `Generational<T>` (the three `impl …Fn for Generational<T>` blocks) is
    exactly `self.with_increment(|x| x.<same method>(…))` — no method bumps the generation by hand (in another
    order) or skips the bump, and `record_many` is not overridden, so it is the trait's default `n × record`
    (the `recMany` operation of `Model/PromIdle.lean`, `Upd` of `Model/Recency.lean`). -/
theorem src_generational_update_methods :
    Generated.gen_update_methods =
      ["CounterFn.increment:with_increment:increment", "CounterFn.absolute:with_increment:absolute",
       "GaugeFn.increment:with_increment:increment", "GaugeFn.decrement:with_increment:decrement",
       "GaugeFn.set:with_increment:set", "HistogramFn.record:with_increment:record"] :=
  rfl

/-- SOURCE FACT: the exporter derives the key of `distributions` the same way wherever it stores, shows or
    removes a series: every `key_to_parts` call of `recorder.rs` passes `Some(&self.global_labels)` (the single
    function `parts` of `Model/PromIdle.lean`; `prom_dropped_leaves_output` rests on the removal using it). -/
theorem src_prom_key_to_parts_uniform :
    Generated.prom_key_to_parts_defaults =
      ["Some(&self.global_labels)", "Some(&self.global_labels)", "Some(&self.global_labels)",
       "Some(&self.global_labels)"] :=
  rfl

/-! ## the exporter: an expired histogram leaves the OUTPUT as well (`Model/PromIdle.lean`)

The Prometheus exporter keeps the drained samples of a histogram in its own map `distributions`, keyed by
`key_to_parts(key, Some(global_labels))`; the registry entry is only the not-yet-drained bucket.  What a
scrape shows for histograms is that map. -/

open MetricsVerif.PromIdle in
/-- **prom_base_sim.**  Whatever the exporter does (register, update, `record_many`, upkeep, render), its
    registry and its `Recency` are in the state the `Recency` model reaches on the corresponding operations
    (`record_many(v, n)` = register + n × `record`; upkeep = nothing; render = one observation).  Hence every
    theorem above (`dropped_iff`, `kept_if_updated`, `kept_within_timeout`, `never_dropped_*`,
    `fresh_after_drop`) holds of the exporter's registry, for every `key_to_parts` and all global labels. -/
theorem prom_base_sim (parts : Key → DKey) (cfg : Cfg) (ops : List POp) :
    (prun parts (PromIdle.init cfg) ops).base = after cfg (ops.flatMap POp.toOps) :=
  prun_base parts _ ops

open MetricsVerif.PromIdle in
/-- **prom_dropped_leaves_output.**  In any state of the exporter: if a render removes a registered histogram
    from the registry (which happens exactly in the situation of `dropped_iff`), then after that render the
    exporter's `distributions` hold nothing under `key_to_parts(key)` — the histogram is gone from the scrape
    output, whatever the global labels, and whatever else shares its family.  Consequently a later
    re-registration starts from an absent distribution (`drainOne` then creates it from zero). -/
theorem prom_dropped_leaves_output (parts : Key → DKey) (ps : PSt) (hk : ps.base.cfg.byKind = true) (key : Key)
    (hreg : registered ps.base (.histogram, key))
    (hdrop : ¬ registered (PromIdle.render parts ps).base (.histogram, key)) :
    lookup (PromIdle.render parts ps).dists (parts key) = none := by
  have hn : lookup (PromIdle.render parts ps).base.metrics (Kind.histogram, key) = none :=
    Option.not_isSome_iff_eq_none.1 hdrop
  -- the counter and gauge loops leave the histogram registered
  have h1 : lookup (drain parts (afterCG ps)).base.metrics (Kind.histogram, key) = lookup ps.base.metrics (.histogram, key) := by
    rw [drain_base]
    exact lookup_of_view_eq <|
      (view_observeKind_other _ (by rw [observeKind_cfg]; exact hk) .gauge (.histogram, key) nofun).trans
        (view_observeKind_other _ hk .counter _ nofun)
  exact foldl_visitH_drop parts _ (drain parts (afterCG ps)) (.histogram, key) (by rw [h1]; exact hreg) hn

/-- the same, for every history of the exporter from a fresh recorder -/
theorem prom_expired_histogram_leaves_output (parts : Key → PromIdle.DKey) (cfg : Cfg) (hk : cfg.byKind = true)
    (ops : List PromIdle.POp) (key : Key)
    (hreg : registered (PromIdle.prun parts (PromIdle.init cfg) ops).base (.histogram, key))
    (hdrop : ¬ registered (PromIdle.prun parts (PromIdle.init cfg) (ops ++ [.render])).base (.histogram, key)) :
    lookup (PromIdle.prun parts (PromIdle.init cfg) (ops ++ [.render])).dists (parts key) = none := by
  have e : PromIdle.prun parts (PromIdle.init cfg) (ops ++ [.render])
      = PromIdle.render parts (PromIdle.prun parts (PromIdle.init cfg) ops) := by
    simp [PromIdle.prun, PromIdle.pstep]
  rw [e] at hdrop ⊢
  apply prom_dropped_leaves_output parts _ _ key hreg hdrop
  rw [prom_base_sim, after_cfg]; exact hk

/-- all keys under one family / label set: what `key_to_parts` does to `hst.x` and `hst_x` -/
def collideParts : Key → PromIdle.DKey := fun _ => (['h'], [])

/-- **FINDING, kernel-evaluated (replayed on the real exporter by the harness: `prom-collision`).**
    `distributions` is keyed by the *sanitised* name, so two histograms whose `key_to_parts` coincide share
    one distribution.  When the idle one (`a`) expires, the shared distribution is removed although `b` is
    alive and was updated since the previous render: `b`'s full value is 3 samples summing to 8 (registry side,
    never dropped), the output shows 1 sample, sum 2.  So "kept with its full value" fails in the output for
    colliding names; `prom_dropped_leaves_output` (which needs no injectivity) is the part that holds. -/
theorem prom_collision_wipes_live :
    let cfg : Cfg := { mask := 4, timeout := some 2 }
    let ops : List PromIdle.POp :=
      [.upd .histogram ['a'] (.record 7), .upd .histogram ['b'] (.record 5), .render, .adv 3,
       .upd .histogram ['b'] (.record 1), .render, .upd .histogram ['b'] (.record 2), .render]
    let s := PromIdle.prun collideParts (PromIdle.init cfg) ops
    lookup s.base.metrics (.histogram, ['b']) = some ⟨3, .h 3 8⟩ ∧
    lookup s.dists (collideParts ['b']) = some (1, 2) := by
  decide +kernel

/-- non-vacuity (injective parts, a "global label" in every label set): the idle histogram is dropped and
    leaves the output; recorded again it shows the new sample only; `record_many(9, 0)` is not an update;
    a histogram drained by upkeep still expires -/
example :
    let cfg : Cfg := { mask := 7, timeout := some 2 }
    let parts : Key → PromIdle.DKey := fun k => (k, [['e', '=', 'p']])
    let h : List PromIdle.POp := [.upd .histogram ['a'] (.record 5), .recMany ['a'] 6 2, .upkeep, .render, .adv 3]
    lookup (PromIdle.prun parts (PromIdle.init cfg) (h ++ [.recMany ['a'] 9 0])).dists (parts ['a']) = some (3, 17) ∧
    registered (PromIdle.prun parts (PromIdle.init cfg) (h ++ [.recMany ['a'] 9 0])).base (.histogram, ['a']) ∧
    ¬ registered (PromIdle.prun parts (PromIdle.init cfg) (h ++ [.recMany ['a'] 9 0, .render])).base (.histogram, ['a']) ∧
    lookup (PromIdle.prun parts (PromIdle.init cfg) (h ++ [.render])).dists (parts ['a']) = none ∧
    lookup (PromIdle.prun parts (PromIdle.init cfg) (h ++ [.render, .upd .histogram ['a'] (.record 1), .render])).dists
      (parts ['a']) = some (1, 1) := by
  decide +kernel

/-! ## an update racing the idle deletion (`Model/IdleRace.lean`)

The clause "anything updated since the previous observation is kept with its full value", for updater threads racing
the observer at the granularity of the yield points.  `lost` counts the updates that can never reach the output any
more: updates of a storage cell not yet shown when the cell is deleted, and updates written to orphaned storage. -/

/-- the configuration of the witnesses: timeout 10, one update before the first render (at time 0), the race takes
    place at time 11; one updater making one update, one render -/
def raceCfg (fresh : Bool) : IdleRace.Cfg :=
  { timeout := some 10, covered := true, tick := 0, adv := 11, pre := 1, upds := [(fresh, 1)], renders := 1 }

/-- **FINDING, kernel-evaluated (replayed on the real exporter under the deterministic scheduler: `idle-race witness
    W1`).**  The full-strength clause is FALSE of the code, even when every update goes through a freshly obtained
    handle: the observer reads the generation (grant 1), a complete update — look-up, value write, generation bump —
    follows (grants 0 0 0), then the observer finds the generation it holds unchanged since an observation made more
    than the timeout ago and `Registry::delete_*` removes the storage without looking at its generation again
    (grants 1 1).  The update is lost: nothing is registered, and no later render shows it. -/
theorem idle_race_loses_update :
    let s := IdleRace.run (IdleRace.init (raceCfg true)) [1, 0, 0, 0, 1, 1]
    s.lost = 1 ∧ s.dirtyDrops = 1 ∧ s.orphanWrites = 0 ∧ s.reg = none ∧ s.obs.shown = [none]
    ∧ (s.upds.map (·.pc)) = [IdleRace.UPc.done]
    ∧ (IdleRace.observeQuiet s).obs.shown = [none, none] := by decide +kernel

/-- the negation of the full-strength statement, as a statement about all configurations and schedules -/
theorem idle_race_no_update_lost_false :
    ¬ (∀ (c : IdleRace.Cfg) (sched : List Nat), (∀ p ∈ c.upds, p.1 = true) →
        (IdleRace.run (IdleRace.init c) sched).lost = 0) := by
  intro h
  have := h (raceCfg true) [1, 0, 0, 0, 1, 1] (by decide)
  revert this
  decide +kernel

/-- **FINDING, kernel-evaluated (replayed: `idle-race witness W2`).**  No race is needed when a handle is kept across
    an idle drop: the observation deletes the idle metric (grants 1 1 1), the update through the handle obtained
    before goes to the orphaned storage (grants 0 0) and is never shown.  No update step lies inside the read→delete
    window of this schedule — which is why `idle_race_lossless_partial` is about freshly obtained handles. -/
theorem stale_handle_loses_update :
    let s := IdleRace.run (IdleRace.init (raceCfg false)) [1, 1, 1, 0, 0]
    s.lost = 1 ∧ s.dirtyDrops = 0 ∧ s.orphanWrites = 1 ∧ s.reg = none
    ∧ IdleRace.windowFree (IdleRace.init (raceCfg false)) [1, 1, 1, 0, 0] = true
    ∧ (IdleRace.observeQuiet s).obs.shown = [none, none] := by decide +kernel

/-- **idle_race_lossless_partial.**  For any timeout, mask, clock advances, number of updater threads, updates and
    renders, and EVERY schedule in which no update step lies inside a read→delete window of the observer (no updater
    is granted while the observer holds a generation on which `should_store` deletes or is on its way into
    `Registry::delete_*`, and no updater is between its value write and its generation bump when such a window
    opens): if every update goes through a freshly obtained handle, no update is lost — every deletion removes a
    storage cell all of whose updates have been shown, and no update is written to orphaned storage. -/
theorem idle_race_lossless_partial (c : IdleRace.Cfg) (hfresh : ∀ p ∈ c.upds, p.1 = true) (sched : List Nat)
    (hw : IdleRace.windowFree (IdleRace.init c) sched = true) :
    (IdleRace.run (IdleRace.init c) sched).lost = 0
    ∧ (IdleRace.run (IdleRace.init c) sched).dirtyDrops = 0
    ∧ (IdleRace.run (IdleRace.init c) sched).orphanWrites = 0 := by
  have h := IdleRace.run_lossless sched (IdleRace.init c) (IdleRace.init_inv c) (IdleRace.init_K c)
    (IdleRace.init_allFresh c hfresh) hw
  exact ⟨h.lost, h.dirty, h.orphan⟩

/-- **idle_race_never_due_lossless.**  Without a timeout, or for a kind outside the mask, no window ever opens: with
    freshly obtained handles no update is lost in ANY schedule. -/
theorem idle_race_never_due_lossless (c : IdleRace.Cfg) (hfresh : ∀ p ∈ c.upds, p.1 = true)
    (hn : c.timeout = none ∨ c.covered = false) (sched : List Nat) :
    (IdleRace.run (IdleRace.init c) sched).lost = 0 :=
  (idle_race_lossless_partial c hfresh sched
    (IdleRace.windowFree_of_neverDue sched _ (IdleRace.init_inv c) hn)).1

/-- **never_dropped_while_fresh_quiescent.**  In every state reachable under ANY schedule (kept handles included): a
    quiescent observation — no updater between its value write and its generation bump, nobody else moving while the
    observer runs — of a registered metric that has updates not yet shown keeps the metric and shows its full value;
    afterwards all its updates are shown, and nothing was lost. -/
theorem never_dropped_while_fresh_quiescent (c : IdleRace.Cfg) (sched : List Nat) (cell : Nat) :
    let s := IdleRace.run (IdleRace.init c) sched
    s.obs.pc = .idle → s.obs.todo ≠ 0 → s.reg = some cell → IdleRace.anyMid s = false → 0 < s.unshown cell →
    (IdleRace.stepObs (IdleRace.stepObs s)).obs.pc = .idle
    ∧ (IdleRace.stepObs (IdleRace.stepObs s)).reg = some cell
    ∧ (IdleRace.stepObs (IdleRace.stepObs s)).obs.shown = s.obs.shown ++ [some (s.val cell)]
    ∧ (IdleRace.stepObs (IdleRace.stepObs s)).unshown cell = 0
    ∧ (IdleRace.stepObs (IdleRace.stepObs s)).lost = s.lost := by
  intro s hidle htodo hreg hmid hfresh
  have h := IdleRace.quiet_keeps_fresh s (IdleRace.run_inv sched _ (IdleRace.init_inv c)) hidle htodo cell hreg hmid hfresh
  exact ⟨h.1, h.2.1, h.2.2.1, h.2.2.2.1, h.2.2.2.2.lost⟩

/-- **idle_race_invariant.**  In EVERY interleaving: whenever `Recency`'s entry carries the current generation of the
    registered storage and no updater is between its value write and its bump on it, every update written to that
    storage has been shown (so a deletion decided on that entry loses nothing); the stamp of the entry never exceeds
    the generation; and an observer on its way into `Registry::delete_*` has decided on an entry whose stamp is the
    generation it read. -/
theorem idle_race_invariant (c : IdleRace.Cfg) (sched : List Nat) :
    IdleRace.Inv (IdleRace.run (IdleRace.init c) sched) :=
  IdleRace.run_inv sched _ (IdleRace.init_inv c)

/-- non-vacuity of `idle_race_lossless_partial`: the same threads as in the witness, the update made before the
    observer reads the generation — kept and shown with its full value 2; and made after the deletion — the dropped
    series (last shown 1) is followed by a fresh one starting from zero (value 1) -/
example :
    IdleRace.windowFree (IdleRace.init (raceCfg true)) [0, 0, 0, 1, 1] = true
    ∧ (IdleRace.run (IdleRace.init (raceCfg true)) [0, 0, 0, 1, 1]).obs.shown = [some 2]
    ∧ IdleRace.windowFree (IdleRace.init (raceCfg true)) [1, 1, 1, 0, 0, 0, 0] = true
    ∧ (IdleRace.run (IdleRace.init (raceCfg true)) [1, 1, 1, 0, 0, 0, 0]).obs.shown = [none]
    ∧ (IdleRace.observeQuiet (IdleRace.run (IdleRace.init (raceCfg true)) [1, 1, 1, 0, 0, 0, 0])).obs.shown = [none, some 1]
    ∧ IdleRace.windowFree (IdleRace.init (raceCfg true)) [1, 0, 0, 0, 1, 1] = false := by decide +kernel

/-! ## the registry changed behind `Recency`'s back (`Registry::delete_*`, `Registry::clear`, a second observer's
stale handle snapshot): `Model/Recency.lean: XOp` -/

/-- the state reached by an extended history -/
def xafter (cfg : Cfg) (xs : List XOp) : St := xrun (init cfg) xs

/-- the extended operation can leave `Recency`'s entry for `i` out of step with the registry: an outside delete of
    `i`, a `clear`, or a second observer's `should_store_*` for `i` -/
def XOp.hits (i : Id) : XOp → Bool
  | .del k key => decide ((k, key) = i)
  | .clear => true
  | .stale k key _ => decide ((k, key) = i)
  | .base _ => false

theorem wf_xafter (cfg : Cfg) (h : cfg.byKind = true) (xs : List XOp) : WF (xafter cfg xs) :=
  wf_xrun _ _ (wf_init cfg h)

theorem xafter_cfg (cfg : Cfg) (xs : List XOp) : (xafter cfg xs).cfg = cfg := by
  simp [xafter, xrun_cfg, init]

theorem xafter_snoc (cfg : Cfg) (xs : List XOp) (x : XOp) : xafter cfg (xs ++ [x]) = xstep (xafter cfg xs) x := by
  simp [xafter, xrun]

/-- **orphan_entry_survives_delete.**  `Registry::delete_*` and `Registry::clear` called from outside remove the metric
    and leave `Recency`'s entry for it exactly as it was — in every (well-formed) state.  `Recency` offers no operation
    that forgets an entry, and an observation never visits a key that is not registered (`obsView_unregistered`), so
    the entry stays until the key is registered again. -/
theorem orphan_entry_survives_delete (s : St) (h : WF s) (i : Id) :
    view (xstep s (.del i.1 i.2)) i = (none, (view s i).2) ∧ view (xstep s .clear) i = (none, (view s i).2) ∧
    view (step (xstep s (.del i.1 i.2)) .observe) i = (none, (view s i).2) := by
  refine ⟨by rw [view_xstep _ h]; simp [xopView], by rw [view_xstep _ h]; simp [xopView], ?_⟩
  rw [view_step _ (wf_xstep _ _ h), view_xstep _ h]
  simp [xopView, opView, obsView]

/-- operations that do not hit `i` act on its view and the clock as the history `Recency` took part in -/
theorem foldl_xopTrack_strip (cfg : Cfg) (i : Id) (xs : List XOp) (hx : ∀ x ∈ xs, XOp.hits i x = false)
    (p : View × Nat) :
    xs.foldl (xopTrack cfg i) p = (strip xs).foldl (fun p op => xopTrack cfg i p (.base op)) p := by
  induction xs generalizing p with
  | nil => rfl
  | cons x rest ih =>
    have hrest : ∀ y ∈ rest, XOp.hits i y = false := fun y hy => hx y (List.mem_cons_of_mem _ hy)
    have hhit := hx x List.mem_cons_self
    cases x with
    | base op => exact ih hrest _
    | clear => cases hhit
    | del k key | stale k key g =>
      have : ¬ (k, key) = i := by simpa [XOp.hits] using hhit
      rw [List.foldl_cons, show xopTrack cfg i p _ = p by simp [xopTrack, xopView, this]]
      exact ih hrest p

/-- **outside_ops_on_others_invisible.**  Outside deletes and second-observer visits aimed at OTHER metrics cannot be
    seen from metric `i`: in every extended history without a `clear`, an outside delete of `i` or a stale visit of
    `i`, the registry entry, value, generation and `Recency` entry of `i` (and the clock) are those of the history
    with these operations removed — so every theorem above (`dropped_iff`, `kept_within_timeout`, `kept_if_updated`,
    `fresh_after_drop`, …) holds for `i` in such histories. -/
theorem outside_ops_on_others_invisible (cfg : Cfg) (hk : cfg.byKind = true) (i : Id) (xs : List XOp)
    (hx : ∀ x ∈ xs, XOp.hits i x = false) :
    view (xafter cfg xs) i = view (after cfg (strip xs)) i ∧ (xafter cfg xs).now = (after cfg (strip xs)).now :=
  Prod.mk.inj <| (track_xrun (init cfg) (wf_init cfg hk) xs i).trans <|
    (foldl_xopTrack_strip cfg i xs hx _).trans (track_after cfg hk i (strip xs)).symm

/-- in such a history the metric's registry entry, before and after the next observation, and the clock are those of
    the history `Recency` took part in -/
theorem observe_transfer (cfg : Cfg) (hk : cfg.byKind = true) (i : Id) (xs : List XOp)
    (hx : ∀ x ∈ xs, XOp.hits i x = false) :
    lookup (xafter cfg xs).metrics i = lookup (after cfg (strip xs)).metrics i
    ∧ lookup (step (xafter cfg xs) .observe).metrics i = lookup (step (after cfg (strip xs)) .observe).metrics i
    ∧ (xafter cfg xs).now = (after cfg (strip xs)).now := by
  have h1 := outside_ops_on_others_invisible cfg hk i xs hx
  have h2 : view (step (xafter cfg xs) .observe) i = view (step (after cfg (strip xs)) .observe) i := by
    rw [view_step _ (wf_xafter cfg hk xs), view_step _ (wf_after cfg hk _), xafter_cfg, after_cfg, h1.1, h1.2]
  exact ⟨lookup_of_view_eq h1.1, lookup_of_view_eq h2, h1.2⟩

/-- **dropped_iff_del_partial.**  `dropped_iff` for extended histories that never delete `i` from outside (deletes of
    other metrics, and second-observer visits of other metrics, anywhere). -/
theorem dropped_iff_del_partial (cfg : Cfg) (hk : cfg.byKind = true) (i : Id) (xs : List XOp)
    (hx : ∀ x ∈ xs, XOp.hits i x = false) (hreg : registered (xafter cfg xs) i) :
    ¬ registered (xstep (xafter cfg xs) (.base .observe)) i ↔
      ∃ T t, Covered cfg i.1 T ∧ IdleSince cfg i (strip xs) t ∧ T < (xafter cfg xs).now - t := by
  obtain ⟨e1, e2, en⟩ := observe_transfer cfg hk i xs hx
  rw [en]
  exact (not_congr (registered_congr e2)).trans (dropped_iff cfg hk i (strip xs) ((registered_congr e1).1 hreg))

/-- **kept_if_updated_del_partial.**  `kept_if_updated` for extended histories: a metric updated since the previous
    observation is kept with its full value and generation by the next observation, whatever else was deleted from
    outside — provided the history never removed THIS metric behind `Recency`'s back (no `clear`, no outside delete of
    it, no second-observer visit of it).  Without the proviso the statement is false: `kept_if_updated_del_false`. -/
theorem kept_if_updated_del_partial (cfg : Cfg) (hk : cfg.byKind = true) (k : Kind) (key : Key) (u : Upd)
    (pre mid : List XOp) (hpre : ∀ x ∈ pre, XOp.hits (k, key) x = false)
    (hmid : ∀ x ∈ mid, XOp.hits (k, key) x = false ∧ x ≠ .base .observe) :
    let s := xafter cfg (pre ++ XOp.base (.upd k key u) :: mid)
    registered s (k, key) ∧ lookup (xstep s (.base .observe)).metrics (k, key) = lookup s.metrics (k, key) := by
  intro s
  obtain ⟨e1, e2, _⟩ := observe_transfer cfg hk (k, key) (pre ++ XOp.base (.upd k key u) :: mid) fun x hxm => by
    rcases List.mem_append.mp hxm with h | h
    · exact hpre x h
    · rcases List.mem_cons.mp h with rfl | h
      · rfl
      · exact (hmid x h).1
  have hst : strip (pre ++ XOp.base (.upd k key u) :: mid) = strip pre ++ Op.upd k key u :: strip mid :=
    strip_append ..
  rw [hst] at e1 e2
  have hb := kept_if_updated cfg hk k key u (strip pre) (strip mid) fun op hop => by
    have hne := (hmid _ ((mem_strip op mid).mp hop)).2
    cases op with
    | reg k' key' => exact .inl rfl
    | upd k' key' u' => exact .inl rfl
    | adv n => exact .inr ⟨n, rfl⟩
    | observe => exact absurd rfl hne
  exact ⟨(registered_congr e1).2 hb.1, e2.trans (hb.2.trans e1.symm)⟩

/-- **never_dropped_uncovered_del.**  In EVERY extended history (outside deletes, clears and stale visits of the metric
    itself included): without a timeout, or for a kind outside the mask, no observation removes anything. -/
theorem never_dropped_uncovered_del (cfg : Cfg) (hk : cfg.byKind = true) (i : Id) (xs : List XOp)
    (h : cfg.timeout = none ∨ maskMatches cfg.mask i.1 = false) :
    lookup (xstep (xafter cfg xs) (.base .observe)).metrics i = lookup (xafter cfg xs).metrics i :=
  observe_uncovered _ (wf_xafter cfg hk xs) i (by rw [xafter_cfg]; exact h)

/-- the history of the finding: one update, an observation (entry `(1, 0)`), the metric deleted from outside and
    created again by one update (generation 1 again), the clock past the timeout -/
def orphanHistory (k : Kind) (key : Key) (u u' : Upd) (T : Nat) : List XOp :=
  [.base (.upd k key u), .base .observe, .del k key, .base (.upd k key u'), .base (.adv (T + 1))]

/-- **orphan_entry_drops_updated_metric — FINDING (K-C12-orphan-entry).**  For EVERY timeout `T`, covered kind, key and
    updates: after `update; observe; Registry::delete_*; update; clock + (T+1)` the metric is registered as a brand-new
    series (generation 1, value = zero + the one update) that was created AND updated after the previous observation —
    and the next observation deletes it: the entry `(1, 0)` that outlived the outside delete carries the new storage's
    generation.  Replayed on the real `Recency` + `Registry` (harness corpus-del=0). -/
theorem orphan_entry_drops_updated_metric (cfg : Cfg) (hk : cfg.byKind = true) (T : Nat) (k : Kind) (key : Key)
    (u u' : Upd) (hc : Covered cfg k T) :
    let s := xafter cfg (orphanHistory k key u u' T)
    lookup s.metrics (k, key) = some ⟨1, (Val.zero k).apply u'⟩ ∧
    ¬ registered (xstep s (.base .observe)) (k, key) := by
  intro s
  have hview : view s (k, key) = (some ⟨1, (Val.zero k).apply u'⟩, some (1, 0)) ∧ s.now = T + 1 :=
    Prod.mk.inj <| (track_xrun (init cfg) (wf_init cfg hk) (orphanHistory k key u u' T) (k, key)).trans <| by
      simp [orphanHistory, xopTrack, xopView, opView, fresh, obsView_first cfg k 0 T _ hc, view, init]
  refine ⟨congrArg Prod.fst hview.1, ?_⟩
  rw [registered_iff]
  show ¬ ∃ m, (view (step s .observe) (k, key)).1 = some m
  rw [view_step _ (wf_xafter cfg hk _), xafter_cfg, hview.1, hview.2]
  simp only [opView]
  have := obsView_expired cfg k (T + 1) T ⟨1, (Val.zero k).apply u'⟩ 0 hc (by omega)
  rw [this]
  rintro ⟨_, h⟩; cases h

/-- **kept_if_updated_del_false.**  "A metric updated since the previous observation is always kept" is FALSE of the
    code once the public `Registry::delete_*` is part of the histories (the negation of `kept_if_updated_del_partial`
    without its proviso). -/
theorem kept_if_updated_del_false :
    ¬ ∀ (cfg : Cfg), cfg.byKind = true → ∀ (k : Kind) (key : Key) (u : Upd) (pre mid : List XOp),
      (∀ x ∈ mid, x ≠ .base .observe) →
      registered (xstep (xafter cfg (pre ++ XOp.base (.upd k key u) :: mid)) (.base .observe)) (k, key) := by
  intro h
  have hc : Covered ({ mask := 7, timeout := some 10 } : Cfg) .counter 10 := ⟨rfl, by decide⟩
  have := (orphan_entry_drops_updated_metric { mask := 7, timeout := some 10 } rfl 10 .counter ['a'] (.inc 1) (.inc 1) hc).2
  apply this
  exact h { mask := 7, timeout := some 10 } rfl .counter ['a'] (.inc 1)
    [.base (.upd .counter ['a'] (.inc 1)), .base .observe, .del .counter ['a']] [.base (.adv 11)]
    (by intro x hx; simp at hx; subst hx; intro e; cases e)

/-- the same through two overlapping renders of the shipped exporter, at loop-iteration granularity: R2 takes its
    handle snapshot; R1 (the observation) drops the idle metric and removes its entry; R2's iteration for the key calls
    `should_store_*` with the old handle's generation -/
def overlapHistory (k : Kind) (key : Key) (u u' : Upd) (T : Nat) : List XOp :=
  [.base (.upd k key u), .base .observe, .base (.adv (T + 1)), .base .observe, .stale k key 1,
   .base (.adv (T + 1)), .base (.upd k key u')]

/-- **overlapping_render_orphans_entry — FINDING (K-C12-orphan-entry, second route).**  Kernel-evaluated witness
    (timeout 10, counter): after R1 dropped the idle counter, R2's `should_store_counter` with the generation of its
    snapshot handle answers "keep" for a metric that is no longer registered and re-creates the entry `(1, 11)`; the
    counter registered and incremented anew at t = 22 is deleted by the next observation.  Without R2's visit it is
    kept. -/
theorem overlapping_render_orphans_entry :
    let cfg : Cfg := { mask := 7, timeout := some 10 }
    let i : Id := (.counter, ['a'])
    view (xafter cfg ((overlapHistory .counter ['a'] (.inc 1) (.inc 1) 10).take 5)) i = (none, some (1, 11))
    ∧ lookup (xafter cfg (overlapHistory .counter ['a'] (.inc 1) (.inc 1) 10)).metrics i = some ⟨1, .c 1⟩
    ∧ ¬ registered (xstep (xafter cfg (overlapHistory .counter ['a'] (.inc 1) (.inc 1) 10)) (.base .observe)) i
    ∧ registered (xstep (xafter cfg ((overlapHistory .counter ['a'] (.inc 1) (.inc 1) 10).eraseIdx 4)) (.base .observe)) i := by
  decide +kernel

/-- non-vacuity of the partial theorems: a history with outside deletes of OTHER metrics (gauge under the same key,
    counter under another key), none of which hits counter `a`; counter `a` is kept with its full value -/
example :
    let cfg : Cfg := { mask := 7, timeout := some 10 }
    let xs : List XOp := [.base (.upd .gauge ['a'] (.set 1)), .base (.upd .counter ['a'] (.inc 1)), .base .observe,
      .del .gauge ['a'], .del .counter ['b'], .base (.upd .counter ['a'] (.inc 1)), .base (.adv 11)]
    (∀ x ∈ xs, XOp.hits (.counter, ['a']) x = false) ∧
    lookup (xstep (xafter cfg xs) (.base .observe)).metrics (.counter, ['a']) = some ⟨2, .c 2⟩ ∧
    lookup (xstep (xafter cfg xs) (.base .observe)).metrics (.gauge, ['a']) = none := by
  decide +kernel

/-- the early drop: re-created at t = 8, first seen at t = 9 (kept, the orphan's stamp 0 stays), deleted at t = 11
    after 2 ≤ 10 idle ticks; with two updates after the re-creation (generation 2 ≠ 1) the entry is refreshed and the
    metric is kept -/
example :
    let cfg : Cfg := { mask := 1, timeout := some 10 }
    let h (n : List XOp) : List XOp := [.base (.upd .counter ['a'] (.inc 1)), .base .observe, .del .counter ['a'],
      .base (.adv 8)] ++ n ++ [.base (.adv 1), .base .observe, .base (.adv 2)]
    ¬ registered (xstep (xafter cfg (h [.base (.upd .counter ['a'] (.inc 7))])) (.base .observe)) (.counter, ['a']) ∧
    registered (xstep (xafter cfg (h [.base (.upd .counter ['a'] (.inc 7)), .base (.upd .counter ['a'] (.inc 0))]))
      (.base .observe)) (.counter, ['a']) := by
  decide +kernel

/-- SOURCE FACT (regenerated from the repository on every run): `should_store` compares the stored generation with
    the generation its CALLER read earlier, and then deletes through a closure that is given the key only;
    `Registry::delete_counter/gauge/histogram` take the key only and do not look at a generation; the exporter's
    loops read the generation, then ask `should_store_*`, then read the value.  This is the read→delete window of
    `Model/IdleRace.lean`; a change that re-checks the generation under the shard lock changes these facts. -/
theorem src_idle_delete_unconditional :
    Generated.recency_should_store_same_gen = "*last_gen==gen"
    ∧ Generated.recency_should_store_delete_cond = "(now-*last_update)>idle_timeout&&delete_op(registry,key)"
    ∧ Generated.recency_should_store_calls =
        ["key,gen,registry,MetricKind::Counter,|registry,key|{registry.delete_counter(key)}",
         "key,gen,registry,MetricKind::Gauge,|registry,key|{registry.delete_gauge(key)}",
         "key,gen,registry,MetricKind::Histogram,|registry,key|{registry.delete_histogram(key)}"]
    ∧ Generated.registry_delete_sigs =
        ["&self,key:&K->bool:unconditional", "&self,key:&K->bool:unconditional", "&self,key:&K->bool:unconditional"]
    ∧ Generated.prom_counter_store_order = ["generation", "should_store", "value"]
    ∧ Generated.prom_gauge_store_order = ["generation", "should_store", "value"] :=
  ⟨rfl, rfl, rfl, rfl, rfl, rfl⟩

/-- SOURCE FACT (regenerated on every run) behind `XOp`: with no entry for the key `should_store` inserts
    `(gen, now)` and keeps — it never asks whether the key is still registered (`XOp.stale` on an absent metric);
    `Recency`'s public operations are `new` and the three `should_store_*`: none forgets an entry (`XOp.del` / `XOp.clear`
    leave `entries` alone); `Registry::clear` empties exactly the three metric maps. -/
theorem src_orphan_entry_shape :
    Generated.recency_should_store_none_arm = "entries.insert(key.clone(),(gen,now));false"
    ∧ Generated.recency_pub_fns = ["new", "should_store_counter", "should_store_gauge", "should_store_histogram"]
    ∧ Generated.registry_clear_fields = ["counters", "gauges", "histograms"] :=
  ⟨rfl, rfl, rfl⟩

/-- SOURCE FACT: every public constructor of the exporter reaches `Recency::new(clock, self.recency_mask,
    self.idle_timeout)` through `build_recorder` → `build_with_clock`, and none of `install`, `install_recorder`,
    `build`, `build_recorder` assigns the mask or the timeout on the way — the configuration driven through the
    `verif_build_with_clock` hook and `build_recorder()` is the one the HTTP-listener / push-gateway constructors use. -/
theorem src_prom_constructors_share_recency :
    Generated.prom_builder_recency_new_args = "clock,self.recency_mask,self.idle_timeout"
    ∧ Generated.prom_builder_constructors =
        ["install:build():as-configured", "install_recorder:build_recorder():as-configured",
         "build:build_recorder():as-configured", "build_recorder:build_with_clock(Clock::new()):as-configured"] :=
  ⟨rfl, rfl⟩

end MetricsVerif.C12
