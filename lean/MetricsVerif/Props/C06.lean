/-
C06 — the registry keeps exactly one storage per metric kind and key.

Model: `Model/Registry.lean` (sharded hash maps with raw-entry lookups, read section / write section with
re-check, delete / retain / clear / visit / handles; concurrent step machine with one step per lock section).

All theorems are for ANY key type with ANY `eqv`/`hash` satisfying `KeyLaws` (an equivalence whose classes
hash alike — what C03 establishes for `metrics::Key`), so equal-but-differently-built keys, keys sharing a
shard and keys sharing a full hash are all covered; for ANY shard count `> 0` (the code's `2^k` included);
for ALL op sequences (induction on the list) and ALL schedules of ANY number of threads (induction on the
schedule).
-/
import MetricsVerif.Proofs.Registry
import MetricsVerif.Proofs.RegistryClear
import MetricsVerif.Generated.SourceFacts

namespace MetricsVerif.C06
open MetricsVerif.Registry

variable {K : Type}

/-- a `retain` predicate must not tell equal keys apart (it is handed the stored key, which is whichever equal
    key created the entry) -/
def Respects (ko : KeyOps K) : Op K → Prop
  | .retain _ f => ∀ a b i, ko.eqv a b = true → f a i = f b i
  | _ => True

/-- `l` lists exactly the live keys of kind `kd`, each once, with their storages -/
def Listing (ko : KeyOps K) (s : Spec K) (kd : Kind) (l : List (K × Nat)) : Prop :=
  l.Pairwise (fun p q => ko.eqv p.1 q.1 = false) ∧
  ∀ k i, (∃ p ∈ l, ko.eqv k p.1 = true ∧ p.2 = i) ↔ s.map kd k = some i

/-- the answer `o` to `op` is what the abstract map `s` prescribes -/
def OutOK (ko : KeyOps K) (s : Spec K) : Op K → Out K → Prop
  | .goc kd k, o => o = (specStep ko s (.goc kd k)).2
  | .get kd k, o => o = .opt (s.map kd k)
  | .delete kd k, o => o = .bool (s.map kd k).isSome
  | .retain _ _, o => o = .unit
  | .clear, o => o = .unit
  | .visit kd, o => ∃ l, o = .listing l ∧ Listing ko s kd l
  | .handles kd, o => ∃ l, o = .listing l ∧ Listing ko s kd l

def OutsOK (ko : KeyOps K) : Spec K → List (Op K) → List (Out K) → Prop
  | _, [], [] => True
  | s, op :: ops, o :: os => OutOK ko s op o ∧ OutsOK ko (specStep ko s op).1 ops os
  | _, _, _ => False

theorem spec_ext {s t : Spec K} (h1 : s.map = t.map) (h2 : s.next = t.next) : s = t := by
  cases s; cases t; simp_all

theorem abs_ext {ko : KeyOps K} {r : Reg K} {t : Spec K} (h1 : ∀ kd k, readSection ko r kd k = t.map kd k)
    (h2 : r.next = t.next) : abs ko r = t :=
  spec_ext (funext fun kd => funext fun k => h1 kd k) h2

theorem abs_new (ko : KeyOps K) (count : Nat) : abs ko (Reg.new count : Reg K) = Spec.empty :=
  abs_ext (readSection_new ko count) rfl

/-- the write section alone (re-check included) already is the abstract get-or-create -/
theorem writeSection_refines {ko : KeyOps K} (L : KeyLaws ko) (r : Reg K) (hinv : Inv ko r) (kd : Kind) (k : K) :
    Inv ko (writeSection ko r kd k).1
    ∧ abs ko (writeSection ko r kd k).1 = (specStep ko (abs ko r) (.goc kd k)).1
    ∧ Out.id (writeSection ko r kd k).2 = (specStep ko (abs ko r) (.goc kd k)).2 := by
  cases hr : readSection ko r kd k with
  | some i =>
    have hm : (abs ko r).map kd k = some i := hr
    have hspec : specStep ko (abs ko r) (.goc kd k) = (abs ko r, .id i) := by simp only [specStep, hm]
    rw [write_present ko r kd k i hr, hspec]
    exact ⟨hinv, rfl, rfl⟩
  | none =>
    have hm : (abs ko r).map kd k = none := hr
    obtain ⟨winv, wid, wnext, wread⟩ := write_absent L r hinv kd k hr
    have hspec : specStep ko (abs ko r) (.goc kd k)
        = ({ map := fun kd' k' => if kd' = kd ∧ ko.eqv k k' = true then some r.next else readSection ko r kd' k',
             next := r.next + 1 }, .id r.next) := by simp only [specStep, hm]; rfl
    rw [hspec]
    exact ⟨winv, abs_ext wread wnext, congrArg Out.id wid⟩

theorem getOrCreate_eq_writeSection (ko : KeyOps K) (r : Reg K) (kd : Kind) (k : K) :
    getOrCreate ko r kd k = writeSection ko r kd k := getOrCreate_eq_write ko r kd k

theorem visit_listing {ko : KeyOps K} (L : KeyLaws ko) (r : Reg K) (hinv : Inv ko r) (kd : Kind) :
    Listing ko (abs ko r) kd (visit r kd) := by
  refine ⟨?_, ?_⟩
  · rw [visit_eq, List.pairwise_map]; exact entries_pairwise L r hinv kd
  · intro k i
    rw [← show readSection ko r kd k = (abs ko r).map kd k from rfl, ← entries_lookup L r hinv kd k i, visit_eq]
    constructor
    · intro ⟨p, hp, h1, h2⟩
      obtain ⟨e, he, rfl⟩ := List.mem_map.mp hp
      exact ⟨e, he, h1, h2⟩
    · intro ⟨e, he, h1, h2⟩
      exact ⟨(e.key, e.id), List.mem_map.mpr ⟨e, he, rfl⟩, h1, h2⟩

/-- **one step refines the abstract map**: the invariant is kept, the abstraction commutes, the answer is the
    abstract answer -/
theorem step_refines {ko : KeyOps K} (L : KeyLaws ko) (r : Reg K) (hinv : Inv ko r) (op : Op K)
    (hop : Respects ko op) :
    Inv ko (step ko r op).1 ∧ abs ko (step ko r op).1 = (specStep ko (abs ko r) op).1
    ∧ OutOK ko (abs ko r) op (step ko r op).2 := by
  cases op with
  | goc kd k =>
    rw [step_goc, getOrCreate_eq_write]
    exact writeSection_refines L r hinv kd k
  | get kd k => exact ⟨hinv, rfl, rfl⟩
  | delete kd k =>
    rw [step_delete]
    exact ⟨sub_inv hinv (delete_sub ko r kd k), abs_ext (read_after_delete L r hinv kd k) (delete_next ko r kd k),
      congrArg Out.bool (delete_out ko r kd k)⟩
  | retain kd f =>
    exact ⟨sub_inv hinv (retain_sub r kd f), abs_ext (read_after_retain L r hinv kd f hop) (set_next ..), rfl⟩
  | clear => exact ⟨sub_inv hinv (clear_sub r), abs_ext (read_after_clear ko r) rfl, rfl⟩
  | visit kd => exact ⟨hinv, rfl, _, rfl, visit_listing L r hinv kd⟩
  | handles kd => exact ⟨hinv, rfl, _, rfl, handles_eq_visit L r hinv kd ▸ visit_listing L r hinv kd⟩

/-- **refinement, any op sequence from any good state** -/
theorem run_refines {ko : KeyOps K} (L : KeyLaws ko) (ops : List (Op K)) :
    ∀ r, Inv ko r → (∀ op ∈ ops, Respects ko op) →
      Inv ko (runOps ko r ops).1 ∧ abs ko (runOps ko r ops).1 = runSpec ko (abs ko r) ops
      ∧ OutsOK ko (abs ko r) ops (runOps ko r ops).2 := by
  induction ops with
  | nil => intro r hinv _; exact ⟨hinv, rfl, trivial⟩
  | cons op ops ih =>
    intro r hinv hops
    obtain ⟨h1, h2, h3⟩ := step_refines L r hinv op (hops op (List.mem_cons_self))
    obtain ⟨g1, g2, g3⟩ := ih (step ko r op).1 h1 (fun o ho => hops o (List.mem_cons_of_mem _ ho))
    simp only [runOps, runSpec, OutsOK]
    rw [← h2]
    exact ⟨g1, g2, h3, g3⟩

/-- **registry_refines**: from a fresh registry with any positive shard count, every op sequence leaves the
    registry abstracting to what the abstract map semantics computes, and answers what it answers -/
theorem registry_refines {ko : KeyOps K} (L : KeyLaws ko) (count : Nat) (hc : 0 < count) (ops : List (Op K))
    (hops : ∀ op ∈ ops, Respects ko op) :
    abs ko (runOps ko (Reg.new count) ops).1 = runSpec ko Spec.empty ops
    ∧ OutsOK ko Spec.empty ops (runOps ko (Reg.new count) ops).2 := by
  have := run_refines L ops (Reg.new count) (new_inv ko count hc) hops
  rw [abs_new] at this
  exact ⟨this.2.1, this.2.2⟩

/-- states reachable from a fresh registry -/
def Reach (ko : KeyOps K) (r : Reg K) : Prop :=
  ∃ count ops, 0 < count ∧ (∀ op ∈ ops, Respects ko op) ∧ r = (runOps ko (Reg.new count) ops).1

theorem reach_inv {ko : KeyOps K} (L : KeyLaws ko) {r : Reg K} (h : Reach ko r) : Inv ko r := by
  obtain ⟨count, ops, hc, hops, rfl⟩ := h
  exact (run_refines L ops _ (new_inv ko count hc) hops).1

/-- **uniqueness**: in every reachable state a kind holds at most one entry per key class — counted over ALL
    shards -/
theorem at_most_one_entry {ko : KeyOps K} (L : KeyLaws ko) {r : Reg K} (h : Reach ko r) (kd : Kind) (k : K) :
    (entries r kd).countP (fun e => ko.eqv k e.key) ≤ 1 :=
  inv_unique L (reach_inv L h) kd k

/-- **kinds and keys never share storage**: two entries with the same storage are the same kind and equal keys -/
theorem never_share {ko : KeyOps K} (L : KeyLaws ko) {r : Reg K} (h : Reach ko r) (kd kd' : Kind)
    (e e' : Entry K) (he : e ∈ entries r kd) (he' : e' ∈ entries r kd') (hid : e.id = e'.id) :
    kd = kd' ∧ ko.eqv e.key e'.key = true := by
  obtain ⟨i, hi⟩ := (mem_entries r kd e).mp he
  obtain ⟨i', hi'⟩ := (mem_entries r kd' e').mp he'
  exact (reach_inv L h).idinj _ _ _ _ _ _ hi hi' hid

/-- after `get_or_create(k)` answered storage `i`, a lookup of `k` finds `i` -/
theorem goc_post {ko : KeyOps K} (L : KeyLaws ko) (r : Reg K) (hinv : Inv ko r) (kd : Kind) (k : K) :
    ∃ i, (step ko r (.goc kd k)).2 = .id i ∧ readSection ko (step ko r (.goc kd k)).1 kd k = some i := by
  rw [step_goc, getOrCreate_eq_write]
  exact ⟨_, rfl, write_finds L r hinv kd k⟩

/-- `op` may remove the entry of `(kd, k)` -/
def removes (ko : KeyOps K) (kd : Kind) (k : K) : Op K → Bool
  | .delete kd' k' => decide (kd' = kd) && ko.eqv k' k
  | .retain kd' _ => decide (kd' = kd)
  | .clear => true
  | _ => false

theorem stable_step {ko : KeyOps K} (L : KeyLaws ko) (r : Reg K) (hinv : Inv ko r) (op : Op K)
    (hop : Respects ko op) (kd : Kind) (k : K) (a : Nat) (h : readSection ko r kd k = some a)
    (hn : removes ko kd k op = false) : readSection ko (step ko r op).1 kd k = some a := by
  cases op with
  | goc kd' k' => rw [step_goc, getOrCreate_eq_write]; exact write_keeps L r hinv kd' k' h
  | delete kd' k' =>
    rw [step_delete, read_after_delete L r hinv, if_neg (fun c => by simp [removes, c.1, c.2] at hn)]
    exact h
  | retain kd' f =>
    show readSection ko (retain r kd' f).1 kd k = some a
    rw [read_after_retain L r hinv kd' f hop, if_neg (fun c => by simp [removes, c] at hn)]
    exact h
  | clear => cases hn
  | _ => exact h

theorem stable_run {ko : KeyOps K} (L : KeyLaws ko) (ops : List (Op K)) (kd : Kind) (k : K) (a : Nat) :
    ∀ r, Inv ko r → (∀ op ∈ ops, Respects ko op ∧ removes ko kd k op = false) →
      readSection ko r kd k = some a → readSection ko (runOps ko r ops).1 kd k = some a := by
  induction ops with
  | nil => intro r _ _ h; exact h
  | cons op ops ih =>
    intro r hinv hops h
    have ho := hops op (List.mem_cons_self)
    exact ih _ (step_refines L r hinv op ho.1).1 (fun o hmem => hops o (List.mem_cons_of_mem _ hmem))
      (stable_step L r hinv op ho.1 kd k a h ho.2)

/-- **equal keys hit the same storage until it is deleted**: a `get_or_create(k₁)`, then any operations that do not
    delete / retain / clear that kind-and-key, then a `get_or_create(k₂)` with `k₂ ≈ k₁` (built in any way):
    the second call is handed the very storage the first one was -/
theorem same_storage_until_deleted {ko : KeyOps K} (L : KeyLaws ko) (r : Reg K) (hinv : Inv ko r) (kd : Kind)
    (k₁ k₂ : K) (mid : List (Op K)) (heq : ko.eqv k₁ k₂ = true)
    (hmid : ∀ op ∈ mid, Respects ko op ∧ removes ko kd k₁ op = false) :
    (step ko (runOps ko (step ko r (.goc kd k₁)).1 mid).1 (.goc kd k₂)).2 = (step ko r (.goc kd k₁)).2 := by
  obtain ⟨i, h1, h2⟩ := goc_post L r hinv kd k₁
  have hinv1 := (step_refines L r hinv (.goc kd k₁) trivial).1
  have h3 := stable_run L mid kd k₁ i _ hinv1 hmid h2
  rw [← readSection_congr L _ kd heq] at h3
  rw [h1, step_goc]
  simp only [getOrCreate, h3]

theorem delete_exact {ko : KeyOps K} (L : KeyLaws ko) {r : Reg K} (h : Reach ko r) (kd : Kind) (k : K) :
    (delete ko r kd k).2 = (readSection ko r kd k).isSome
    ∧ ∀ kd' k', readSection ko (delete ko r kd k).1 kd' k'
        = if kd' = kd ∧ ko.eqv k k' = true then none else readSection ko r kd' k' :=
  ⟨delete_out ko r kd k, read_after_delete L r (reach_inv L h) kd k⟩

/-- retain keeps exactly the entries its predicate accepts, and shows the predicate every live entry once -/
theorem retain_exact {ko : KeyOps K} (L : KeyLaws ko) {r : Reg K} (h : Reach ko r) (kd : Kind) (f : K → Nat → Bool)
    (hf : ∀ a b i, ko.eqv a b = true → f a i = f b i) :
    (∀ kd' k', readSection ko (retain r kd f).1 kd' k'
        = if kd' = kd then (readSection ko r kd' k').filter (f k') else readSection ko r kd' k')
    ∧ Listing ko (abs ko r) kd (retain r kd f).2 := by
  refine ⟨read_after_retain L r (reach_inv L h) kd f hf, ?_⟩
  rw [retain_calls]; exact visit_listing L r (reach_inv L h) kd

theorem clear_exact (ko : KeyOps K) (r : Reg K) (kd : Kind) (k : K) : readSection ko (clear r) kd k = none :=
  read_after_clear ko r kd k

/-- listings and visits of a reachable state report exactly the live keys, each once; and the snapshot map of
    `get_*_handles` is that visit -/
theorem listings_exact {ko : KeyOps K} (L : KeyLaws ko) {r : Reg K} (h : Reach ko r) (kd : Kind) :
    Listing ko (abs ko r) kd (visit r kd) ∧ handles ko r kd = visit r kd :=
  ⟨visit_listing L r (reach_inv L h) kd, handles_eq_visit L r (reach_inv L h) kd⟩

/-- `op` makes the storage factory create a storage: a get-or-create of an absent key -/
def creates (s : Spec K) : Op K → Bool
  | .goc kd k => (s.map kd k).isNone
  | _ => false

def countCreates (ko : KeyOps K) : Spec K → List (Op K) → Nat
  | _, [] => 0
  | s, op :: ops => (if creates s op then 1 else 0) + countCreates ko (specStep ko s op).1 ops

theorem specStep_next (ko : KeyOps K) (s : Spec K) (op : Op K) :
    (specStep ko s op).1.next = s.next + (if creates s op then 1 else 0) := by
  cases op with
  | goc kd k => cases hm : s.map kd k <;> simp only [specStep, creates, hm] <;> rfl
  | _ => rfl

theorem spec_next (ko : KeyOps K) (ops : List (Op K)) :
    ∀ s : Spec K, (runSpec ko s ops).next = s.next + countCreates ko s ops := by
  induction ops with
  | nil => intro s; rfl
  | cons op ops ih => intro s; rw [runSpec, countCreates, ih, specStep_next, Nat.add_assoc]

/-- **one storage per lifetime**: the number of storages ever created is the number of get-or-create calls that
    found their key absent (i.e. that started a lifetime); no other operation creates one -/
theorem storages_created {ko : KeyOps K} (L : KeyLaws ko) (count : Nat) (hc : 0 < count) (ops : List (Op K))
    (hops : ∀ op ∈ ops, Respects ko op) :
    (runOps ko (Reg.new count) ops).1.next = countCreates ko Spec.empty ops := by
  have h := (registry_refines L count hc ops hops).1
  have h2 := spec_next ko ops Spec.empty
  rw [← h] at h2
  simpa [abs, Spec.empty] using h2

theorem calls_respect (ko : KeyOps K) (l : List (LogEntry K)) : ∀ op ∈ logOps l, Respects ko op := by
  intro op hop
  obtain ⟨e, _, rfl⟩ := List.mem_map.mp hop
  cases e.call <;> trivial

/-- **a concurrent run is the sequential run of its calls in the order they took effect** (each call at its
    successful read section, else at its write section; delete and get at their only section): same final
    registry, same answers.  Any number of threads, any programs, any schedule; needs no assumption on keys. -/
theorem concurrent_is_sequential (ko : KeyOps K) (count : Nat) (progs : List (List (Call K))) (sched : List Nat) :
    runOps ko (Reg.new count) (logOps (run ko (Sys.init count progs) sched).log)
      = ((run ko (Sys.init count progs) sched).reg, logOuts (run ko (Sys.init count progs) sched).log) := by
  obtain ⟨new, h1, h2⟩ := run_seq ko sched (Sys.init count progs)
  have : (Sys.init count progs : Sys K).log = [] := rfl
  rw [this, List.nil_append] at h1
  rw [h1]; exact h2

/-- what a thread has been answered is its part of that order, and its logged calls are the consumed prefix of
    its program in program order -/
theorem thread_results_logged (ko : KeyOps K) (count : Nat) (progs : List (List (Call K))) (sched : List Nat)
    (tid : Nat) (t : Thread K) (ht : (run ko (Sys.init count progs) sched).threads[tid]? = some t) :
    t.results = ((run ko (Sys.init count progs) sched).log.filter (fun e => e.tid == tid)).map (·.res)
    ∧ ((run ko (Sys.init count progs) sched).log.filter (fun e => e.tid == tid)).map (·.call) ++ t.calls
        = progs.getD tid [] :=
  run_logInv ko progs sched _ (init_logInv count progs) tid t ht

/-- **no duplicate entry, ever**: the invariant (one entry per kind and key class, placed by its hash, storages
    not shared) holds after every schedule -/
theorem concurrent_inv {ko : KeyOps K} (L : KeyLaws ko) (count : Nat) (hc : 0 < count)
    (progs : List (List (Call K))) (sched : List Nat) : Inv ko (run ko (Sys.init count progs) sched).reg := by
  have h := concurrent_is_sequential ko count progs sched
  have := (run_refines L (logOps (run ko (Sys.init count progs) sched).log) (Reg.new count)
    (new_inv ko count hc) (calls_respect ko _)).1
  rw [h] at this; exact this

theorem concurrent_unique {ko : KeyOps K} (L : KeyLaws ko) (count : Nat) (hc : 0 < count)
    (progs : List (List (Call K))) (sched : List Nat) (kd : Kind) (k : K) :
    (entries (run ko (Sys.init count progs) sched).reg kd).countP (fun e => ko.eqv k e.key) ≤ 1 :=
  inv_unique L (concurrent_inv L count hc progs sched) kd k

/-- **linearization**: the registry abstracts to the abstract map after the logged calls, and every logged answer
    is the abstract map's answer at that point -/
theorem concurrent_linearizes {ko : KeyOps K} (L : KeyLaws ko) (count : Nat) (hc : 0 < count)
    (progs : List (List (Call K))) (sched : List Nat) :
    abs ko (run ko (Sys.init count progs) sched).reg = runSpec ko Spec.empty (logOps (run ko (Sys.init count progs) sched).log)
    ∧ OutsOK ko Spec.empty (logOps (run ko (Sys.init count progs) sched).log)
        (logOuts (run ko (Sys.init count progs) sched).log) := by
  have h := concurrent_is_sequential ko count progs sched
  have := registry_refines L count hc _ (calls_respect ko (run ko (Sys.init count progs) sched).log)
  rw [h] at this; exact this

/-- **one storage per lifetime, concurrently**: storages created = logged get-or-creates that found the key absent -/
theorem concurrent_storages_created {ko : KeyOps K} (L : KeyLaws ko) (count : Nat) (hc : 0 < count)
    (progs : List (List (Call K))) (sched : List Nat) :
    (run ko (Sys.init count progs) sched).reg.next
      = countCreates ko Spec.empty (logOps (run ko (Sys.init count progs) sched).log) := by
  have h := concurrent_is_sequential ko count progs sched
  have := storages_created L count hc _ (calls_respect ko (run ko (Sys.init count progs) sched).log)
  rw [h] at this; exact this

theorem toOut_inj {a b : Res} (h : (a.toOut : Out K) = b.toOut) : a = b := by
  cases a <;> cases b <;> simp [Res.toOut] at h <;> simp [h]

/-- the answer logged for an entry is the sequential answer in the state reached by the entries before it -/
theorem log_entry_step (ko : KeyOps K) (r r' : Reg K) (pre post : List (LogEntry K)) (e : LogEntry K)
    (h : runOps ko r (logOps (pre ++ e :: post)) = (r', logOuts (pre ++ e :: post))) :
    (step ko (runOps ko r (logOps pre)).1 e.call.toOp).2 = e.res.toOut := by
  simp only [logOps, logOuts, List.map_append, List.map_cons] at h
  rw [runOps_mid] at h
  have hl : (runOps ko r (pre.map fun e => e.call.toOp)).2.length
      = (pre.map fun e : LogEntry K => (e.res.toOut : Out K)).length := by
    rw [runOps_length, List.length_map, List.length_map]
  exact (List.cons.inj (List.append_inj (Prod.mk.inj h).2 hl).2).1

/-- **every get-or-create returns the storage that is in the map at its linearization point** -/
theorem goc_returns_current {ko : KeyOps K} (L : KeyLaws ko) (count : Nat) (hc : 0 < count)
    (progs : List (List (Call K))) (sched : List Nat) (pre post : List (LogEntry K)) (e : LogEntry K)
    (kd : Kind) (k : K) (hlog : (run ko (Sys.init count progs) sched).log = pre ++ e :: post)
    (hcall : e.call = .goc kd k) :
    ∃ i, e.res = .id i ∧ readSection ko (runOps ko (Reg.new count) (logOps (pre ++ [e]))).1 kd k = some i := by
  have h := concurrent_is_sequential ko count progs sched
  rw [hlog] at h
  have hs := log_entry_step ko _ _ pre post e h
  have hinv := (run_refines L (logOps pre) (Reg.new count) (new_inv ko count hc) (calls_respect ko pre)).1
  rw [hcall] at hs
  obtain ⟨i, h1, h2⟩ := goc_post L _ hinv kd k
  refine ⟨i, toOut_inj (b := .id i) (hs.symm.trans h1), ?_⟩
  rw [show logOps (pre ++ [e]) = logOps pre ++ [Op.goc kd k] by
    simp only [logOps, List.map_append, List.map_cons, List.map_nil, hcall]; rfl, runOps_mid]
  exact h2

/-- **racing creators agree**: two get-or-creates of equal keys (on any threads, built in any way) are handed the
    same storage unless a delete of that kind-and-key took effect between them -/
theorem racing_creators_agree {ko : KeyOps K} (L : KeyLaws ko) (count : Nat) (hc : 0 < count)
    (progs : List (List (Call K))) (sched : List Nat) (pre mid post : List (LogEntry K)) (e₁ e₂ : LogEntry K)
    (kd : Kind) (k₁ k₂ : K)
    (hlog : (run ko (Sys.init count progs) sched).log = pre ++ e₁ :: (mid ++ e₂ :: post))
    (h₁ : e₁.call = .goc kd k₁) (h₂ : e₂.call = .goc kd k₂) (heq : ko.eqv k₁ k₂ = true)
    (hmid : ∀ m ∈ mid, removes ko kd k₁ m.call.toOp = false) : e₁.res = e₂.res := by
  have h := concurrent_is_sequential ko count progs sched
  rw [hlog] at h
  have hs1 := log_entry_step ko _ _ pre _ e₁ h
  rw [show pre ++ e₁ :: (mid ++ e₂ :: post) = (pre ++ e₁ :: mid) ++ e₂ :: post by simp] at h
  have hs2 := log_entry_step ko _ _ _ post e₂ h
  have hinv := (run_refines L (logOps pre) (Reg.new count) (new_inv ko count hc) (calls_respect ko pre)).1
  have key := same_storage_until_deleted L _ hinv kd k₁ k₂ (logOps mid) heq (fun op hop =>
    ⟨calls_respect ko mid op hop, by obtain ⟨m, hm, rfl⟩ := List.mem_map.mp hop; exact hmid m hm⟩)
  -- the state `e₂` was answered in is the one `e₁`'s call and then `mid` left
  rw [show logOps (pre ++ e₁ :: mid) = logOps pre ++ e₁.call.toOp :: logOps mid by
    simp only [logOps, List.map_append, List.map_cons], runOps_mid, h₁, h₂] at hs2
  rw [h₁] at hs1
  exact (toOut_inj ((hs2.symm.trans key).trans hs1)).symm

/-- **a sweep waits** (the first branch of `sweepRun`, read back): at a shard whose lock another thread holds in a
    conflicting mode the sweep neither touches the registry nor moves on — it stays before that shard
    (`RwLock::read/write` block; no shard is skipped) -/
theorem sweep_waits (c : LCall K) (hold : Bool) (others : List Lock) (fuel : Nat) (r : Reg K)
    (acc : List (K × Nat)) (kd : Kind) (idx : Nat)
    (h : mustWait others { kd, idx, write := c.sweepWrite } = true) :
    sweepRun c hold others (fuel + 1) r acc kd idx = (r, acc, .waiting kd idx) := by
  simp [sweepRun, h]

/-- the section of `clear` on a shard leaves that shard empty (the `clear` arm of `sweepSection`, read back through
    `Reg.get`) -/
theorem clear_section_empties (r : Reg K) (kd : Kind) (idx : Nat) (sh : Shard K) (acc : List (K × Nat))
    (hlt : idx < (r.get kd).length) :
    ((sweepSection (.clear : LCall K) r kd idx sh acc).1.get kd).getD idx [] = [] := by
  simp [sweepSection, Reg.setIdx, get_set, List.getD, getElem?_setAt, hlt]

/-- one token of any thread of the lock-aware machine keeps the registry invariant, whatever locks the others hold -/
theorem lstepThread_inv {ko : KeyOps K} (L : KeyLaws ko) (r : Reg K) (hinv : Inv ko r) (others : List Lock)
    (t : LThread K) : Inv ko (lstepThread ko r others t).1 :=
  lstepThread_cases t (fun o => Inv ko o.1) (fun _ _ => hinv) (fun _ => hinv)
    (fun kd k _ _ => (writeSection_refines L r hinv kd k).1) (fun kd k _ => sub_inv hinv (delete_sub ko r kd k))
    (fun c hold acc kd idx _ _ => sub_inv hinv (sweepRun_sub c hold others _ r acc kd idx))

theorem lstep_inv {ko : KeyOps K} (L : KeyLaws ko) (s : LSys K) (hinv : Inv ko s.reg) (tid : Nat) :
    Inv ko (lstep ko s tid).reg := by
  unfold lstep
  split
  · exact hinv
  · exact lstepThread_inv L s.reg hinv _ _

/-- **no duplicate entry under sweeps and held locks, ever**: creators, getters, deleters, `clear`, `retain_*`,
    `visit_*` on any number of threads, callbacks parked under shard locks, sweeps waiting for them — after every
    schedule each kind holds at most one entry per key class, placed by its hash, storages not shared -/
theorem lrun_inv {ko : KeyOps K} (L : KeyLaws ko) (count : Nat) (hc : 0 < count) (progs : List (List (LCall K)))
    (sched : List Nat) : Inv ko (lrun ko (LSys.init count progs) sched).reg :=
  lrun_keeps (P := fun s => Inv ko s.reg) (fun s tid h => lstep_inv L s h tid) sched _ (new_inv ko count hc)

theorem lrun_unique {ko : KeyOps K} (L : KeyLaws ko) (count : Nat) (hc : 0 < count) (progs : List (List (LCall K)))
    (sched : List Nat) (kd : Kind) (k : K) :
    (entries (lrun ko (LSys.init count progs) sched).reg kd).countP (fun e => ko.eqv k e.key) ≤ 1 :=
  inv_unique L (lrun_inv L count hc progs sched) kd k

/-- a run of sweep sections never adds an entry and never makes a storage: what is registered afterwards was
    registered before (shard by shard a sublist), so a sweep cannot resurrect or duplicate anything -/
theorem sweep_only_removes (c : LCall K) (hold : Bool) (others : List Lock) (fuel : Nat) (r : Reg K)
    (acc : List (K × Nat)) (kd : Kind) (idx : Nat) : Sub (sweepRun c hold others fuel r acc kd idx).1 r :=
  sweepRun_sub c hold others fuel r acc kd idx

/-- **a completed `clear()` has removed every entry older than its call.**  Thread `tid` stands at the beginning of a
    `clear()` call (`pc = sweep counter 0`; `rest` are its calls after it) in ANY state `s0` of the lock-aware machine
    with well-formed shard vectors; `n0 = s0.reg.next` storages have been made so far, so every entry registered at
    that moment carries a storage id `< n0` and every later one an id `≥ n0`.  Then after ANY schedule of ANY number of
    threads running creators / getters / deleters / other sweeps, with callbacks parked under shard locks and `clear`
    waiting for them as often as it must: once the call has returned (the thread has moved past it), no entry with
    a storage id `< n0` is registered under any kind — everything older than the call is gone, and since storage ids
    are never handed out twice (`Inv.fresh`) none of it can come back.  Needs no assumption on the keys. -/
theorem clear_removes_older (ko : KeyOps K) (s0 : LSys K) (hlen : Lens s0.reg) (tid : Nat) (t0 : LThread K)
    (rest : List (LCall K)) (ht0 : s0.threads[tid]? = some t0) (hcalls : t0.calls = LCall.clear :: rest)
    (hpc : t0.pc = .sweep .counter 0) (sched : List Nat) (t1 : LThread K)
    (ht1 : (lrun ko s0 sched).threads[tid]? = some t1) (hdone : t1.calls.length ≤ rest.length)
    (kd : Kind) (e : Entry K) (he : e ∈ entries (lrun ko s0 sched).reg kd) : s0.reg.next ≤ e.id := by
  have h0 : ClearInv ko s0.reg.next rest tid s0 :=
    ⟨hlen, Nat.le_refl _, t0, ht0, Or.inr ⟨hcalls, .counter, 0, hpc, Nat.succ_pos _,
      fun kd i e _ h => absurd (walkPos_start _ ▸ h) (Nat.not_lt_zero _)⟩⟩
  have h1 := lrun_keeps (P := ClearInv ko s0.reg.next rest tid) (fun _ t h => clearInv_lstep h t) sched s0 h0
  obtain ⟨t, ht, hcase⟩ := h1.thr
  rw [ht1] at ht
  cases ht
  rcases hcase with ⟨_, hnb⟩ | ⟨hc, _⟩
  · obtain ⟨i, hat⟩ := (mem_entries _ kd e).mp he
    exact hnb kd i e hat (walkPos_lt kd (h1.lens kd ▸ at_lt hat))
  · rw [hc, List.length_cons] at hdone
    omega

/-- the same from a fresh registry: `pre` is any schedule up to the moment the call begins, `post` any schedule after
    which the call has returned -/
theorem clear_removes_older_reachable (ko : KeyOps K) (count : Nat) (hc : 0 < count) (progs : List (List (LCall K)))
    (pre post : List Nat) (tid : Nat) (t0 : LThread K) (rest : List (LCall K))
    (ht0 : (lrun ko (LSys.init count progs) pre).threads[tid]? = some t0) (hcalls : t0.calls = LCall.clear :: rest)
    (hpc : t0.pc = .sweep .counter 0) (t1 : LThread K)
    (ht1 : (lrun ko (LSys.init count progs) (pre ++ post)).threads[tid]? = some t1)
    (hdone : t1.calls.length ≤ rest.length) (kd : Kind) (e : Entry K)
    (he : e ∈ entries (lrun ko (LSys.init count progs) (pre ++ post)).reg kd) :
    (lrun ko (LSys.init count progs) pre).reg.next ≤ e.id := by
  have happ : lrun ko (LSys.init count progs) (pre ++ post) = lrun ko (lrun ko (LSys.init count progs) pre) post := by
    simp [lrun, List.foldl_append]
  rw [happ] at ht1 he
  have hlen : Lens (lrun ko (LSys.init count progs) pre).reg :=
    lrun_keeps (P := fun s => Lens s.reg) (fun s t h => lstep_lens s h t) pre _ (new_len count hc)
  exact clear_removes_older ko _ hlen tid t0 rest ht0 hcalls hpc post t1 ht1 hdone kd e he

/-- … said on the entries themselves: nothing that was registered when `clear()` was called is registered when it
    has returned (under the registry invariant storages are identified by their ids) -/
theorem clear_removes_entries_of_call_time {ko : KeyOps K} (s0 : LSys K) (hinv : Inv ko s0.reg) (tid : Nat)
    (t0 : LThread K) (rest : List (LCall K)) (ht0 : s0.threads[tid]? = some t0) (hcalls : t0.calls = LCall.clear :: rest)
    (hpc : t0.pc = .sweep .counter 0) (sched : List Nat) (t1 : LThread K)
    (ht1 : (lrun ko s0 sched).threads[tid]? = some t1) (hdone : t1.calls.length ≤ rest.length)
    (kd0 kd : Kind) (e0 e : Entry K) (he0 : e0 ∈ entries s0.reg kd0) (he : e ∈ entries (lrun ko s0 sched).reg kd) :
    e.id ≠ e0.id := by
  obtain ⟨i, hat⟩ := (mem_entries _ kd0 e0).mp he0
  have h1 := hinv.fresh kd0 i e0 hat
  have h2 := clear_removes_older ko s0 hinv.len tid t0 rest ht0 hcalls hpc sched t1 ht1 hdone kd e he
  omega

/-! ## two hashes: what lookups use and what a new entry is filed under (`Model/RegistryStore.lean`) -/

/-- with entries filed under the lookup hash, `so` is `⟨so.ko, so.ko.hash⟩` and the two-hash definitions unfold to
    those of `Model/Registry.lean` -/
theorem writeSectionS_coherent (so : StoreOps K) (hcoh : ∀ k, so.storeHash k = so.ko.hash k) (r : Reg K) (kd : Kind)
    (k : K) : writeSectionS so r kd k = writeSection so.ko r kd k := by
  obtain ⟨ko, sh⟩ := so
  cases (funext hcoh : sh = ko.hash)
  rfl

theorem stepS_coherent (so : StoreOps K) (hcoh : ∀ k, so.storeHash k = so.ko.hash k) (r : Reg K) (op : Op K) :
    stepS so r op = step so.ko r op := by
  obtain ⟨ko, sh⟩ := so
  cases (funext hcoh : sh = ko.hash)
  cases op <;> rfl

/-- **one hash, one model**: for a key type whose entries are filed under the hash they are looked up with (what
    `src_shipped_keys_one_hash` pins for `metrics::Key` and `DefaultHashable<H>`, and what holds for every key type once
    the insertion is `insert_with_hasher(hash, …, |k| k.hashable())`) the two-hash registry IS the registry of
    `Model/Registry.lean`: every theorem above speaks about it -/
theorem stored_hash_coherent_same (so : StoreOps K) (hcoh : ∀ k, so.storeHash k = so.ko.hash k) (ops : List (Op K)) :
    ∀ r, runOpsS so r ops = runOps so.ko r ops := by
  induction ops with
  | nil => intro r; rfl
  | cons op ops ih =>
    intro r
    simp only [runOpsS, runOps, stepS_coherent so hcoh, ih]

/-- "at most one entry per key" in the two-hash model when entries are filed under the hash they are looked up with
    (the insertion `src_insert_path` finds in the source) -/
theorem at_most_one_entry_partial {so : StoreOps K} (L : KeyLaws so.ko) (hcoh : ∀ k, so.storeHash k = so.ko.hash k)
    (count : Nat) (hc : 0 < count) (ops : List (Op K)) (hops : ∀ op ∈ ops, Respects so.ko op) (kd : Kind) (k : K) :
    (entries (runOpsS so (Reg.new count) ops).1 kd).countP (fun e => so.ko.eqv k e.key) ≤ 1 := by
  rw [stored_hash_coherent_same so hcoh]
  exact at_most_one_entry L ⟨count, ops, hc, hops, rfl⟩ kd k

def isGoc : Op K → Bool
  | .goc _ _ => true
  | _ => false

/-! With split hashes (`Split`: the hash an entry is filed under is never the lookup hash of an equal key), from a
state whose entries are all filed that way, whatever is registered: a get-or-create ALWAYS makes a new storage,
`get_*` finds nothing, `delete_*` reports `false` and removes nothing.  (What `or_insert_with` as the insertion call
does to a key type whose `Hashable::Hasher` is not the map's; the insertion of `src_insert_path` has no split hashes.) -/

theorem two_hash_goc {so : StoreOps K} (hsp : Split so) (r : Reg K) (hst : StoredBy so r) (kd : Kind) (k : K) :
    (getOrCreateS so r kd k).2 = r.next ∧ (getOrCreateS so r kd k).1.next = r.next + 1 := by
  simp only [getOrCreateS, readSection_none_of_split hsp r hst kd k, writeSectionS,
    lookup_none_of_split hsp r hst kd k, bump_next, setShard_next, and_self]

theorem two_hash_get {so : StoreOps K} (hsp : Split so) (r : Reg K) (hst : StoredBy so r) (kd : Kind) (k : K) :
    getExisting so.ko r kd k = none := readSection_none_of_split hsp r hst kd k

theorem two_hash_delete {so : StoreOps K} (hsp : Split so) (r : Reg K) (hst : StoredBy so r) (kd : Kind) (k : K) :
    delete so.ko r kd k = (r, false) := by
  simp only [delete, lookup_none_of_split hsp r hst kd k]

/-- so only a get-or-create calls the storage factory, and every one does -/
theorem two_hash_step {so : StoreOps K} (hsp : Split so) (r : Reg K) (hst : StoredBy so r) (op : Op K) :
    (stepS so r op).1.next = r.next + (if isGoc op then 1 else 0) := by
  cases op with
  | goc kd k => exact (two_hash_goc hsp r hst kd k).2
  | delete kd k => exact delete_next so.ko r kd k
  | retain kd f => exact set_next ..
  | _ => rfl

/-- **N get-or-creates, N storages**: with split hashes, after ANY op sequence from a fresh registry the storage
    factory has been called once per `get_or_create_*` CALL (not once per key lifetime, `storages_created`) — for one
    key registered N times there are N storages -/
theorem two_hash_every_goc_creates {so : StoreOps K} (hsp : Split so) (ops : List (Op K)) :
    ∀ r, Lens r → StoredBy so r → (runOpsS so r ops).1.next = r.next + ops.countP isGoc := by
  induction ops with
  | nil => intro r _ _; simp [runOpsS]
  | cons op ops ih =>
    intro r hlen hst
    obtain ⟨hl', hs'⟩ := stepS_keeps so r hlen hst op
    have h1 := two_hash_step hsp r hst op
    simp only [runOpsS, ih _ hl' hs', h1, List.countP_cons]
    omega

theorem two_hash_every_goc_creates_fresh {so : StoreOps K} (hsp : Split so) (count : Nat) (hc : 0 < count)
    (ops : List (Op K)) : (runOpsS so (Reg.new count) ops).1.next = ops.countP isGoc := by
  have := two_hash_every_goc_creates hsp ops (Reg.new count) (new_len count hc) (new_storedBy so count)
  simpa [Reg.new] using this

/-! ## source facts (tools/extract.py, regenerated from the repository on every run) -/

/-- **the insertion call is one the model follows, lookups use the precomputed hash**: every `get_or_create_*` fills
    the vacant raw entry by a call `insertViaOf` (`Model/RegistryStore.lean`) knows (in the source it is
    `insert_with_hasher(hash, …, |k| k.hashable())`: filed, and re-filed on a resize, under the looked-up hash), every
    raw-entry lookup in the file is `from_key_hashed_nocheck(hash, key)` and there is no other kind of lookup, and
    `hash` is `key.hashable()` in all three shard selectors -/
theorem src_insert_path :
    (insertViaOf Generated.reg_goc_insert_calls).isSome = true
    ∧ Generated.reg_lookup_args.all (· == "hash, key") = true
    ∧ Generated.reg_lookup_args.length = 15
    ∧ Generated.reg_other_lookups = []
    ∧ Generated.reg_shard_hash_exprs = ["key.hashable()", "key.hashable()", "key.hashable()"] :=
  ⟨rfl, rfl, rfl, rfl, rfl⟩

/-- **the key types the crate ships have ONE hash**: the shard maps hash with `BuildHasherDefault<RegistryHasher>`,
    `RegistryHasher = KeyHasher`; `Hashable for Key` and `Hashable for DefaultHashable<H>` both declare
    `type Hasher = KeyHasher` and compute `hashable()` by `KeyHasher` (memoised for `Key`: C03); the trait's default
    `hashable()` runs `Self::Hasher` over `impl Hash` (so a third-party key with another `Hasher` has two hashes) -/
theorem src_shipped_keys_one_hash :
    Generated.reg_registry_hasher = "KeyHasher"
    ∧ Generated.reg_map_type = "HashMap<K, V, BuildHasherDefault<RegistryHasher>>"
    ∧ Generated.hashable_impls
        = [("Key", "KeyHasher", "{ self.get_hash() }"),
           ("DefaultHashable<H>", "KeyHasher",
            "{ let mut hasher = KeyHasher::default(); self.hash(&mut hasher); hasher.finish() }")]
    ∧ Generated.hashable_default_body
        = "{ let mut hasher = Self::Hasher::default(); self.hash(&mut hasher); hasher.finish() }" :=
  ⟨rfl, rfl, rfl, rfl⟩

/-- **a poisoned shard is recovered, never skipped**: each of the 21 lock calls of the file is directly followed by
    `.unwrap_or_else(PoisonError::into_inner)`; nothing matches on a lock result or asks `is_poisoned` -/
theorem src_poison_recovered :
    Generated.reg_lock_recover.all (· == ".unwrap_or_else(PoisonError::into_inner)") = true
    ∧ Generated.reg_lock_recover.length
        = Generated.reg_clear_locks.length + (Generated.reg_visit_locks.map List.length).sum
          + (Generated.reg_retain_locks.map List.length).sum + (Generated.reg_delete_locks.map List.length).sum
          + (Generated.reg_get_locks.map List.length).sum + (Generated.reg_goc_locks.map List.length).sum
    ∧ Generated.reg_poison_branches = [] :=
  ⟨rfl, rfl, rfl⟩

/-- **`get_*_handles` is one `visit_*` filling a fresh map** (`Registry.handles`), the three copies the same text -/
theorem src_handles_forward :
    Generated.reg_handles_copies_identical = true
    ∧ Generated.reg_handles_calls = [["visit_counters"], ["visit_gauges"], ["visit_histograms"]]
    ∧ Generated.reg_handles_body
        = "{ let mut KIND = HashMap::new(); self.visit_KIND(|k, v| { KIND.insert(k.clone(), v.clone()); }); KIND }" :=
  ⟨rfl, rfl, rfl⟩


/-- **every lock section waits**: `clear` walks counters, gauges, histograms and takes `write()` on each shard;
    `visit_*` take `read()`, `retain_*` and `delete_*` `write()`, `get_*` `read()`, `get_or_create_*` `read()` then
    `write()` — the modes of the model (`LCall.sweepWrite`, `lstepThread`) — and there is no `try_read` /
    `try_write` anywhere in the file: no function can skip a shard that is in use -/
theorem src_locks_block :
    Generated.reg_clear_loops = ["counters", "gauges", "histograms"]
    ∧ Generated.reg_clear_locks = ["write", "write", "write"]
    ∧ Generated.reg_visit_locks = [["read"], ["read"], ["read"]]
    ∧ Generated.reg_retain_locks = [["write"], ["write"], ["write"]]
    ∧ Generated.reg_delete_locks = [["write"], ["write"], ["write"]]
    ∧ Generated.reg_get_locks = [["read"], ["read"], ["read"]]
    ∧ Generated.reg_goc_locks = [["read", "write"], ["read", "write"], ["read", "write"]]
    ∧ Generated.reg_try_locks = [] :=
  ⟨rfl, rfl, rfl, rfl, rfl, rfl, rfl, rfl⟩

/-- the lock modes of the source are the ones the model's sweeps take -/
theorem src_sweep_modes :
    (Generated.reg_clear_locks.all (· == "write")) = (LCall.clear : LCall Nat).sweepWrite
    ∧ (Generated.reg_retain_locks.all (·.all (· == "write"))) = (LCall.retain .counter (fun _ _ => true) false : LCall Nat).sweepWrite
    ∧ (Generated.reg_visit_locks.all (·.all (· == "write"))) = (LCall.visit .counter false : LCall Nat).sweepWrite :=
  ⟨rfl, rfl, rfl⟩

/-- **the per-kind copies are one text**: the counter / gauge / histogram versions of `get_or_create_*`, `get_*`,
    `delete_*`, `visit_*`, `retain_*` and of the shard selection differ only in the kind's name, so the model's
    single `writeSection` / `readSection` / `delete` / sweep section speaks for all three -/
theorem src_kind_copies_identical :
    Generated.reg_goc_copies_identical = true ∧ Generated.reg_get_copies_identical = true
    ∧ Generated.reg_delete_copies_identical = true ∧ Generated.reg_visit_copies_identical = true
    ∧ Generated.reg_retain_copies_identical = true ∧ Generated.reg_shard_for_copies_identical = true :=
  ⟨rfl, rfl, rfl, rfl, rfl, rfl⟩

/-- **shard layout**: the shard count is `available_parallelism` (1 if unknown) rounded up to a power of two — never
    0 —, both constructors make exactly that many shards per kind and set `shard_mask = shard_count - 1`, and a
    shard is selected by `hash & shard_mask` (`Reg.new`, `shardOf`) -/
theorem src_shard_layout :
    Generated.reg_shard_count_body
      = "{ std::thread::available_parallelism().map(|x| x.get()).unwrap_or(1).next_power_of_two() }"
    ∧ Generated.reg_ctor_masks = ["shard_count - 1", "shard_count - 1"]
    ∧ Generated.reg_ctor_takes = ["shard_count shard_count shard_count", "shard_count shard_count shard_count"]
    ∧ Generated.reg_shard_index_exprs
      = ["hash as usize & self.shard_mask", "hash as usize & self.shard_mask", "hash as usize & self.shard_mask"] :=
  ⟨rfl, rfl, rfl, rfl⟩

/-- keys `(class, how it was built)`; classes 0 and 3 share their FULL hash, so they also share a shard -/
def exKo : KeyOps (Nat × Nat) := { eqv := fun a b => a.1 == b.1, hash := fun a => a.1 % 3 }

theorem exLaws : KeyLaws exKo := by
  refine ⟨?_, ?_, ?_, ?_⟩ <;> simp only [exKo, beq_iff_eq]
  · intro a; trivial
  · intro a b h; exact h.symm
  · intro a b c h1 h2; exact h1.trans h2
  · intro a b h; rw [h]

/-- sequential: equal keys built differently share a storage, a colliding key and another kind do not, delete
    is truthful, a re-created key gets a new storage, listings show each live key once -/
example :
    (runOps exKo (Reg.new 4)
      [.goc .counter (0, 0), .goc .counter (0, 1), .goc .counter (3, 0), .goc .gauge (0, 0), .visit .counter,
       .delete .counter (0, 1), .delete .counter (0, 0), .get .counter (3, 0), .goc .counter (0, 1),
       .handles .counter, .retain .counter (fun k _ => k.1 == 0), .visit .counter, .clear, .visit .gauge]).2
    = [.id 0, .id 0, .id 1, .id 2, .listing [((0, 0), 0), ((3, 0), 1)],
       .bool true, .bool false, .opt (some 1), .id 3,
       .listing [((3, 0), 1), ((0, 1), 3)], .unit, .listing [((0, 1), 3)], .unit, .listing []] := by decide +kernel

/-- concurrent: two creators of equal keys both miss in their read sections; the second write section finds the
    entry on its re-check and returns the same storage; one storage is created; a deleter then removes it -/
example :
    let s := run exKo (Sys.init 4 [[.goc .counter (0, 0)], [.goc .counter (0, 1)], [.delete .counter (0, 2)]])
      [0, 1, 0, 1, 0, 1, 2, 2]
    s.threads.map (·.results) = [[.id 0], [.id 0], [.bool true]] ∧ s.reg.next = 1 ∧ visit s.reg .counter = []
    ∧ s.log.map (·.tid) = [0, 1, 2] := by decide +kernel

/-- concurrent: a delete that takes effect between two creators separates their storages (the hypothesis of
    `racing_creators_agree` is needed) -/
example :
    let s := run exKo (Sys.init 2 [[.goc .counter (0, 0)], [.goc .counter (0, 1)], [.delete .counter (0, 2)]])
      [0, 1, 2, 0, 0, 2, 1, 1]
    s.threads.map (·.results) = [[.id 0], [.id 1], [.bool true]] ∧ s.reg.next = 2 := by decide +kernel

/-- lock-aware machine: a recorder is parked inside `op` under the read lock of its metric's shard; `clear`
    empties the shards before it and WAITS there (that entry and the one in the shard behind it are still
    registered, clear has not returned); when the
    recorder leaves, clear takes the shard and finishes: nothing is left -/
example :
    let r0 := (runOps exKo (Reg.new 4) [.goc .counter (1, 0), .goc .counter (2, 0)]).1
    let s0 : LSys (Nat × Nat) := { LSys.init 4 [[.clear], [.goc .counter (1, 1)]] with reg := r0 }
    let s1 := lrun exKo s0 [1, 1, 0, 0]
    let s2 := lrun exKo s1 [1, 0]
    (s1.threads.map (·.pc) = [.sweep .counter 1, .gocOp 0] ∧ visit s1.reg .counter = [((1, 0), 0), ((2, 0), 1)]
      ∧ s2.threads.map (·.pc) = [.done, .done] ∧ visit s2.reg .counter = []) := by decide +kernel

/-- a key type as in `exKo`, whose entries are filed under another hash than lookups use: a `Hashable` impl with
    `type Hasher = SomethingElse` and the trait's default `hashable()`, inserted by `or_insert_with`
    (`InsertVia.mapHasher`: the map's hasher decides; with `insert_with_hasher`, `src_insert_path`, the stored hash is
    the lookup hash and `exSo` describes no key type); equal keys still agree on BOTH hashes -/
def exSo : StoreOps (Nat × Nat) := { ko := exKo, storeHash := fun a => a.1 % 3 + 4 }

theorem exSo_split : Split exSo := by
  intro k k' _
  simp only [exSo, exKo]
  omega

/-- **"at most one storage per key" fails in the two-hash model for a key type whose stored hash is not its lookup
    hash** — the registry with `or_insert_with` as its insertion and a key type like `exSo`; not the registry whose
    insertion is the one of `src_insert_path`, for which `at_most_one_entry_partial` holds.  The same key registered
    twice gets two storages, is visited twice, `get_*` does not find it, `delete_*` answers `false`, and the snapshot
    map silently keeps one of the two storages.  (Harness stream T runs such a key type through the real registry and
    through this model with the insertion call the source names.) -/
theorem at_most_one_entry_fails_two_hash :
    ¬ (∀ (so : StoreOps (Nat × Nat)), KeyLaws so.ko → (∀ a b, so.ko.eqv a b = true → so.storeHash a = so.storeHash b) →
        ∀ (ops : List (Op (Nat × Nat))) (k : Nat × Nat),
          (entries (runOpsS so (Reg.new 4) ops).1 .counter).countP (fun e => so.ko.eqv k e.key) ≤ 1) := by
  intro h
  have := h exSo exLaws (by intro a b hab; simp only [exSo, exKo, beq_iff_eq] at hab; simp only [exSo, hab])
    [.goc .counter (0, 0), .goc .counter (0, 1)] (0, 0)
  revert this
  decide +kernel


/-- the witness in full -/
example :
    (runOpsS exSo (Reg.new 4)
      [.goc .counter (0, 0), .goc .counter (0, 1), .visit .counter, .get .counter (0, 0), .delete .counter (0, 0),
       .handles .counter, .clear, .visit .counter]).2
    = [.id 0, .id 1, .listing [((0, 0), 0), ((0, 1), 1)], .opt none, .bool false,
       .listing [((0, 0), 1)], .unit, .listing []] := by decide +kernel

/-- the same keys filed under their lookup hash: the one-hash model, one storage -/
example :
    (runOpsS { ko := exKo, storeHash := exKo.hash } (Reg.new 4)
      [.goc .counter (0, 0), .goc .counter (0, 1), .visit .counter, .get .counter (0, 0), .delete .counter (0, 0)]).2
    = [.id 0, .id 0, .listing [((0, 0), 0)], .opt (some 0), .bool true] := by decide +kernel

/-- `clear_removes_older` is not vacuous: a recorder creates key 1 and is parked inside `op` under the WRITE lock
    of its shard when `clear()` is called (2 storages made so far); `clear` empties shard 0 and waits at shard 1;
    meanwhile another thread registers a key in the already swept shard 0 (storage 2); the recorder leaves; `clear`
    finishes.  The call has returned, the entry made during the call is still registered (ids ≥ 2 may stay), nothing
    older is. -/
example :
    let r0 := (runOps exKo (Reg.new 4) [.goc .counter (2, 0)]).1
    let s0 : LSys (Nat × Nat) :=
      lrun exKo { LSys.init 4 [[.clear], [.goc .counter (1, 0)], [.goc .counter (0, 0)]] with reg := r0 } [1, 1, 1, 0]
    let s1 := lrun exKo s0 [0, 2, 2, 2, 2, 1, 0]
    (s0.threads.map (·.pc) = [.sweep .counter 0, .gocOp 1, .start] ∧ s0.reg.next = 2
      ∧ s1.threads.map (·.pc) = [.done, .done, .done] ∧ visit s1.reg .counter = [((0, 0), 2)]) := by decide +kernel

end MetricsVerif.C06
