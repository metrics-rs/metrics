/-
C05 — the lock-free bucket never loses, duplicates or invents a sample.

Step machine: `Model/Bucket.lean` (one step = one shared-memory operation; PC names = yield-point ids in bucket.rs), for
ANY block size `B` (64 in the source).  It follows the code as it is now: a new block is linked before the CAS that
publishes it, `is_empty` decides on claimed slots, `clear_with` retries its detach when the tail moved under it.
Every theorem is for every program list and EVERY schedule.

Pushers only: `pushers_conserved` (at quiescence a snapshot is a permutation of the pushed values),
`inflight_accounting`, `claimed_plus_todo`.

Any mix of pushers, snapshot readers, clearers and is_empty callers:
* `all_threads_structural`, `all_threads_claimed_plus_todo` — no slot is owned twice or overwritten, no push claims twice;
* `never_invents`, `never_duplicates` — callbacks are handed push arguments only; delivered + still visible never exceeds
  pushed (ghost ownership of blocks, `Proofs/BucketClear.lean`).
So the full statement can fail only by LOSS, and it does: `k1_straggler_lost` (known finding K-C05-K1).  The loss is
confined to one pattern, K1 = a pusher's slot claim landing on a block that a clear has already detached
(`stragglerClaims` counts these steps along a schedule; ghost counter, the step machine is untouched):
* `conservation_except_K1` (at quiescence; `…_perm`), `accounting_except_K1` (at every moment),
  `conservation_without_clears` (no clear, hence no K1 step);
* `K1_is_claim_on_unreachable_block`, `K1_has_detach_between`, `pusher_claims_on_the_tail_it_saw` — K1 in terms of the
  state alone and of the trace; `k1_straggler_is_K1` — the witness has exactly one K1 step, so the hypothesis is needed;
* `detach_cas_all_or_nothing`, `failed_detach_delivers_nothing_and_loses_nothing` — the detaching CAS of `clear_with` takes
  the WHOLE chain or, when the tail changed since the load, changes nothing and sends the clearer back to the tail load of
  the same call (`failed_detach_witness`); the `legacy_…` theorems are about a `clear_with` that gave up there instead;
* `delivered_once_tail_was_null`, `delivered_once_clear_returned` — without K1, what was published before a clear began
  has been delivered once that clear has returned and no clear is walking any more;
* `snapshot_complete_any`, `is_empty_complete_any` (and `snapshot_complete`, `is_empty_complete` without clears) — a
  `data_with` returns, and an `is_empty` notices, every value published and reachable from the tail when it loaded the tail.
The memory orderings (`publish_consume_no_race`, `src_no_early_read`) and the shape of the source (`src_…`) are separate
sections.
-/
import MetricsVerif.Proofs.BucketEmptyLive
import MetricsVerif.Proofs.BucketClients
import MetricsVerif.Proofs.MsgPass
import MetricsVerif.Proofs.SrcShapes
import MetricsVerif.Generated.SourceFacts

namespace MetricsVerif.C05
open MetricsVerif.Bucket

def pushVal : Call → Option Nat
  | .push v => some v
  | _ => none

theorem count_pushVal (l : List Call) (v : Nat) : (l.filterMap pushVal).count v = l.count (.push v) := by
  induction l with
  | nil => rfl
  | cons c cs ih => cases c <;> simp [List.filterMap_cons, pushVal, List.count_cons, ih]

theorem reachable_pinv (B : Nat) (progs : List (List Call)) (hp : PushOnly progs) (sched : List Nat) :
    PInv (run (init B progs) sched) := prun_inv sched _ (init_pinv B progs hp)

/-- **claimed + to-do is constant**: at every moment, for every value `v`, (slots holding `v`) + (pushes of `v`
    that have not claimed a slot yet) = (pushes of `v` in the programs).  So no push ever claims two slots, no
    slot is overwritten, and no slot holds anything but a push argument. -/
theorem claimed_plus_todo (B : Nat) (progs : List (List Call)) (hp : PushOnly progs) (sched : List Nat) (v : Nat) :
    cellsCount v (run (init B progs) sched) + todoSum v (run (init B progs) sched)
      = progs.flatten.count (.push v) := by
  rw [prun_vals v sched _ (init_pinv B progs hp), todoSum_init]
  simp [cellsCount, init]

/-- **in-flight accounting**: unpublished slots = pushers between slot write and publish, always -/
theorem inflight_accounting (B : Nat) (progs : List (List Call)) (hp : PushOnly progs) (sched : List Nat) :
    wSum (run (init B progs) sched) = pSum (run (init B progs) sched) := (reachable_pinv B progs hp sched).wp

/-- a reader never sees a slot before its publish step: `Block::data` is the all-published prefix, in claim
    (= push) order of that block -/
theorem data_is_published_prefix (b : Block) :
    ∃ rest, b.cells = (b.cells.takeWhile Cell.isPub) ++ rest
      ∧ b.data = (b.cells.takeWhile Cell.isPub).map Cell.val
      ∧ ∀ c ∈ b.cells.takeWhile Cell.isPub, c.isPub = true :=
  ⟨b.cells.dropWhile Cell.isPub, List.takeWhile_append_dropWhile.symm, rfl, List.all_eq_true.mp List.all_takeWhile⟩

/-- **conservation for concurrent pushers** (count form): when all pushers are done, a snapshot contains
    every value exactly as often as it was pushed -/
theorem pushers_conserved_count (B : Nat) (progs : List (List Call)) (hp : PushOnly progs) (sched : List Nat)
    (hq : quiescent (run (init B progs) sched) = true) (v : Nat) :
    (visible (run (init B progs) sched)).count v = progs.flatten.count (.push v) := by
  have h := reachable_pinv B progs hp sched
  have h1 := visible_count_of_quiescent _ h hq v
  have h2 := todoSum_zero_of_quiescent _ h hq v
  have h3 := claimed_plus_todo B progs hp sched v
  omega

/-- **conservation for concurrent pushers**: in every interleaving of any number of pushers (any block size,
    so any number of block hand-overs), once they are done a snapshot is a permutation of the pushed values —
    nothing lost, nothing duplicated, nothing invented -/
theorem pushers_conserved (B : Nat) (progs : List (List Call)) (hp : PushOnly progs) (sched : List Nat)
    (hq : quiescent (run (init B progs) sched) = true) :
    (visible (run (init B progs) sched)).Perm (progs.flatten.filterMap pushVal) := by
  rw [List.perm_iff_count]
  intro v
  rw [pushers_conserved_count B progs hp sched hq v, count_pushVal]

/-- ANY programs: no two threads ever own the same slot, every publishing thread's slot holds its own argument, unpublished
    slots = threads between slot write and publish -/
theorem all_threads_structural (B : Nat) (progs : List (List Call)) (sched : List Nat) :
    AInv (run (init B progs) sched) := (arun_inv2 sched _ (init_ainv2 B progs)).inv

/-- claimed + to-do is constant for ANY programs (pushers racing snapshots, clears and is_empty) -/
theorem all_threads_claimed_plus_todo (B : Nat) (progs : List (List Call)) (sched : List Nat) (v : Nat) :
    cellsCount v (run (init B progs) sched) + todoSum v (run (init B progs) sched)
      = progs.flatten.count (.push v) := by
  rw [arun_vals v sched _ (init_ainv2 B progs), todoSum_init]
  simp [cellsCount, init]

/-- slots holding `v` never outnumber the pushes of `v` -/
theorem never_invents_count (B : Nat) (progs : List (List Call)) (sched : List Nat) (v : Nat) :
    cellsCount v (run (init B progs) sched) ≤ progs.flatten.count (.push v) := by
  have := all_threads_claimed_plus_todo B progs sched v; omega

/-- **never invents**: whatever a snapshot or a clear hands to its callback — in any interleaving of any
    threads — is the argument of some push -/
theorem never_invents (B : Nat) (progs : List (List Call)) (sched : List Nat) (i : Nat) (t : Thread)
    (ht : (run (init B progs) sched).threads[i]? = some t) (v : Nat) (hv : v ∈ seenVals t) :
    Call.push v ∈ progs.flatten := by
  have h1 := arun_seen sched _ (init_ainv2 B progs) (init_seen B progs) i t ht v hv
  have h2 := never_invents_count B progs sched v
  exact List.count_pos_iff.mp (by omega)

/-- **never duplicates**: for ANY programs and EVERY schedule, at every moment and for every value, what the
    clears have delivered plus what a snapshot taken now could still see never exceeds the pushes of that value -/
theorem never_duplicates (B : Nat) (progs : List (List Call)) (sched : List Nat) (v : Nat) :
    (delivered (run (init B progs) sched)).count v + (visible (run (init B progs) sched)).count v
      ≤ progs.flatten.count (.push v) := by
  have h1 := delivered_visible_le_cells B progs sched v
  have h2 := never_invents_count B progs sched v
  omega

/-- the ownership invariant behind `never_duplicates` holds in every reachable state -/
theorem ownership_invariant (B : Nat) (progs : List (List Call)) (sched : List Nat) :
    GInv (run (init B progs) sched) (grun (init B progs) own0 sched).2 := reach_ginv B progs sched

/-- non-vacuity for `never_duplicates`: two clears and a pusher over a block hand-over (block size 1); the two
    clears deliver disjoint values and one value is still visible -/
example :
    let progs : List (List Call) := [[.push 1, .push 2, .push 3], [.clear], [.clear]]
    let s := run (init 1 progs) [0,0,0,0,0, 1,1,1,1,1,1, 0,0,0,0, 2,2,2,2,2,2,2, 0,0,0,0,0]
    delivered s = [1, 2] ∧ visible s = [3] ∧ quiescent s = true := by decide +kernel

/-- non-vacuity: a clearer and a snapshot reader racing two pushers (block size 2): the values seen are exactly
    push arguments, and the reachable state has seen something -/
example :
    let progs : List (List Call) := [[.push 1, .push 2], [.push 3], [.clear], [.data]]
    let s := run (init 2 progs) [0, 0, 0, 0, 0, 1, 1, 1, 1, 1, 3, 3, 3, 3, 3, 3, 3, 3, 2, 2, 2, 2, 2, 2, 2, 2, 0, 0, 0, 0, 0, 0, 0, 0]
    (s.threads.map seenVals) = [[], [], [1, 3], [1, 3]] ∧ quiescent s = true := by decide +kernel

/-- the full statement is FALSE of the code, a straggler push on a detached block (K-C05-K1): pusher 1 loads the tail, the
    clearer detaches the chain, waits for quiescence and reads it, then pusher 1 claims and publishes its slot in the
    detached block: its completed push is neither delivered nor visible.
    (Block size 2 keeps the kernel evaluation small; the schedule replayed on the real code uses 64.) -/
theorem k1_straggler_lost :
    let s := run (init 2 [[.push 1], [.push 2], [.clear]])
      [0, 1, 2, 0, 0, 0, 0, 1, 2, 2, 2, 2, 2, 1, 1]
    quiescent s = true
    ∧ completedPushes s = 2                      -- both pushes completed
    ∧ delivered s = [1]                          -- the clear got only the first
    ∧ visible s = [] := by decide +kernel                -- and the second is not visible either

/-! K1: the step a thread is about to take is a `pClaim blk` that really claims a slot (`write < B`) while block `blk`
is not `live` in the ghost ownership of `Proofs/BucketClear.lean`, i.e. a clear's detach CAS has taken it off the
tail since the pusher loaded (or installed) it: `Bucket.k1Step`.  `stragglerClaims` counts these steps. -/

/-- number of K1 steps (slot claims landing on an already detached block) in the run of `sched` -/
def stragglerClaims (B : Nat) (progs : List (List Call)) (sched : List Nat) : Nat :=
  k1Count (init B progs) own0 sched

/-- at quiescence every thread has run its whole program: all calls (in particular all pushes) have completed -/
theorem quiescent_all_calls_finished (B : Nat) (progs : List (List Call)) (sched : List Nat)
    (hq : quiescent (run (init B progs) sched) = true) :
    ∀ t ∈ (run (init B progs) sched).threads, t.pc = .done ∧ t.calls = [] :=
  calls_nil_of_quiescent B progs sched hq

/-- **conservation outside K1** (count form): for ANY programs — pushers, snapshot readers, is_empty callers and
    clearers, any number of threads and calls, any block size — and EVERY schedule in which no slot claim lands on an
    already detached block, once all calls have finished every value `v` satisfies
    (pushes of `v`) = (times `v` was handed to a clear callback, over all clears) + (times a snapshot taken now sees `v`).
    Nothing lost, nothing duplicated, nothing invented. -/
theorem conservation_except_K1 (B : Nat) (progs : List (List Call)) (sched : List Nat)
    (hk : stragglerClaims B progs sched = 0) (hq : quiescent (run (init B progs) sched) = true) (v : Nat) :
    progs.flatten.count (.push v)
      = (delivered (run (init B progs) sched)).count v + (visible (run (init B progs) sched)).count v :=
  (conserved_of_noK1 B progs sched hk hq v).symm

/-- **conservation outside K1**: what the clears were handed, together with what is still visible, is a permutation
    of the pushed values -/
theorem conservation_except_K1_perm (B : Nat) (progs : List (List Call)) (sched : List Nat)
    (hk : stragglerClaims B progs sched = 0) (hq : quiescent (run (init B progs) sched) = true) :
    (delivered (run (init B progs) sched) ++ visible (run (init B progs) sched)).Perm
      (progs.flatten.filterMap pushVal) := by
  rw [List.perm_iff_count]
  intro v
  rw [List.count_append, count_pushVal, conservation_except_K1 B progs sched hk hq v]

/-- programs in which no thread ever calls `clear` / `clear_with` -/
def NoClear (progs : List (List Call)) : Prop := ∀ p ∈ progs, Call.clear ∉ p

theorem no_K1_without_clears (B : Nat) (progs : List (List Call)) (hnc : NoClear progs) (sched : List Nat) :
    stragglerClaims B progs sched = 0 := k1Count_noclear sched _ (init_noclrS B progs hnc)

/-- **conservation without clears**: pushers racing snapshot readers and is_empty callers (any number, any schedule):
    once all calls have finished a snapshot returns exactly the pushed values (generalises `pushers_conserved`) -/
theorem conservation_without_clears (B : Nat) (progs : List (List Call)) (hnc : NoClear progs) (sched : List Nat)
    (hq : quiescent (run (init B progs) sched) = true) :
    (visible (run (init B progs) sched)).Perm (progs.flatten.filterMap pushVal) := by
  rw [List.perm_iff_count]
  intro v
  have h1 := conservation_except_K1 B progs sched (no_K1_without_clears B progs hnc sched) hq v
  have h2 := never_duplicates B progs sched v
  have h3 := delivered_zero_noclear B progs hnc sched v
  rw [count_pushVal]; omega

/-- **what K1 is, in terms of the state alone**: in any reachable state, thread `tid`'s next step is a K1 step iff the
    thread is parked at `blk.push.claim` for a block that still has a free slot (so the `fetch_add` claims one) and that
    is NOT reachable from the tail through `next` any more -/
theorem K1_is_claim_on_unreachable_block (B : Nat) (progs : List (List Call)) (sched : List Nat) (tid : Nat) :
    k1Step (run (init B progs) sched) (grun (init B progs) own0 sched).2 tid = true ↔
      ∃ t blk r, (run (init B progs) sched).threads[tid]? = some t ∧ t.pc = .pClaim blk r
        ∧ (getBlock (run (init B progs) sched) blk).write < (run (init B progs) sched).B
        ∧ onChain (run (init B progs) sched) blk = false :=
  k1Step_iff (ownership_invariant B progs sched) tid

/-- **what K1 is, in terms of the trace** (the signature of K-C05-K1): a pusher obtains the block of its claim only
    in a state whose tail is that block (`pusher_claims_on_the_tail_it_saw`); if later (after `mid`) its claim is a K1
    step, then a clear's successful detach CAS lies in `mid`, between the tail load / installing CAS and the claim -/
theorem K1_has_detach_between (B : Nat) (progs : List (List Call)) (pre mid : List Nat) (tid blk : Nat) (t : Thread)
    (r : Bool) (htail : (run (init B progs) pre).tail = some blk)
    (hg : (run (init B progs) (pre ++ mid)).threads[tid]? = some t) (hp : t.pc = .pClaim blk r)
    (hk : k1Step (run (init B progs) (pre ++ mid)) (grun (init B progs) own0 (pre ++ mid)).2 tid = true) :
    ∃ m1 c m2, mid = m1 ++ c :: m2 ∧ detachStep (run (init B progs) (pre ++ m1)) c :=
  k1_needs_detach B progs pre mid tid blk t r htail hg hp hk

/-- a thread arrives at `blk.push.claim` for block `blk` only by a step after which the tail IS `blk`: the tail load,
    the first-block CAS (won or lost) or the won hand-over CAS -/
theorem pusher_claims_on_the_tail_it_saw (s : Sys) (t : Thread) (blk : Nat) (r : Bool)
    (h : (stepThread s t).2.pc = .pClaim blk r) : (stepThread s t).1.tail = some blk :=
  claim_target_is_tail s t blk r h

/-- the number of published slots holding `v` IS the number of completed pushes of `v`: at every moment of any run,
    pushes of `v` in the programs = published slots + slots between slot write and publish + pushes that have not
    claimed a slot yet -/
theorem completed_pushes_are_published (B : Nat) (progs : List (List Call)) (sched : List Nat) (v : Nat) :
    pubCount v (run (init B progs) sched) + inFlight v (run (init B progs) sched)
      + todoSum v (run (init B progs) sched) = progs.flatten.count (.push v) := by
  have h1 := pubCount_add_inFlight v (run (init B progs) sched)
  have h2 := all_threads_claimed_plus_todo B progs sched v
  omega

/-- **conservation outside K1, at EVERY moment** (not only at quiescence): in a run of ANY programs without a K1 step,
    every completed push of `v` (published slot) is accounted for exactly once — it was handed to the callback of a
    finished clear (`delivered`), or of a clear that is still walking its chain (`inRunningClears`), or it sits in a
    block reachable from the tail (where every later snapshot / is_empty finds it once the slots below it are
    published: `snapshot_complete`, `data_only_grows`), or in a detached block that a running clear has not read yet
    (and will read only after it saw the block quiesced). Nothing else was ever handed to a clear. -/
theorem accounting_except_K1 (B : Nat) (progs : List (List Call)) (sched : List Nat)
    (hk : stragglerClaims B progs sched = 0) (v : Nat) :
    pubCount v (run (init B progs) sched)
      = (delivered (run (init B progs) sched)).count v + (inRunningClears (run (init B progs) sched)).count v
        + pubIn v isLive (grun (init B progs) own0 sched).2 (run (init B progs) sched)
        + pubIn v isDet (grun (init B progs) own0 sched).2 (run (init B progs) sched) := by
  rw [accounted_of_noK1 B progs sched hk v, Dsum_split]

/-- non-vacuity for `accounting_except_K1`: the run of the example below, stopped while clear #2 has read block 1
    (value 4) and waits on block 0 (value 1 published, value 2 in flight) -/
example :
    let progs : List (List Call) := [[.push 1, .push 2, .push 3], [.push 4], [.clear, .clear]]
    let sched := [0,0,0,0,0, 0,0, 2,2, 1,1,1,1,1, 2, 2,2,2,2, 1, 2,2,2,2]
    let s := run (init 2 progs) sched
    let own := (grun (init 2 progs) own0 sched).2
    stragglerClaims 2 progs sched = 0 ∧ quiescent s = false
    ∧ delivered s = [] ∧ inRunningClears s = [4] ∧ pubCount 4 s = 1
    ∧ pubCount 1 s = 1 ∧ pubIn 1 isDet own s = 1 ∧ pubIn 1 isLive own s = 0
    ∧ pubCount 2 s = 0 ∧ inFlight 2 s = 1 := by decide +kernel

/-- the hypothesis is needed, and the predicate flags the known finding: the schedule of `k1_straggler_lost` contains
    exactly one K1 step (pusher 1's claim, taken after the clear's detach CAS) -/
theorem k1_straggler_is_K1 :
    stragglerClaims 2 [[.push 1], [.push 2], [.clear]] [0, 1, 2, 0, 0, 0, 0, 1, 2, 2, 2, 2, 2, 1, 1] = 1
    ∧ stragglerClaims 2 [[.push 1], [.push 2], [.clear]] [0, 1, 2, 0, 0, 0, 0, 1, 2, 2, 2, 2, 2] = 0 := by decide +kernel

/-- non-vacuity for `conservation_except_K1` (block size 2): pusher 1 hands block 0 over to block 1 while the clear sits
    between its tail load and its CAS (the CAS fails; the clear loads the tail again and retries); the retried CAS
    detaches the two-block chain
    while BOTH pushers are between slot write and publish, the clear has to wait on each block, and delivers all three
    values; the push that started after the detach lands in a fresh block and stays visible.  No K1 step. -/
example :
    let progs : List (List Call) := [[.push 1, .push 2, .push 3], [.push 4], [.clear]]
    let sched := [0,0,0,0,0, 0,0, 2,2, 1,1,1,1,1, 2, 2,2,2,2, 1, 2,2,2,2, 0, 2,2,2, 0,0,0,0]
    let s := run (init 2 progs) sched
    stragglerClaims 2 progs sched = 0 ∧ quiescent s = true
    ∧ (s.threads[2]?.map (·.results)) = some [.cleared [4, 1, 2]]
    ∧ delivered s = [4, 1, 2] ∧ visible s = [3] ∧ s.blocks.length = 3 := by decide +kernel

/-- non-vacuity for `pushers_conserved`: three pushers racing over a block hand-over (block size 2) -/
example :
    let progs : List (List Call) := [[.push 1, .push 2], [.push 3], [.push 4]]
    let s := run (init 2 progs) [0, 1, 2, 0, 1, 0, 2, 1, 2, 1, 0, 0, 0, 2, 2, 2, 0, 0, 0, 0, 1, 1, 2, 2, 2, 2, 1, 1, 0, 2]
    quiescent s = true ∧ (visible s).Perm [1, 2, 3, 4] ∧ s.blocks.length ≥ 2 := by decide +kernel


/-! The step machine above interleaves sequentially consistent steps.  "No value is observed before it is fully
written" additionally needs the slot write to HAPPEN-BEFORE the reader's plain read, which is a fact about the
memory orderings of `Block::push` (`read.fetch_or`) and `Block::len` (`read.load`), and about the `tail` CAS
that publishes a freshly initialised block.  `Model/MsgPass` is that idiom with the orderings as parameters;
the translator supplies the orderings the source uses now. -/

open MetricsVerif.MsgPass in
/-- any number of writers and readers, every schedule: with a Release publish and an Acquire observe no plain
    read races with the slot's write, and (whatever the orderings) no slot is read before it was written -/
theorem publish_consume_no_race (o : Ords) (roles : List Bool) (sched : List Nat) :
    (MsgPass.run (MsgPass.init o roles) sched).uninit = false
    ∧ (o.pubRelease = true → o.obsAcquire = true → (MsgPass.run (MsgPass.init o roles) sched).raced = false) := by
  have h := MsgPass.run_inv _ sched (MsgPass.init_inv o roles)
  refine ⟨h.2.2.2.1, fun h1 h2 => h.2.2.2.2 ?_ ?_⟩
  · rw [MsgPass.run_ords]; exact h1
  · rw [MsgPass.run_ords]; exact h2

open MetricsVerif.MsgPass in
/-- the orderings are needed: a Relaxed publish (or a Relaxed observe) lets a reader's plain read race -/
theorem relaxed_publish_races :
    (MsgPass.run (MsgPass.init { pubRelease := false, obsAcquire := true } [true, false]) [0, 0, 1, 1]).raced = true
    ∧ (MsgPass.run (MsgPass.init { pubRelease := true, obsAcquire := false } [true, false]) [0, 0, 1, 1]).raced = true := by
  decide

/-- non-vacuity: two writers, two readers; the second reader sees both slots, nothing races -/
example :
    let s := MsgPass.run (MsgPass.init { pubRelease := true, obsAcquire := true } [true, true, false, false])
      [0, 0, 2, 1, 1, 3, 2, 3]
    s.readSlots = [1, 0, 0] ∧ s.raced = false ∧ s.uninit = false := by decide +kernel

open MetricsVerif.Src in
/-- slot publication: `Block::push` publishes with `read.fetch_or`, readers observe with `read.load` in `len` -/
def srcSlotOrds : MsgPass.Ords :=
  { pubRelease := allRelease Generated.shape_block_push "read.fetch_or",
    obsAcquire := allAcquire Generated.shape_block_len "read.load" }

open MetricsVerif.Src in
/-- block publication: both `tail` CASes of `AtomicBucket::push` publish an initialised block; every `tail.load`
    (push, data_with, clear_with, is_empty) observes it -/
def srcTailOrds : MsgPass.Ords :=
  { pubRelease := allRelease Generated.shape_bucket_push "tail.compare_exchange",
    obsAcquire := allAcquire Generated.shape_bucket_push "tail.load"
      && allAcquire Generated.shape_bucket_data_with "tail.load"
      && allAcquire Generated.shape_bucket_clear_with "tail.load"
      && allAcquire Generated.shape_bucket_is_empty "tail.load" }

/-- SOURCE FACT (regenerated on every run): the orderings the bucket uses now are release/acquire on both idioms -/
theorem src_bucket_orderings :
    srcSlotOrds = { pubRelease := true, obsAcquire := true }
    ∧ srcTailOrds = { pubRelease := true, obsAcquire := true } := by
  decide +kernel

open MetricsVerif.Src in
/-- SOURCE FACT: the order of the shared-memory operations is the one the step machine's program counters follow:
    claim → slot write → publish; quiescence reads the published length BEFORE the claim counter; a new block is
    linked to its predecessor BEFORE the CAS that publishes it; readers check quiescence before reading a block;
    a clearer detaches with a CAS on `tail` (re-loading `tail` when it fails: `src_clear_detach_retries`); the block size is 64 -/
theorem src_bucket_shape :
    names Generated.shape_block_push = ["write.fetch_add", "_.write", "read.fetch_or"]
    ∧ names Generated.shape_block_len = ["read.load"]
    ∧ names Generated.shape_block_is_quiesced = ["self.len", "write.load"]
    ∧ names Generated.shape_bucket_is_empty = ["tail.load"]
    ∧ names Generated.shape_bucket_push
        = ["tail.load", "tail.compare_exchange", "tail_block.push", "next.store", "tail.compare_exchange", "new_tail.push"]
    ∧ names Generated.shape_bucket_data_with = ["tail.load", "block.is_quiesced", "block.data", "next.load"]
    ∧ names Generated.shape_bucket_clear_with
        = ["tail.load", "tail.compare_exchange", "tail.load", "block.is_quiesced", "block.data", "next.load"]
    ∧ Generated.bucket_block_size = "64" :=
  ⟨rfl, rfl, rfl, rfl, rfl, rfl, rfl, rfl⟩

/-- SOURCE FACT (regenerated on every run): the detach of `clear_with` is a RETRY LOOP, the shape the step machine's `cLoadTail → cCas → (cLoadTail | cQuiesced)`
    follows: `while !block_ptr.is_null() { if tail.compare_exchange(block_ptr, null).is_ok() { break; } block_ptr =
    tail.load(); }` — the loop runs while the loaded tail is non-null, its only way out besides the condition is the
    `break` taken when the CAS succeeded, a failed CAS is followed by a fresh load of `tail` into the same variable; the
    walk that follows is guarded by that variable being non-null; and nothing returns before the walk (a failed CAS does
    not end the call).  On a tree without such a loop the extractor yields `<missing>`. -/
theorem src_clear_detach_retries :
    Generated.bucket_clear_detach_loop
      = ["while:!block_ptr.is_null()", "if", "tail.compare_exchange", "is_ok", "break", "block_ptr=tail.load"]
    ∧ Generated.bucket_clear_after_detach = "if!block_ptr.is_null()"
    ∧ Generated.bucket_clear_exits_before_walk = [] :=
  ⟨rfl, rfl, rfl⟩

/-- the instantiated statement: with the orderings of the current source, no reader of the bucket ever reads a
    slot (or a block) that races with, or precedes, its initialising write — any number of threads, any schedule -/
theorem src_no_early_read (roles : List Bool) (sched : List Nat) :
    (MsgPass.run (MsgPass.init srcSlotOrds roles) sched).raced = false
    ∧ (MsgPass.run (MsgPass.init srcSlotOrds roles) sched).uninit = false
    ∧ (MsgPass.run (MsgPass.init srcTailOrds roles) sched).raced = false := by
  have h := src_bucket_orderings
  refine ⟨(publish_consume_no_race _ roles sched).2 ?_ ?_, (publish_consume_no_race _ roles sched).1,
          (publish_consume_no_race _ roles sched).2 ?_ ?_⟩ <;> simp [h.1, h.2]

/-! The property on snapshot reads: a snapshot read accounts for at least every value whose push completed before the
read began and that no clear has taken; values of one block appear in push order. -/

/-- **stays visible, in place**: in ANY run of ANY programs, what `Block::data` returns for a block only ever grows,
    as a prefix — a value that was once readable in a block stays readable in that block, at the same position, in
    the same (slot-claim = push) order, whatever pushers, readers and clearers do afterwards. (A clear detaches
    blocks from the tail; it never changes what a block holds.) -/
theorem data_only_grows (s : Sys) (sched : List Nat) (k : Nat) :
    (getBlock s k).data <+: (getBlock (run s sched) k).data := run_data_prefix sched s k

/-- a published value is never un-published or overwritten: per block, per value, the number of published slots
    holding it never decreases, in any step of any thread -/
theorem published_never_retracted (s : Sys) (tid k v : Nat) :
    pubc v (getBlock s k).cells ≤ pubc v (getBlock (step s tid) k).cells := pubc_step_mono v s tid k

/-- `Block::is_quiesced` ⇒ `Block::data` hands out EVERY claimed slot of the block (for any block size; `hl` is the
    structural invariant `cells_len` of `all_threads_structural`) -/
theorem quiesced_read_is_complete (B : Nat) (b : Block) (hl : b.cells.length = min b.write B)
    (hq : b.quiesced B = true) : b.data = b.cells.map Cell.val := quiesced_data_all B b hl hq

/-- **the wait is unbounded**: a snapshot reader or clearer parked in its quiescence wait on a block that is not
    quiesced stays in the wait — there is no give-up path; it leaves (to the read step) exactly when the block is
    quiesced. The state is not touched. -/
theorem wait_is_unbounded (s : Sys) (t : Thread) (blk : Nat) :
    (t.pc = .dWait blk ∨ t.pc = .dQuiesced blk →
        (stepThread s t).1 = s ∧ (stepThread s t).2.pc = if (getBlock s blk).quiesced s.B then .dRead blk else .dWait blk)
    ∧ (t.pc = .cWait blk ∨ t.pc = .cQuiesced blk →
        (stepThread s t).1 = s ∧ (stepThread s t).2.pc = if (getBlock s blk).quiesced s.B then .cRead blk else .cWait blk) := by
  refine ⟨fun h => ?_, fun h => ?_⟩ <;> rcases h with h | h <;> simp [stepThread, h]

/-- **snapshot completeness** (pushers, snapshot readers and is_empty callers; any number of threads and calls, any
    block size, EVERY schedule): take any moment `s1` at which thread `i` is about to start a `data_with` (it is at
    the call's first shared-memory step). Whatever happens afterwards (`s2`) — however long the reader has to wait
    for stalled writers, however many blocks are handed over meanwhile — when that call has returned `vs`, every
    value whose publish step (the last step of its `push`) had run before `s1` is in `vs`, with multiplicity. -/
theorem snapshot_complete (B : Nat) (progs : List (List Call)) (hnc : NoClear progs) (s1 s2 : List Nat) (i : Nat)
    (t0 t1 : Thread)
    (h0 : (run (init B progs) s1).threads[i]? = some t0) (hpc : t0.pc = .dLoadTail)
    (h1 : (run (init B progs) (s1 ++ s2)).threads[i]? = some t1)
    (vs : List Nat) (hres : t1.results = t0.results ++ [.snapshot vs]) (v : Nat) :
    pubCount v (run (init B progs) s1) ≤ vs.count v :=
  noclear_snapshot B progs hnc s1 s2 i t0 t1 h0 hpc h1 vs hres v

/-- **snapshot completeness for ANY programs, clears included** (any number of threads and calls, any block size, EVERY
    schedule, K1 steps or not): thread `i` executes the first shared-memory step (the tail load) of a `data_with` in the
    state reached by `pre`. Whatever happens afterwards — hand-overs, clears detaching the chain under the reader,
    stragglers, waits of any length — when that call has returned `vs`, every value whose publish step had run and that
    sat in a block reachable from the tail at that moment (no clear had detached it) is in `vs`, with multiplicity.
    Together with `accounting_except_K1` (outside K1 a completed push is reachable from the tail unless a clear took
    it) this is the second sentence of the property for snapshots; what K1 breaks is only that a straggler's slot is
    not reachable from the tail (`snapshot_incomplete_with_clear`). -/
theorem snapshot_complete_any (B : Nat) (progs : List (List Call)) (pre rest : List Nat) (i : Nat) (t0 t1 : Thread)
    (h0 : (run (init B progs) pre).threads[i]? = some t0) (hpc : t0.pc = .dLoadTail)
    (h1 : (run (init B progs) (pre ++ i :: rest)).threads[i]? = some t1)
    (vs : List Nat) (hres : t1.results = t0.results ++ [.snapshot vs]) (v : Nat) :
    pubIn v isLive (grun (init B progs) own0 pre).2 (run (init B progs) pre) ≤ vs.count v :=
  live_snapshot B progs pre rest i t0 t1 h0 hpc h1 vs hres v

/-- non-vacuity for `snapshot_complete_any` (block size 2): the reader loads the tail while block 0 holds `1` published
    and `2` in flight; a clear then detaches the chain under the reader and a later push goes to a fresh block; the
    reader waits for the stalled writer and returns `[1, 2]` (it must contain the `1` that was published and reachable
    when it loaded the tail) -/
example :
    let progs : List (List Call) := [[.push 1, .push 2, .push 3], [.data], [.clear]]
    let pre := [0,0,0,0,0, 0,0, 1]
    let rest := [2,2,2,2, 1,1, 0, 1,1,1, 2,2,2, 0,0,0,0]
    ((run (init 2 progs) pre).threads[1]?.map (·.pc)) = some .dLoadTail
    ∧ pubIn 1 isLive (grun (init 2 progs) own0 pre).2 (run (init 2 progs) pre) = 1
    ∧ ((run (init 2 progs) (pre ++ 1 :: rest)).threads[1]?.map (·.results)) = some [.snapshot [1, 2]]
    ∧ delivered (run (init 2 progs) (pre ++ 1 :: rest)) = [1, 2]
    ∧ visible (run (init 2 progs) (pre ++ 1 :: rest)) = [3] := by decide +kernel

/-- with a clear in the programs the statement is FALSE of the code (known finding K-C05-K1 again): the straggler's
    push has completed (its value is published) before the snapshot of thread 3 begins, no clear has taken it
    (`delivered = [1]`), and the snapshot returns nothing -/
theorem snapshot_incomplete_with_clear :
    let progs : List (List Call) := [[.push 1], [.push 2], [.clear], [.data]]
    let s1 := [0, 1, 2, 0, 0, 0, 0, 1, 2, 2, 2, 2, 2, 1, 1, 3]
    let s := run (init 2 progs) s1
    let s' := run (init 2 progs) (s1 ++ [3])
    (s.threads[3]?.map (·.pc)) = some .dLoadTail
    ∧ pubCount 2 s = 1 ∧ delivered s = [1]
    ∧ (s'.threads[3]?.map (·.results)) = some [.snapshot []] := by decide +kernel

/-- non-vacuity for `snapshot_complete`: a reader that has to wait for a stalled writer (slot 0 claimed, not
    published) while a second pusher completes above it and hands the block over (block size 2): the snapshot that
    began after `3` was published returns it -/
example :
    let progs : List (List Call) := [[.push 1], [.push 3, .push 4], [.data]]
    let s1 := [0, 0, 0, 0, 1, 1, 1, 1, 2]
    let s2 := [2, 2, 2, 1, 1, 1, 1, 1, 2, 2, 0, 2, 2, 2, 2, 2, 2]
    ((run (init 2 progs) s1).threads[2]?.map (·.pc)) = some .dLoadTail
    ∧ pubCount 3 (run (init 2 progs) s1) = 1
    ∧ ((run (init 2 progs) (s1 ++ s2)).threads[2]?.map (·.results)) = some [.snapshot [1, 3]] := by decide +kernel

/-- **is_empty completeness** (programs without clears; any number of threads and calls, any block size, EVERY
    schedule): an `is_empty` that is at its first shared-memory step in a state where some value's publish step has
    already run answers `false` — whatever happens in between, including hand-overs to newer blocks and slots still
    in flight below the published one (the former K3). Rests on: claim counters only grow, and every block below
    the newest has had a slot claimed (a block is only replaced by a pusher whose claim on it failed). -/
theorem is_empty_complete (B : Nat) (progs : List (List Call)) (hnc : NoClear progs) (s1 s2 : List Nat) (i : Nat)
    (t0 t1 : Thread)
    (h0 : (run (init B progs) s1).threads[i]? = some t0) (hpc : t0.pc = .eLoadTail)
    (h1 : (run (init B progs) (s1 ++ s2)).threads[i]? = some t1)
    (e : Bool) (hres : t1.results = t0.results ++ [.empty e]) (v : Nat)
    (hv : 1 ≤ pubCount v (run (init B progs) s1)) : e = false :=
  noclear_is_empty B progs hnc s1 s2 i t0 t1 h0 hpc h1 e hres v hv

/-- **is_empty completeness for ANY programs, clears included** (every schedule, any block size, K1 steps or not):
    thread `i` executes the first shared-memory step (the tail load) of an `is_empty` in the state reached by `pre`; if
    in that state some value is published in a block reachable from the tail (its push completed, no clear has detached
    it), the call answers `false` — whatever happens between its two steps (hand-overs, clears, slots in flight below
    the published one). What K1 breaks is only that a straggler's slot is not reachable from the tail
    (`is_empty_incomplete_with_clear`). -/
theorem is_empty_complete_any (B : Nat) (progs : List (List Call)) (pre rest : List Nat) (i : Nat) (t0 t1 : Thread)
    (h0 : (run (init B progs) pre).threads[i]? = some t0) (hpc : t0.pc = .eLoadTail)
    (h1 : (run (init B progs) (pre ++ i :: rest)).threads[i]? = some t1)
    (e : Bool) (hres : t1.results = t0.results ++ [.empty e]) (v : Nat)
    (hv : 1 ≤ pubIn v isLive (grun (init B progs) own0 pre).2 (run (init B progs) pre)) : e = false :=
  live_is_empty B progs pre rest i t0 t1 h0 hpc h1 e hres v hv

/-- non-vacuity for `is_empty_complete_any` (block size 1): `1` is published in block 0, block 1 (the tail) has been
    installed by the hand-over but nothing is claimed in it yet; `is_empty` loads the tail, a clear detaches the chain
    and delivers `1` before `is_empty` takes its second step: the answer is `false` (decided on the predecessor's claim
    counter) -/
example :
    let progs : List (List Call) := [[.push 1, .push 2], [.isEmpty], [.clear]]
    let pre := [0,0,0,0,0, 0,0,0, 1]
    let rest := [2,2,2,2,2,2,2,2,2, 1]
    ((run (init 1 progs) pre).threads[1]?.map (·.pc)) = some .eLoadTail
    ∧ pubIn 1 isLive (grun (init 1 progs) own0 pre).2 (run (init 1 progs) pre) = 1
    ∧ (run (init 1 progs) pre).tail = some 1
    ∧ delivered (run (init 1 progs) (pre ++ 1 :: rest)) = [1]
    ∧ ((run (init 1 progs) (pre ++ 1 :: rest)).threads[1]?.map (·.results)) = some [.empty false] := by decide +kernel

/-- with a clear in the programs `is_empty` completeness is FALSE of the code as well (K-C05-K1): the straggler's
    value is published, no clear took it, and `is_empty` answers `true` -/
theorem is_empty_incomplete_with_clear :
    let progs : List (List Call) := [[.push 1], [.push 2], [.clear], [.isEmpty]]
    let s1 := [0, 1, 2, 0, 0, 0, 0, 1, 2, 2, 2, 2, 2, 1, 1, 3]
    let s := run (init 2 progs) s1
    let s' := run (init 2 progs) (s1 ++ [3])
    (s.threads[3]?.map (·.pc)) = some .eLoadTail
    ∧ pubCount 2 s = 1 ∧ delivered s = [1]
    ∧ (s'.threads[3]?.map (·.results)) = some [.empty true] := by decide +kernel

/-- non-vacuity for `is_empty_complete`: slot 0 is claimed and still in flight, slot 1 is published (the former K3
    shape, block size 2): `is_empty` answers `false` -/
example :
    let progs : List (List Call) := [[.push 1], [.push 3], [.isEmpty]]
    let s1 := [0, 0, 0, 0, 1, 1, 1, 1, 2]
    ((run (init 2 progs) s1).threads[2]?.map (·.pc)) = some .eLoadTail
    ∧ pubCount 3 (run (init 2 progs) s1) = 1 ∧ pubCount 1 (run (init 2 progs) s1) = 0
    ∧ ((run (init 2 progs) (s1 ++ [2, 2])).threads[2]?.map (·.results)) = some [.empty false] := by decide +kernel

/-! A clear whose detach CAS fails (`bkt.clear.cas`).  `clear_with` loads the tail and detaches the chain with
`compare_exchange(loaded, null)`.  When another thread changed the tail between the two (a pusher's block hand-over
installed a new tail, or another clear detached the chain) the CAS fails; `clear_with` then loads the tail again and
retries.  The failed attempt itself changes nothing: the values stay where they were, "visible to every later snapshot
read until a clear takes it". -/

/-- **a failed detach changes nothing, and the clearer tries again.**  Any state, any thread that stands at the detaching
    CAS of its `clear_with` (`cCas old`: it loaded `old` as the tail) while the tail is no longer `old`: its next step
    leaves the bucket untouched — same blocks, same tail, hence the same values visible to a snapshot, the same values
    delivered so far, the same completed pushes — and the thread itself only moves back to the tail load of the SAME call
    (`cLoadTail`; calls, accumulator and results unchanged: the call has not returned, the callback was not called).
    (A `clear_with` that ends the call here with `cleared []` instead is `Bucket.stepLegacy`:
    `legacy_failed_detach_ends_call`.) -/
theorem failed_detach_delivers_nothing_and_loses_nothing (s : Sys) (tid : Nat) (t : Thread) (old : Nat)
    (ht : s.threads[tid]? = some t) (hpc : t.pc = .cCas old) (hfail : s.tail ≠ some old) :
    let s' := step s tid
    s'.threads[tid]? = some { t with pc := .cLoadTail }
    ∧ s'.blocks = s.blocks ∧ s'.tail = s.tail
    ∧ visible s' = visible s ∧ delivered s' = delivered s ∧ completedPushes s' = completedPushes s := by
  intro s'
  have e : stepThread s t = (s, { t with pc := .cLoadTail }) := by rw [stepThread_at_cCas hpc, if_neg hfail]
  have hstep : s' = { s with threads := setAt s.threads tid { t with pc := .cLoadTail } } := by
    simp only [s', step_eq s tid t ht, e]
  have hb : s'.blocks = s.blocks := by rw [hstep]
  have htl : s'.tail = s.tail := by rw [hstep]
  refine ⟨(step_self ht).trans (by rw [e]), hb, htl, visible_congr hb htl, ?_, ?_⟩
  -- `delivered` and `completedPushes` read the threads' results only
  · unfold delivered
    rw [hstep]
    exact congrArg List.flatten (map_setAt_same ht rfl)
  · unfold completedPushes
    rw [hstep]
    exact congrArg List.sum (map_setAt_same ht rfl)

/-- the same seen from the successful side: the CAS of `clear_with` either detaches the WHOLE chain (tail := null, the
    walk starts at the loaded block) or — exactly when the tail is no longer the loaded one — changes nothing and sends
    the clearer back to its tail load; there is no third outcome (no partial drain, no return without a detach) -/
theorem detach_cas_all_or_nothing (s : Sys) (tid : Nat) (t : Thread) (old : Nat)
    (ht : s.threads[tid]? = some t) (hpc : t.pc = .cCas old) :
    (s.tail = some old ∧ (step s tid).tail = none ∧ (step s tid).blocks = s.blocks
        ∧ ((step s tid).threads[tid]?.map (·.pc)) = some (.cQuiesced old))
    ∨ (s.tail ≠ some old ∧ (step s tid).tail = s.tail ∧ (step s tid).blocks = s.blocks
        ∧ (step s tid).threads[tid]? = some { t with pc := .cLoadTail }) := by
  by_cases h : s.tail = some old
  · have e : stepThread s t = ({ s with tail := none }, { t with pc := .cQuiesced old }) := by
      rw [stepThread_at_cCas hpc, if_pos h]
    exact Or.inl ⟨h, by rw [step_eq s tid t ht, e], by rw [step_eq s tid t ht, e], by rw [step_self ht, e]; rfl⟩
  · have := failed_detach_delivers_nothing_and_loses_nothing s tid t old ht hpc h
    exact Or.inr ⟨h, this.2.2.1, this.2.1, this.1⟩

/-- the retried detach on a concrete run (block size 2; the harness replays the shape on the real bucket with 64): pushes
    1 and 2 have COMPLETED and fill the block before the clear begins; the clearer loads the tail; the pusher of 3 finds
    the block full, installs a new tail and completes; the clearer's CAS fails (it is back at the tail load, nothing
    delivered yet, all three values visible); it loads the new tail, detaches, and this SAME call delivers all three
    values — no K1 step is involved -/
theorem failed_detach_witness :
    let progs : List (List Call) := [[.push 1, .push 2], [.push 3], [.clear, .clear]]
    let pre := [0, 0, 0, 0, 0, 0, 0, 0]
    let mid := [2, 2, 1, 1, 1, 1, 1, 1, 2]
    let s1 := run (init 2 progs) pre
    let s2 := run (init 2 progs) (pre ++ mid)
    let s3 := run (init 2 progs) (pre ++ mid ++ [2, 2, 2, 2, 2, 2, 2, 2, 2, 2])
    completedPushes s1 = 2 ∧ (s1.threads[2]?.map (·.pc)) = some .start
    ∧ ((run (init 2 progs) (pre ++ [2, 2])).threads[2]?.map (·.pc)) = some (.cCas 0)
    ∧ (s2.threads[2]?.map (fun t => (t.pc, t.results))) = some (.cLoadTail, [])
    ∧ completedPushes s2 = 3 ∧ delivered s2 = [] ∧ visible s2 = [3, 1, 2]
    ∧ stragglerClaims 2 progs (pre ++ mid) = 0
    ∧ quiescent s3 = true ∧ (s3.threads[2]?.map (·.results)) = some [.cleared [3, 1, 2], .cleared []]
    ∧ delivered s3 = [3, 1, 2] ∧ visible s3 = [] := by decide +kernel

/-! The LEGACY step (`Bucket.stepLegacy`): a `clear_with` that does not retry its detach — the defect the retry repaired. -/

/-- LEGACY: a failed detaching CAS ended the call with `cleared []` (nothing delivered, bucket untouched) -/
theorem legacy_failed_detach_ends_call (s : Sys) (tid : Nat) (t : Thread) (old : Nat)
    (ht : s.threads[tid]? = some t) (hpc : t.pc = .cCas old) (hfail : s.tail ≠ some old) :
    stepLegacy s tid = { s with threads := setAt s.threads tid (t.advance (.cleared [])) } := by
  simp only [stepLegacy, ht, stepThreadLegacy, hpc, if_neg hfail]

/-- LEGACY and repaired step agree on every step that is not a failing detach CAS -/
theorem legacy_step_eq (s : Sys) (tid : Nat)
    (h : ∀ t old, s.threads[tid]? = some t → t.pc = .cCas old → s.tail = some old) :
    stepLegacy s tid = step s tid := by
  unfold stepLegacy step
  cases hg : s.threads[tid]? with
  | none => rfl
  | some t =>
    simp only
    have : stepThreadLegacy s t = stepThread s t := by
      unfold stepThreadLegacy
      cases hp : t.pc <;> simp only
      rename_i old
      rw [if_pos (h t old hg hp)]
    rw [this]

/-- LEGACY witness (same programs and schedule as `failed_detach_witness`): without the retry the clear whose CAS failed RETURNED `cleared []` although three pushes had completed — two of them before
    it began — and all three values stayed in the bucket for the next clear -/
theorem legacy_failed_detach_witness :
    let progs : List (List Call) := [[.push 1, .push 2], [.push 3], [.clear, .clear]]
    let pre := [0, 0, 0, 0, 0, 0, 0, 0]
    let mid := [2, 2, 1, 1, 1, 1, 1, 1, 2]
    let s1 := runLegacy (init 2 progs) pre
    let s2 := runLegacy (init 2 progs) (pre ++ mid)
    let s3 := runLegacy (init 2 progs) (pre ++ mid ++ [2, 2, 2, 2, 2, 2, 2, 2, 2, 2])
    completedPushes s1 = 2 ∧ (s1.threads[2]?.map (·.pc)) = some .start
    ∧ (s2.threads[2]?.map (·.results)) = some [.cleared []]
    ∧ completedPushes s2 = 3 ∧ delivered s2 = [] ∧ visible s2 = [3, 1, 2]
    ∧ quiescent s3 = true ∧ (s3.threads[2]?.map (·.results)) = some [.cleared [], .cleared [3, 1, 2]]
    ∧ delivered s3 = [3, 1, 2] ∧ visible s3 = [] := by decide +kernel

/-! The complement of the failed detach.  If at some moment after a push completed the bucket's tail was null — a clear
detached the chain (its CAS succeeded) or found the bucket empty — then, as soon as no thread is inside a `clear_with`
walk any more, that push has been handed to a clear callback.  (Schedules without a K1 step.) -/

/-- **everything published before the tail was null is delivered once the clears have finished.**  ANY programs, any
    block size, EVERY schedule `pre ++ m1 ++ m2` without a K1 step: if the tail is null after `pre ++ m1` (some clear
    detached the chain after `pre`, or found it empty) and after `pre ++ m1 ++ m2` no thread is inside a `clear_with` walk,
    then, value by value, the clears have delivered `v` at least as often as slots holding `v` were published when `pre`
    ended (published slots = completed pushes: `completed_pushes_are_published`).  A FAILED detach is precisely a drain
    that does not produce such a moment (`detach_cas_all_or_nothing`). -/
theorem delivered_once_tail_was_null (B : Nat) (progs : List (List Call)) (pre m1 m2 : List Nat)
    (hk : stragglerClaims B progs (pre ++ m1 ++ m2) = 0)
    (hnull : (run (init B progs) (pre ++ m1)).tail = none)
    (hidle : ∀ (i : Nat) (t : Thread), (run (init B progs) (pre ++ m1 ++ m2)).threads[i]? = some t → claim t.pc = none)
    (v : Nat) :
    pubCount v (run (init B progs) pre) ≤ (delivered (run (init B progs) (pre ++ m1 ++ m2))).count v := by
  -- invariants at the end (no K1 step in the whole schedule), and at the moment the tail was null
  obtain ⟨hg2, hk2⟩ := reach_noK1 B progs (pre ++ m1 ++ m2) hk
  have hgm := reach_ginv B progs (pre ++ m1)
  have hown2 : (grun (init B progs) own0 (pre ++ m1 ++ m2)).2
      = (grun (grun (init B progs) own0 (pre ++ m1)).1 (grun (init B progs) own0 (pre ++ m1)).2 m2).2 := by
    rw [grun_append (pre ++ m1) m2]
  generalize hs2 : run (init B progs) (pre ++ m1 ++ m2) = s2 at *
  generalize ho2 : (grun (init B progs) own0 (pre ++ m1 ++ m2)).2 = own2 at *
  -- every block that existed when the tail was null is `read` at the end
  have hread : ∀ i, i < (run (init B progs) (pre ++ m1)).blocks.length → own2 i = .read := by
    intro i hi
    obtain ⟨lb, _, hlive, hnone, _⟩ := hgm.live
    have hlb := hnone hnull
    have hnl : (grun (init B progs) own0 (pre ++ m1)).2 i ≠ .live := by
      intro c
      have := (hlive i).mp c
      omega
    have hnl2 : own2 i ≠ .live := by
      rw [hown2]
      exact grun_not_live m2 _ _ i hnl
    cases ho : own2 i with
    | live => exact absurd ho hnl2
    | read => rfl
    | det u =>
      have hu := hk2.detex i u ho
      have hcl := hg2.clr u _ (List.getElem?_eq_getElem hu)
      rw [hidle u _ (List.getElem?_eq_getElem hu)] at hcl
      exact absurd ho (hcl i)
  -- what clears were handed = the published slots of the blocks marked `read`
  have hD : (delivered s2).count v = pubIn v isRead own2 s2 := by
    have h1 := Dsum_split s2 v
    rw [inRunningClears_nil s2 hidle] at h1
    rw [hk2.pubIn_read v, h1]; rfl
  rw [hD]
  unfold pubCount needFrom pubIn
  rw [List.drop_zero, ← osum_all _ own2 _ 0]
  refine osum_le rfl _ _ 0 (fun i => ?_)
  unfold ow
  simp only [Nat.zero_add, if_true]
  show pubc v (getBlock (run (init B progs) pre) i).cells
    ≤ if isRead (own2 i) = true then pubc v (getBlock s2 i).cells else 0
  have hmono1 := pubc_run_mono v m1 (run (init B progs) pre) i
  rw [← run_append] at hmono1
  have hmono2 := pubc_run_mono v m2 (run (init B progs) (pre ++ m1)) i
  rw [← run_append, hs2] at hmono2
  by_cases hi : i < (run (init B progs) (pre ++ m1)).blocks.length
  · rw [hread i hi]
    simp only [isRead, if_true]
    omega
  · have : getBlock (run (init B progs) (pre ++ m1)) i = newBlock := getBlock_of_ge _ i (by omega)
    rw [this] at hmono1
    have h0 : pubc v newBlock.cells = 0 := rfl
    split <;> omega

/-! A `clear_with` that returned has passed a moment at which the tail was null, so the hypothesis "the tail was null at
some moment" of `delivered_once_tail_was_null` follows from "a clear that began after the pushes in question has
returned".  (False of the legacy step: `legacy_failed_detach_witness`.) -/

/-- thread `d` is inside a `clear_with` call — the one that will produce its result number `n` — and has not detached
    yet: it stands before the tail load, or between the load and the CAS -/
def BeforeDetach (n d : Nat) (s : Sys) : Prop :=
  ∃ t, s.threads[d]? = some t ∧ t.results.length = n ∧ t.calls.head? = some .clear
    ∧ (t.pc = .start ∨ t.pc = .cLoadTail ∨ ∃ o, t.pc = .cCas o)

/-- one step of any thread: the clearer is still before its detach, or the tail is null now, or it is null after
    the step (the clearer's own successful CAS).  The failing CAS leads back to `cLoadTail`: still before the detach. -/
theorem beforeDetach_step (n d : Nat) (s : Sys) (tid : Nat) (h : BeforeDetach n d s) :
    BeforeDetach n d (step s tid) ∨ s.tail = none ∨ (step s tid).tail = none := by
  obtain ⟨t, ht, hn, hc, hpc⟩ := h
  by_cases hd : tid = d
  · subst hd
    rcases hpc with hp | hp | ⟨o, hp⟩
    · have e := stepThread_at_start (s := s) hp
      have hcl : startPC t.calls = .cLoadTail := by
        cases hcs : t.calls with
        | nil => rw [hcs] at hc; cases hc
        | cons c r => rw [hcs] at hc; cases hc; rfl
      exact Or.inl ⟨_, step_self ht, by rw [e]; exact hn, by rw [e]; exact hc, Or.inr (Or.inl (by rw [e]; exact hcl))⟩
    · cases htl : s.tail with
      | none => exact Or.inr (Or.inl rfl)
      | some b =>
        have e : stepThread s t = (s, { t with pc := .cCas b }) := by rw [stepThread_at_cLoadTail hp, htl]
        exact Or.inl ⟨_, step_self ht, by rw [e]; exact hn, by rw [e]; exact hc, Or.inr (Or.inr ⟨b, by rw [e]⟩)⟩
    · by_cases hto : s.tail = some o
      · exact Or.inr (Or.inr (by rw [step_eq s tid t ht, stepThread_at_cCas hp, if_pos hto]))
      · have e : stepThread s t = (s, { t with pc := .cLoadTail }) := by rw [stepThread_at_cCas hp, if_neg hto]
        exact Or.inl ⟨_, step_self ht, by rw [e]; exact hn, by rw [e]; exact hc, Or.inr (Or.inl (by rw [e]))⟩
  · exact Or.inl ⟨t, by rw [step_other s hd]; exact ht, hn, hc, hpc⟩

/-- along any schedule: the clearer is still before its detach at the end, or the schedule splits at a moment at which
    the tail was null -/
theorem beforeDetach_run (n d : Nat) (sched : List Nat) : ∀ (s : Sys), BeforeDetach n d s →
    BeforeDetach n d (run s sched) ∨ ∃ m1 m2, sched = m1 ++ m2 ∧ (run s m1).tail = none := by
  induction sched with
  | nil => intro s h; exact Or.inl h
  | cons tid rest ih =>
    intro s h
    rcases beforeDetach_step n d s tid h with h1 | h1 | h1
    · rcases ih (step s tid) h1 with h2 | ⟨m1, m2, e, h2⟩
      · left; simpa only [run, List.foldl_cons] using h2
      · right
        refine ⟨tid :: m1, m2, by rw [e]; rfl, ?_⟩
        simpa only [run, List.foldl_cons] using h2
    · right; exact ⟨[], tid :: rest, rfl, h1⟩
    · right; exact ⟨[tid], rest, rfl, h1⟩

/-- **a `clear_with` that began after a push completed and has returned — the push has been delivered** (schedules
    without a K1 step; false of the legacy step).  ANY programs, any block size, EVERY schedule
    `pre ++ mid` without a K1 step: if after `pre` some thread `d` has not yet loaded the tail in its current `clear_with`
    call (it is at `start` or at the tail load, its next call is a clear) and after `pre ++ mid` that call has returned
    (`d` has more results than it had), and after `pre ++ mid` no thread is inside a `clear_with` walk, then, value by
    value, the clears have delivered `v` at least as often as slots holding `v` were published when `pre` ended.
    No hypothesis about the tail or about failed CASes is left: a failed detach is retried, so a call that returned has
    either seen a null tail or nulled it itself (`beforeDetach_run`). -/
theorem delivered_once_clear_returned (B : Nat) (progs : List (List Call)) (pre mid : List Nat) (d : Nat) (t0 t1 : Thread)
    (hk : stragglerClaims B progs (pre ++ mid) = 0)
    (h0 : (run (init B progs) pre).threads[d]? = some t0)
    (hcall : t0.calls.head? = some .clear) (hpc : t0.pc = .start ∨ t0.pc = .cLoadTail)
    (h1 : (run (init B progs) (pre ++ mid)).threads[d]? = some t1)
    (hret : t0.results.length < t1.results.length)
    (hidle : ∀ (i : Nat) (t : Thread), (run (init B progs) (pre ++ mid)).threads[i]? = some t → claim t.pc = none)
    (v : Nat) :
    pubCount v (run (init B progs) pre) ≤ (delivered (run (init B progs) (pre ++ mid))).count v := by
  have hb : BeforeDetach t0.results.length d (run (init B progs) pre) :=
    ⟨t0, h0, rfl, hcall, by rcases hpc with h | h; exact Or.inl h; exact Or.inr (Or.inl h)⟩
  rcases beforeDetach_run t0.results.length d mid _ hb with h | ⟨m1, m2, e, hnull⟩
  · obtain ⟨t, ht, hn, _⟩ := h
    rw [← run_append, h1] at ht
    cases ht
    omega
  · subst e
    rw [← run_append] at hnull
    rw [← List.append_assoc] at hk hidle ⊢
    exact delivered_once_tail_was_null B progs pre m1 m2 hk hnull hidle v

/-- non-vacuity of `delivered_once_clear_returned` on the schedule of `failed_detach_witness`:
    the clear begins after pushes 1 and 2 completed, its first CAS fails, and when it has returned both have been delivered -/
example :
    let progs : List (List Call) := [[.push 1, .push 2], [.push 3], [.clear]]
    let pre := [0, 0, 0, 0, 0, 0, 0, 0]
    let mid := [2, 2, 1, 1, 1, 1, 1, 1, 2, 2, 2, 2, 2, 2, 2, 2, 2]
    stragglerClaims 2 progs (pre ++ mid) = 0
    ∧ ((run (init 2 progs) pre).threads[2]?.map (fun t => (t.calls.head?, t.pc, t.results.length))) = some (some .clear, .start, 0)
    ∧ ((run (init 2 progs) (pre ++ mid)).threads[2]?.map (·.results)) = some [.cleared [3, 1, 2]]
    ∧ ((run (init 2 progs) (pre ++ mid)).threads.map (fun t => (claim t.pc).isSome)) = [false, false, false]
    ∧ pubCount 1 (run (init 2 progs) pre) = 1 ∧ pubCount 2 (run (init 2 progs) pre) = 1 := by decide +kernel

/-! ### source facts for the paths the step machine does not model in detail -/

open MetricsVerif.Src in
/-- SOURCE FACT (regenerated on every run): both quiescence waits (`data_with`, `clear_with`) are plain
    `while !block.is_quiesced() { snooze }` loops — one per function, with no `break` / `return` / `continue`, no
    conditional and no look at the back-off's completion inside: the only way out is the loop condition (this is what
    `wait_is_unbounded` models). `Block::data` reads the length once. `is_empty` decides on `is_unclaimed` of the tail
    and of its predecessor, which loads `write` (claimed slots), not the published length. `Block::drop` waits for
    quiescence and drops slots `0..len`. `clear_with` collects every block it walked, defers their destruction
    (batches of 32, the batch branch has no early exit) and flushes; every entry point pins the epoch once, before it
    touches `tail`. -/
theorem src_bucket_wait_and_reclaim :
    Generated.bucket_data_wait_exits = [] ∧ Generated.bucket_clear_wait_exits = []
    ∧ Generated.bucket_quiesce_loops = ["1", "1"]
    ∧ names Generated.shape_block_data = ["self.len", "slots.get_unchecked"]
    ∧ Generated.shape_block_is_unclaimed = [("write.load", ["Acquire"])]
    ∧ names Generated.shape_block_next_is_unclaimed = ["next.load", "tail_block.is_unclaimed"]
    ∧ names Generated.shape_bucket_is_empty_calls = ["tail.load", "tail_block.is_unclaimed", "tail_block.next_is_unclaimed"]
    ∧ names Generated.shape_block_drop = ["self.is_quiesced", "self.len", "_.drop_in_place"]
    ∧ Generated.block_drop_range = "0..len"
    ∧ names Generated.shape_bucket_clear_reclaim
        = ["tail.load", "tail.compare_exchange", "tail.load", "next.load", "freeable_blocks.push", "guard.defer_unchecked",
           "block.into_owned", "guard.defer_unchecked", "block.into_owned", "guard.flush"]
    ∧ Generated.bucket_deferred_batch = "32" ∧ Generated.bucket_batch_branch_exits = []
    ∧ Generated.bucket_epoch_pins
        = ["is_empty:1:pin-first", "push:1:pin-first", "data_with:1:pin-first", "clear_with:1:pin-first"] :=
  ⟨rfl, rfl, rfl, rfl, rfl, rfl, rfl, rfl, rfl, rfl, rfl, rfl, rfl⟩

end MetricsVerif.C05
