/-
C16 — the sampling reservoir reports true counts and favours no stream position.

Model: `Model/Reservoir.lean` (`Reservoir::push/drain`, `Drain::sample_rate`, `Drain::drop`,
`AtomicSamplingReservoir::{new,push,consume,is_empty}`), sequential histories.  The random choice of every push
is an input, so "for all choice vectors" is a plain universal quantifier, and the uniformity statement is an exact
count over the finite product of the ranges the code asks its generator for — no sampling, no floats.

Pushes overlapping `consume` are covered by the step machine `Model/ReservoirConc` (theorems `conc_*` below): no panic
and the length/rate bounds hold under every schedule; a drain whose swap finds no push in flight is exact; the two
witnesses of known finding K-C16-straddle show that the full statement fails otherwise.

Further down: the `Drain` iterator read by any script of `next` / `nth` / `len` / `sample_rate` calls (`drain_iter_*`, model
`DrainIt`), the DogStatsD builder settings that decide whether and how large a reservoir is made (`builder_*`), and the
lift of the per-drain counts to whole histories (`counts_conserved`, `yield_never_exceeds_report`).
-/
import MetricsVerif.Proofs.Reservoir
import MetricsVerif.Proofs.ReservoirConc
import MetricsVerif.Proofs.ReservoirPushers
import MetricsVerif.Proofs.ReservoirIter
import MetricsVerif.Proofs.SrcShapes
import MetricsVerif.Generated.SourceFacts

namespace MetricsVerif.C16
open MetricsVerif.Reservoir

/-- **drain_sound.** After any sequential history `ops` on a reservoir of any capacity (any values, any random
    choices, any number of earlier push/drain cycles), the next drain
    * yields a sub-multiset of the values pushed since the previous drain (`pendOf ops`),
    * yields exactly `min(pushed, capacity)` values — never more than the capacity,
    * knows the true number of values pushed since the previous drain. -/
theorem drain_sound (cap : Nat) (ops : List Op) :
    let d := (run (ASR.new cap) ops).consume.2
    (∀ x, d.values.count x ≤ (pendOf ops).count x)
    ∧ d.values.length = min (pendOf ops).length cap
    ∧ d.len = d.values.length
    ∧ d.unsampled = (pendOf ops).length :=
  have e := (inv_run cap ops).exact
  ⟨e.sub, e.length.trans e.len, e.length.symm, e.unsampled⟩

/-- **drain_all.** When no more than `capacity` values were pushed since the previous drain, the drain yields
    all of them (in push order). -/
theorem drain_all (cap : Nat) (ops : List Op) (hn : (pendOf ops).length ≤ cap) :
    (run (ASR.new cap) ops).consume.2.values = pendOf ops :=
  (inv_run cap ops).drain_all hn

/-- **rate_exact.** The sample rate the drain reports, as the exact fraction `num/den` the code divides
    (`1.0` is `1/1`), satisfies `rate · pushed = yielded` with `den ≠ 0`: it is `1` when no more than `capacity`
    values were pushed since the previous drain and `capacity / pushed` otherwise. -/
theorem rate_exact (cap : Nat) (ops : List Op) :
    let d := (run (ASR.new cap) ops).consume.2
    d.rate.1 * (pendOf ops).length = d.values.length * d.rate.2
    ∧ 0 < d.rate.2
    ∧ d.rate = if (pendOf ops).length ≤ cap then (1, 1) else (cap, (pendOf ops).length) :=
  (inv_run cap ops).exact.rate

/-- **next_drain_empty.** A drain leaves the reservoir empty: `is_empty()` holds, and a drain that follows with no
    push in between yields nothing, reports 0 pushed and rate 1. (With pushes in between, `drain_sound` applies to
    the longer history: it only ever sees the values pushed after this drain.) -/
theorem next_drain_empty (cap : Nat) (ops : List Op) :
    let a := (run (ASR.new cap) ops).consume.1
    a.isEmpty = true ∧ a.consume.2 = { values := [], unsampled := 0, len := 0 } ∧ a.consume.2.rate = (1, 1) := by
  have h := (inv_run cap ops).consume
  have hd := h.drain
  simp only [List.length_nil, Nat.zero_min, List.take_zero] at hd
  exact ⟨by simp [ASR.isEmpty, h.act.count_eq], hd, by rw [hd]; rfl⟩

/-- `pendOf` really is "the values pushed since the previous drain": a history that ends with a drain followed by
    the pushes `vs` (with any choices `cs`) has exactly `vs` pending, whatever happened before. -/
theorem pendOf_after_consume (before : List Op) (vcs : List (Nat × Nat)) :
    pendOf (before ++ [Op.consume] ++ vcs.map (fun vc => Op.push vc.1 vc.2)) = vcs.map (·.1) := by
  have gen : ∀ (vcs : List (Nat × Nat)) (p : List Nat),
      (vcs.map (fun vc => Op.push vc.1 vc.2)).foldl pendStep p = p ++ vcs.map (·.1) := by
    intro vcs
    induction vcs with
    | nil => intro p; simp
    | cons vc vcs ih => intro p; simp [pendStep, ih]
  simp [pendOf, List.foldl_append, pendStep, gen]

/-- **push_total (step).** `Reservoir::push` never reaches the panicking call `fastrand(0)`: for every state
    (any capacity including 0, any count), value and random number the panic flag is unchanged. -/
theorem push_total (r : Res) (v c : Nat) : (r.push v c).panicked = r.panicked := push_panicked r v c

/-- **no_panic.** No sequential history on a reservoir of any capacity (including 0) ever panics. -/
theorem no_panic (cap : Nat) (ops : List Op) :
    (run (ASR.new cap) ops).primary.panicked = false ∧ (run (ASR.new cap) ops).secondary.panicked = false :=
  ⟨(inv_run cap ops).okP, (inv_run cap ops).okS⟩

/-! ## pushes concurrent with drains: the step machine `Model/ReservoirConc` (any number of threads, any schedule)

One `cstep` is one grant of the deterministic scheduler: one shared-memory operation of `push` (`use_primary.load`,
`count.fetch_add`, the slot store) or of `consume` (lock + swap + `count.load`; one slot load; reset + unlock).  The
harness replays every executed schedule of the real code on this machine (`reservoir crun`). -/

/-- `Reservoir::push` is exactly "claim an index with `fetch_add`, then run the store step with that index": the
    concurrent machine splits `push` at this point and nowhere else -/
theorem push_is_claim_then_store (r : Res) (v c : Nat) : r.push v c = (r.claim.1).storeAt r.claim.2 v c :=
  push_eq_claim_store r v c

/-- **conc_no_panic.** Under every schedule of every set of thread programs (pushes overlapping drains, several
    pushers, several consumers, any capacity including 0) no push reaches `fastrand(0)`: the replacement step asks for
    `idx + 1` of the index THIS push claimed, which no reset of `count` by a drain can turn into 0. -/
theorem conc_no_panic (cap : Nat) (progs : List (List COp)) (sched : List Nat) :
    (crun (Sys.init cap progs) sched).panicked = false := by
  have h := (CInv.init cap progs).run sched
  simp [Sys.panicked, h.okP, h.okS]

/-- **conc_drain_bounds.** Under every schedule, every drain that completes yields exactly `min(count it loaded,
    capacity)` values — never more than the capacity — and reports that count; so its sample rate is
    `yielded / count loaded` also when pushes overlap it. -/
theorem conc_drain_bounds (cap : Nat) (progs : List (List COp)) (sched : List Nat) :
    ∀ td ∈ (crun (Sys.init cap progs) sched).drains,
      td.2.len = min td.2.unsampled cap ∧ td.2.values.length = td.2.len ∧ td.2.values.length ≤ cap := by
  intro td htd
  have h := ((CInv.init cap progs).run sched).dr td htd
  exact ⟨h.1, h.2, by omega⟩

/-- **conc_quiescent_drain_exact_partial.** The part of `drain_sound`/`drain_all`/`rate_exact` that survives
    concurrency: if a consumer takes the lock at a moment when no thread is inside a push on the active side (no
    thread has loaded `use_primary` and not yet stored) then, WHATEVER is scheduled afterwards — pushes of any number
    of threads, which all go to the other side, other consumers queueing for the lock — the drain it completes is
    exactly the sequential drain `consume.2` of the state at the swap (to which `drain_sound`, `drain_all`,
    `rate_exact` apply), and it is the next drain recorded. -/
theorem conc_quiescent_drain_exact_partial (s0 : Sys) (t : Nat) (asked : List (Option Nat)) (rest : List COp)
    (hth : s0.threads[t]? = some { prog := .consume :: rest, pc := .idle, asked := asked })
    (hfree : s0.locked = false)
    (hq : ∀ (i : Nat) (th : Thread), s0.threads[i]? = some th →
      th.midPushOn s0.asr.usePrimary = false ∧ ∀ q u l vs, th.pc ≠ .reading q u l vs)
    (sched : List Nat) :
    (crun (cstep s0 t) sched).drains = s0.drains
    ∨ ∃ tail, (crun (cstep s0 t) sched).drains = s0.drains ++ [(t, s0.asr.consume.2)] ++ tail := by
  obtain ⟨hq', e⟩ := QInv.start s0 t asked rest hth hfree hq
  have := hq'.run sched
  rw [e] at this
  rw [consume_out]
  exact this

/-- the full statement is false when a push overlaps the drain (known finding K-C16-straddle), witness 1: the push
    loaded `use_primary` before the swap and claims its index after the drain's `count.load`; the reset wipes it.
    All three drains (both sides) are empty and report 0 pushed although `push(7)` completed. -/
theorem conc_straddle_late_claim_lost :
    let s := crun (Sys.init 4 [[.push 7 0], [.consume, .consume, .consume]]) [0, 1, 0, 0, 1, 1, 1, 1, 1]
    s.finished = true ∧ s.drains.map (fun td => (td.2.values, td.2.unsampled)) = [([], 0), ([], 0), ([], 0)] := by
  decide +kernel

/-- … witness 2: the push has claimed slot 0 but not stored yet when the drain reads it: the drain yields the old
    slot content `0`, which was never pushed, and reports 1 pushed -/
theorem conc_straddle_stale_yield :
    let s := crun (Sys.init 4 [[.push 7 0], [.consume]]) [0, 0, 1, 1, 1, 0]
    s.finished = true ∧ s.drains = [(1, { values := [0], unsampled := 1, len := 1 })] := by
  decide +kernel

/-- a closure that leaks the `Drain` (`mem::forget`) skips the reset: the values come out again two drains later
    (assumption "the closure drops the Drain" of the sequential theorems is necessary) -/
theorem forget_breaks_next_drain :
    let a := run (ASR.new 2) [.push 1 0, .push 2 0]
    let (a1, d1) := a.consumeForget
    let (a2, _) := a1.consume
    d1.values = [1, 2] ∧ a2.consume.2.values = [1, 2] := by
  decide +kernel

/-! ## concurrent pushers (any number of threads, every schedule, no drain in flight): counts and retention

An *epoch of pushers* starts in a state where every thread is between two operations and the active side has been
reset (the initial state; any state after a drain that overlapped no push), and is a schedule none of whose grants
executes a step of `consume` (`pushOnlySched`).  `pendingOf s0.threads` lists the values the threads push before
their next `consume`; the hypothesis `hdone` says that all these pushes have completed. -/

/-- **conc_pushers_epoch_exact.** Any number of pusher threads, EVERY schedule of their steps (`use_primary.load`,
    `fetch_add`, slot store — interleaved in any way, stores overtaking each other, replacement stores landing before
    the fill store of the same slot, …): once all pushes have completed, the drain that comes next
    * reports exactly the number of pushes made (`unsampled = n`),
    * yields exactly `min(n, capacity)` values,
    * yields only values that were pushed, and no push more than once (sub-multiset: no invention, no duplication),
    * yields ALL pushed values when `n ≤ capacity` (as a rearrangement: with several pushers slot order is claim
      order, not program order),
    * reports `sample_rate = yielded / pushed`;
    and the epoch leaves every thread between operations, the lock and the recorded drains untouched. -/
theorem conc_pushers_epoch_exact (s0 : Sys) (cap : Nat) (sched : List Nat)
    (hidle : ∀ th ∈ s0.threads, th.pc = .idle)
    (hlen : s0.asr.active.slots.length = cap) (hcnt : s0.asr.active.count = 0)
    (hsched : pushOnlySched s0 sched = true)
    (hdone : ∀ th ∈ (crun s0 sched).threads, pushPrefix th.prog = []) :
    let d := (crun s0 sched).asr.consume.2
    let tot := pendingOf s0.threads
    d.unsampled = tot.length ∧ d.len = min tot.length cap ∧ d.values.length = min tot.length cap
    ∧ (∀ x, d.values.count x ≤ tot.count x)
    ∧ (tot.length ≤ cap → d.values.Perm tot)
    ∧ d.rate.1 * tot.length = d.values.length * d.rate.2 ∧ 0 < d.rate.2
    ∧ (crun s0 sched).asr.usePrimary = s0.asr.usePrimary ∧ (crun s0 sched).locked = s0.locked
    ∧ (crun s0 sched).drains = s0.drains ∧ ∀ th ∈ (crun s0 sched).threads, th.pc = .idle := by
  obtain ⟨⟨sh, h⟩, hl, hd⟩ := (PInv.start s0.asr s0.threads cap hidle hlen hcnt).run sched hsched
  obtain ⟨e, hid⟩ := h.done hdone
  rw [← h.up, ← active_eq_side, ← consume_out] at e
  exact ⟨e.unsampled, e.len, e.length.trans e.len, e.sub, e.perm, e.rate.1, e.rate.2.1, h.up, hl, hd, hid⟩

/-- **conc_pushers_first_epoch.** The same from the initial state: thread programs `progs` (any number of threads),
    any schedule that grants no `consume` step, all pushes (before each thread's first `consume`) completed: the first
    drain reports `n` = the number of these pushes, yields `min(n, cap)` of their values, each push at most once. -/
theorem conc_pushers_first_epoch (cap : Nat) (progs : List (List COp)) (sched : List Nat)
    (hsched : pushOnlySched (Sys.init cap progs) sched = true)
    (hdone : ∀ th ∈ (crun (Sys.init cap progs) sched).threads, pushPrefix th.prog = []) :
    let d := (crun (Sys.init cap progs) sched).asr.consume.2
    let tot := progs.flatMap pushPrefix
    d.unsampled = tot.length ∧ d.len = min tot.length cap ∧ d.values.length = min tot.length cap
    ∧ (∀ x, d.values.count x ≤ tot.count x) ∧ (tot.length ≤ cap → d.values.Perm tot)
    ∧ d.rate.1 * tot.length = d.values.length * d.rate.2 ∧ 0 < d.rate.2 := by
  have e : pendingOf (Sys.init cap progs).threads = progs.flatMap pushPrefix := by
    simp [pendingOf, Sys.init, List.flatMap_map]
  have h := conc_pushers_epoch_exact (Sys.init cap progs) cap sched (init_idle cap progs)
    (new_slots_length cap) rfl hsched hdone
  simp only [e] at h
  exact ⟨h.1, h.2.1, h.2.2.1, h.2.2.2.1, h.2.2.2.2.1, h.2.2.2.2.2.1, h.2.2.2.2.2.2.1⟩

/-- **conc_pushers_then_drain_exact.** End to end with the consumer in the machine: after an epoch of pushers (as in
    `conc_pushers_epoch_exact`), a thread `t` whose next operation is `consume` takes the free lock; WHATEVER is
    scheduled afterwards (further pushes of any thread — they go to the other side —, other consumers queueing), the
    next drain recorded is `t`'s and it is exact: it reports all `n` pushes of the epoch, yields `min(n, cap)` values,
    all of them pushed in the epoch and no push twice, and `sample_rate · n = yielded`. -/
theorem conc_pushers_then_drain_exact (s0 : Sys) (cap : Nat) (sched1 : List Nat)
    (hidle : ∀ th ∈ s0.threads, th.pc = .idle)
    (hlen : s0.asr.active.slots.length = cap) (hcnt : s0.asr.active.count = 0)
    (hsched : pushOnlySched s0 sched1 = true)
    (hdone : ∀ th ∈ (crun s0 sched1).threads, pushPrefix th.prog = [])
    (hfree : s0.locked = false)
    (t : Nat) (asked : List (Option Nat)) (rest : List COp)
    (ht : (crun s0 sched1).threads[t]? = some { prog := .consume :: rest, pc := .idle, asked := asked })
    (sched2 : List Nat) :
    let tot := pendingOf s0.threads
    (crun s0 (sched1 ++ t :: sched2)).drains = s0.drains
    ∨ ∃ d tail, (crun s0 (sched1 ++ t :: sched2)).drains = s0.drains ++ [(t, d)] ++ tail
        ∧ d.unsampled = tot.length ∧ d.values.length = min tot.length cap
        ∧ (∀ x, d.values.count x ≤ tot.count x) ∧ (tot.length ≤ cap → d.values.Perm tot)
        ∧ d.rate.1 * tot.length = d.values.length * d.rate.2 ∧ 0 < d.rate.2 := by
  have h := conc_pushers_epoch_exact s0 cap sched1 hidle hlen hcnt hsched hdone
  simp only at h
  obtain ⟨h1, _, h3, h4, h5, h6, h7, _, h9, h10, h11⟩ := h
  have hq : ∀ (i : Nat) (th : Thread), (crun s0 sched1).threads[i]? = some th →
      th.midPushOn (crun s0 sched1).asr.usePrimary = false ∧ ∀ q u l vs, th.pc ≠ .reading q u l vs := by
    intro i th hi
    have := h11 th (List.mem_of_getElem? hi)
    simp [Thread.midPushOn, this]
  have hrun : crun s0 (sched1 ++ t :: sched2) = crun (cstep (crun s0 sched1) t) sched2 := by
    simp [crun, List.foldl_append]
  rw [hrun]
  rcases conc_quiescent_drain_exact_partial (crun s0 sched1) t asked rest ht (by rw [h9, hfree]) hq sched2 with e | ⟨tail, e⟩
  · left; rw [e, h10]
  · right
    exact ⟨_, tail, by rw [e, h10], h1, h3, h4, h5, h6, h7⟩

/-- **conc_retention_is_sequential_on_claim_order_partial.** The index a push works with is its claim order (the
    result of its own `fetch_add`).  For every epoch of pushers whose slot stores land in claim order
    (`storesInOrder`: no store step overtakes a push that claimed a smaller index and has not stored yet), the side is,
    after all pushes completed, EXACTLY the state sequential `Reservoir::push` reaches on the pushes taken in claim
    order (`claimLog`) with the same random choices — so everything proved about sequential streams (`drain_sound`,
    `retained_values`, `uniform`) applies with "stream position" read as "claim order".
    Without `storesInOrder` this is false of the code: `conc_late_store_breaks_uniformity`. -/
theorem conc_retention_is_sequential_on_claim_order_partial (s0 : Sys) (sched : List Nat)
    (hidle : ∀ th ∈ s0.threads, th.pc = .idle) (hcnt : s0.asr.active.count = 0)
    (hsched : pushOnlySched s0 sched = true) (hord : storesInOrder s0 sched = true)
    (hdone : ∀ th ∈ (crun s0 sched).threads, pushPrefix th.prog = []) :
    (crun s0 sched).asr.active = seqRun s0.asr.active (claimLog s0 sched)
    ∧ (crun s0 sched).asr.consume.2 = (seqRun s0.asr.active (claimLog s0 sched)).drain := by
  obtain ⟨k, h⟩ := (BInv.start s0.asr s0.threads hidle hcnt).run sched hsched hord
  have h1 := h.done hdone
  simp only [List.nil_append] at h1
  have hact : (crun s0 sched).asr.active = seqRun s0.asr.active (claimLog s0 sched) := by
    rw [active_eq_side, h.up]; exact h1
  exact ⟨hact, by rw [consume_out, hact]⟩

/-- **conc_in_order_drain_is_retained.** … in the vocabulary of `uniform`: from the initial state, with at least
    `cap` pushes and stores in claim order, the first drain yields exactly the values at the claim positions
    `retained cap cs`, where `cs` are the random choices of the pushes that claimed the indices `cap, cap+1, …`, in
    claim order.  `uniform` counts, over all such `cs`, how often each position is in `retained cap cs`: `cap/n` of
    them, for every position — i.e. no CLAIM position is favoured. -/
theorem conc_in_order_drain_is_retained (cap : Nat) (progs : List (List COp)) (sched : List Nat)
    (hsched : pushOnlySched (Sys.init cap progs) sched = true)
    (hord : storesInOrder (Sys.init cap progs) sched = true)
    (hdone : ∀ th ∈ (crun (Sys.init cap progs) sched).threads, pushPrefix th.prog = [])
    (hn : cap ≤ (claimLog (Sys.init cap progs) sched).length) :
    let log := claimLog (Sys.init cap progs) sched
    (crun (Sys.init cap progs) sched).asr.consume.2.values
      = (retained cap ((log.drop cap).map (·.2))).map (fun k => (log.getD k (0, 0)).1) := by
  intro log
  have h := (conc_retention_is_sequential_on_claim_order_partial (Sys.init cap progs) sched
    (init_idle cap progs) rfl hsched hord hdone).2
  rw [h, init_active, seqRun_as_stream _ [] (Res.new cap) rfl, List.nil_append,
    ← List.take_append_drop cap (log.map (·.2)), ← List.map_take, ← List.map_drop]
  refine drain_values_of_positions (fun k => (log.getD k (0, 0)).1) cap _ _ ?_
  rw [List.length_map, List.length_take]
  exact Nat.min_eq_left hn

/-- **conc_late_store_breaks_uniformity** (the restriction to stores in claim order is necessary; replayed on the real
    code by the harness, `conc corpus late store`).  Capacity 1, two pushers: thread 0 claims index 0 and is delayed
    before its store; thread 1 claims index 1, draws its replacement slot and stores; then thread 0 stores into slot 0.
    For EITHER random choice of thread 1 the drain yields thread 0's value: claim position 0 is retained under 2 of 2
    choice vectors, position 1 under 0 of 2 (`uniform` says 1 of 2 each), and for choice 0 the result differs from
    sequential `push` on the claim order (which retains position 1).  The counts are still exact. -/
theorem conc_late_store_breaks_uniformity :
    ∀ c, c < 2 →
      (crun (Sys.init 1 [[.push 10 0], [.push 11 c]]) [0, 0, 1, 1, 1, 0]).finished = true
      ∧ pushOnlySched (Sys.init 1 [[.push 10 0], [.push 11 c]]) [0, 0, 1, 1, 1, 0] = true
      ∧ storesInOrder (Sys.init 1 [[.push 10 0], [.push 11 c]]) [0, 0, 1, 1, 1, 0] = false
      ∧ claimLog (Sys.init 1 [[.push 10 0], [.push 11 c]]) [0, 0, 1, 1, 1, 0] = [(10, 0), (11, c)]
      ∧ (crun (Sys.init 1 [[.push 10 0], [.push 11 c]]) [0, 0, 1, 1, 1, 0]).asr.consume.2
          = { values := [10], unsampled := 2, len := 1 }
      ∧ (seqRun (Res.new 1) [(10, 0), (11, 0)]).drain.values = [11]
      ∧ (seqRun (Res.new 1) [(10, 0), (11, 1)]).drain.values = [10] := by
  decide +kernel

/-- the same two pushes with the stores in claim order: the drain depends on the choice as `uniform` counts it -/
theorem conc_in_order_two_pushers_uniform :
    ∀ c, c < 2 →
      storesInOrder (Sys.init 1 [[.push 10 0], [.push 11 c]]) [0, 0, 1, 1, 0, 1] = true
      ∧ (crun (Sys.init 1 [[.push 10 0], [.push 11 c]]) [0, 0, 1, 1, 0, 1]).asr.consume.2.values
          = (if c = 0 then [11] else [10]) := by
  decide +kernel

/-! ## the code before the repair (`fastrand(idx)`), kept as witnesses of the two defects -/

/-- before the repair a reservoir of capacity 0 panicked on its first push (`fastrand(0)`) -/
theorem old_cap0_panics (v c : Nat) : ((Res.new 0).pushOld v c).panicked = true := by
  simp [Res.pushOld, Res.pushWith, Res.new]

/-- before the repair, with capacity 1 and two pushes the first value was never retained, whatever the generator
    returned: the second push asked for `fastrand(1)`, whose only answer is slot 0 -/
theorem old_first_never_retained (v0 v1 c0 c1 : Nat) :
    (((Res.new 1).pushOld v0 c0).pushOld v1 c1).drain.values = [v1] := by
  simp [Res.pushOld, Res.pushWith, Res.new, Res.drain, Nat.mod_one]

/-- … whereas the repaired `push` keeps the first value for one of the two choices and the second for the other -/
example (v0 v1 : Nat) :
    (((Res.new 1).push v0 0).push v1 1).drain.values = [v0]
    ∧ (((Res.new 1).push v0 0).push v1 0).drain.values = [v1] := by
  simp [Res.push, Res.pushWith, Res.new, Res.drain, fastrandArg]

/-! ## no stream position is favoured: exact counting over all random choices

`vectors cap extra` lists every vector of random choices the code can draw during the pushes
`cap, …, cap + extra - 1` of a stream (the choice for the push that claims index `m` ranges over
`0 .. fastrandArg m`, the range `Reservoir::push` asks `fastrand` for; the first `cap` pushes draw nothing).
`retained cap cs` is what a drain of the model yields after these `n = cap + extra` pushes when the values pushed
are the stream positions `0, 1, …, n-1` themselves.  `retainCount cap extra i` counts the vectors retaining `i`. -/

/-- `vectors` is exactly the product of the ranges the code asks for: a vector belongs to it iff it has one entry
    per sampling push and entry `t` lies in `0 .. fastrandArg (cap + t)` … -/
theorem vectors_complete (cap extra : Nat) (cs : List Nat) :
    cs ∈ vectors cap extra ↔ cs.length = extra ∧ ∀ t (h : t < cs.length), cs[t] < fastrandArg (cap + t) :=
  mem_vectors_iff cap extra cs

/-- … and lists each such vector once, so counting list entries is counting choice vectors -/
theorem vectors_distinct (cap extra : Nat) : (vectors cap extra).Nodup := vectors_nodup cap extra

/-- the number of choice vectors grows by the factor `n + 1` with the push that claims index `n = cap + extra`
    (so there are `(cap+1)(cap+2)⋯n` of them) -/
theorem vectors_count (cap extra : Nat) :
    (vectors cap 0).length = 1 ∧ (vectors cap (extra + 1)).length = (vectors cap extra).length * (cap + extra + 1) :=
  ⟨rfl, vectors_length_succ cap extra⟩

/-- what is retained is always a set of `cap` distinct stream positions below `n` -/
theorem retained_positions (cap extra : Nat) (cs : List Nat) (h : cs ∈ vectors cap extra) :
    (retained cap cs).length = cap ∧ (retained cap cs).Nodup ∧ ∀ p ∈ retained cap cs, p < cap + extra := by
  have g := vectors_good cap extra cs h
  rw [retained_eq_slots h]
  exact ⟨g.len, g.nd, g.lt⟩

/-- **retained_values.** `retained` speaks about arbitrary values, not only about positions: for ANY stream
    `f 0, f 1, …` (so any f64 bit patterns, repeated or not), pushing its first `cap + cs.length` values — the first
    `cap` with any unconsulted raw numbers `cs0`, the rest with the choices `cs` — and draining yields exactly the
    values at the retained stream positions. -/
theorem retained_values (f : Nat → Nat) (cap : Nat) (cs0 cs : List Nat) (h0 : cs0.length = cap) :
    ((cs0 ++ cs).foldl (fun r c => r.push (f r.count) c) (Res.new cap)).drain.values = (retained cap cs).map f :=
  drain_values_of_positions f cap cs0 cs h0

/-- **uniform.** For every capacity, every stream length `n = cap + extra ≥ cap` and every stream position
    `i < n`: (number of choice vectors under which position `i` is retained) × `n` = `cap` × (number of choice
    vectors).  I.e. with a uniform generator every position is retained with probability exactly `cap / n`.
    Exact counting, by induction on the stream length; no sampling. -/
theorem uniform (cap extra i : Nat) (hi : i < cap + extra) :
    retainCount cap extra i * (cap + extra) = cap * (vectors cap extra).length :=
  retainCount_mul cap extra i hi

/-- `uniform` in the wording of the property: more values than the capacity (`cap < n`), position `i < n` -/
theorem uniform_n (cap n i : Nat) (h : cap < n) (hi : i < n) :
    ((vectors cap (n - cap)).countP (fun cs => decide (i ∈ retained cap cs))) * n
      = cap * (vectors cap (n - cap)).length := by
  have e : cap + (n - cap) = n := Nat.add_sub_of_le (Nat.le_of_lt h)
  have := uniform cap (n - cap) i (by rw [e]; exact hi)
  rwa [e] at this

/-- the statement has teeth: for the code before the repair (choices for index `m` drawn from `0..m`) it is false —
    capacity 1, two pushes: the only choice vector is `[0]`, it retains position 1, never position 0 -/
theorem old_not_uniform :
    ∀ c, c < 1 → (((Res.new 1).pushOld 0 0).pushOld 1 c).drain.values = [1] := by
  intro c _; exact old_first_never_retained 0 1 0 c

/-! ### tests (kernel-evaluated sanity checks of the definitions on small instances; not the general claim) -/

example : (vectors 1 2).length = 6 ∧ (List.range 3).map (retainCount 1 2) = [2, 2, 2] := by decide +kernel
-- 24·5 = 2·60
example : (vectors 2 3).length = 60 ∧ (List.range 5).map (retainCount 2 3) = [24, 24, 24, 24, 24] := by decide +kernel
example : (vectors 0 3).length = 6 ∧ (List.range 3).map (retainCount 0 3) = [0, 0, 0] := by decide +kernel
-- capacity 2, pushes 0..4, choices 2 (miss), 0 (slot 0 := 3), 1 (slot 1 := 4)
example : retained 2 [2, 0, 1] = [3, 4] := by decide +kernel

/-- three cycles on a reservoir of capacity 2 (the A/B halves alternate): below, at and above capacity -/
example :
    let a0 := ASR.new 2
    let a1 := run a0 [.push 10 0]
    let (a1', d1) := a1.consume
    let a2 := run a1' [.push 20 0, .push 21 0]
    let (a2', d2) := a2.consume
    let a3 := run a2' [.push 30 0, .push 31 0, .push 32 1, .push 33 3, .push 34 0]
    let d3 := a3.consume.2
    d1.values = [10] ∧ d1.rate = (1, 1)
    ∧ d2.values = [20, 21] ∧ d2.rate = (1, 1)
    ∧ d3.values = [34, 32] ∧ d3.unsampled = 5 ∧ d3.rate = (2, 5) := by decide +kernel

/-- the hypotheses of `drain_all` and the else-branch of `rate_exact` are both inhabited -/
example : (pendOf [.push 1 0, .consume, .push 7 0, .push 8 0]).length ≤ 2
    ∧ ¬ (pendOf [.push 1 0, .push 2 0, .push 3 0]).length ≤ 2 := by decide +kernel

/-- capacity 0: pushing is harmless, the drain yields nothing and reports rate 0/3 -/
example :
    let a := run (ASR.new 0) [.push 5 0, .push 6 1, .push 7 2]
    a.consume.2.values = [] ∧ a.consume.2.rate = (0, 3) ∧ a.primary.panicked = false := by decide +kernel

/-- `uniform` is about non-trivial sets: with capacity 2 and 4 pushes there are 12 choice vectors and position 0
    is retained under exactly 6 of them -/
example : (vectors 2 2).length = 12 ∧ retainCount 2 2 0 = 6 ∧ [0, 0] ∈ vectors 2 2 ∧ [2, 3] ∈ vectors 2 2 := by
  decide +kernel

/-! ### source facts (regenerated from /repo on every run)

The model's `push` claims an index with one RMW on `count`, stores into a slot, and asks the generator for a
number below `idx + 1`; `consume` swaps the active side under the `swap` lock and drains the side that WAS
active; dropping the drain resets that side's count.  These are the program points the theorems above are
about; the translator reads them off the source. -/

open MetricsVerif.Src in
theorem src_reservoir_shape :
    names Generated.shape_reservoir_push = ["count.fetch_add", "values.store", "values.store"]
    ∧ Generated.reservoir_choice_range = "idx + 1"
    ∧ names Generated.shape_reservoir_drain = ["count.load"]
    ∧ names Generated.shape_reservoir_drain_drop = ["count.store"]
    ∧ names Generated.shape_reservoir_outer_push = ["use_primary.load", "primary.push", "secondary.push"]
    ∧ names Generated.shape_reservoir_consume
        = ["swap.lock", "use_primary.load", "use_primary.store", "primary.drain", "secondary.drain"]
    ∧ names Generated.shape_reservoir_is_empty = ["use_primary.load", "count.load", "count.load"] :=
  ⟨rfl, rfl, rfl, rfl, rfl, rfl, rfl⟩

open MetricsVerif.Src in
/-- the side switch is published with Release and observed with Acquire by the next consumer; the reset of the
    drained side is a Release store -/
theorem src_reservoir_orderings :
    allRelease Generated.shape_reservoir_consume "use_primary.store" = true
    ∧ allAcquire Generated.shape_reservoir_consume "use_primary.load" = true
    ∧ allRelease Generated.shape_reservoir_drain_drop "count.store" = true :=
  ⟨rfl, rfl, rfl⟩

/-- what the step machine relies on and no run on x86 can see: `consume` keeps the guard in a NAMED binding (a `_`
    pattern would release the lock at once); `Drain::drop` stores 0; the index a push works with is the result of
    its own `fetch_add` and `impl Reservoir` reads `count` in one place only (`drain`), so the replacement step cannot
    observe a reset; `fastrand` draws from `0..upper`; `sample_rate` divides `len` by `unsampled_len` as `f64` -/
theorem src_reservoir_guard_and_reset :
    Generated.reservoir_consume_guard_binding = "_guard"
    ∧ Generated.reservoir_drop_store_args = "0, Release"
    ∧ Generated.reservoir_push_idx_source = "self.count.fetch_add(1, Relaxed)"
    ∧ Generated.reservoir_inner_count_loads = 1
    ∧ Generated.reservoir_fastrand_range = "0..upper"
    ∧ Generated.reservoir_sample_rate_body
        = "{ if self.unsampled_len == self.len { 1.0 } else { self.len as f64 / self.unsampled_len as f64 } }" :=
  ⟨rfl, rfl, rfl, rfl, rfl, rfl⟩

/-- the DogStatsD wiring of the sampled histogram: `sampling = true` selects the reservoir with the configured size,
    the flush hands on the drain's own `sample_rate()`, the default size is 1024 -/
theorem src_dogstatsd_sampled_wiring :
    Generated.dogstatsd_histogram_new_body
      = "{ if sampling { AtomicHistogram::Sampled(AtomicSamplingReservoir::new(reservoir_size)) } else { AtomicHistogram::Raw(AtomicBucket::new()) } }"
    ∧ Generated.dogstatsd_histogram_flush_sampled_rate = "Some(values.sample_rate())"
    ∧ Generated.dogstatsd_default_reservoir_size = "1024"
    ∧ Generated.dogstatsd_storage_histogram_body
      = "{ Arc::new(AtomicHistogram::new(self.histogram_sampling, self.histogram_reservoir_size)) }" :=
  ⟨rfl, rfl, rfl, rfl⟩

/-! ## the `Drain` OBJECT, read in every way a closure can read it

`Model/Reservoir.DrainIt` is the iterator object (`idx`, `len`, `unsampled_len`), `next` its only own method
(`src_drain_iterator_inventory`); `nth`, the collecting loops and the `by_ref()` adaptors are the trait's default
methods, i.e. loops over `next`.  The harness runs random closure scripts on the real `Drain` (`reservoir consumes`),
including calls made after `next()` has returned `None`, `nth` past the end and the by-value consumers `count`,
`last`, `sum`, `fold`, `collect`, `for_each`, `skip`, `size_hint`. -/

/-- **drain_iter_any_script.** However the closure reads the `Drain` — any sequence of `next()`, `nth(k)`, `len()`,
    `sample_rate()` and exhausting loops, in any order, also after the iterator has returned `None` — the values it
    is handed, in order, are a sublist of the values of `drain_sound`: every slot is handed out at most once, never
    more than `capacity` values in total, and each value no more often than it was pushed since the previous drain. -/
theorem drain_iter_any_script (cap : Nat) (ops : List Op) (script : List ItOp) :
    let a := run (ASR.new cap) ops
    let outs := (a.active.drainIt.runIt script).2
    outs.Sublist a.consume.2.values
    ∧ outs.length ≤ cap
    ∧ ∀ x, outs.count x ≤ (pendOf ops).count x := by
  intro a outs
  have hs := (runIt_reads script a.active.drainIt (drainIt_wf _)).sub
  have hsub : outs.Sublist a.consume.2.values := by
    rw [consume_out, ← drainIt_rest]
    exact (List.sublist_append_left _ _).trans hs
  have hd := drain_sound cap ops
  refine ⟨hsub, ?_, fun x => ?_⟩
  · have := hsub.length_le
    have h2 : a.consume.2.values.length = min (pendOf ops).length cap := hd.2.1
    omega
  · exact Nat.le_trans (hsub.count_le x) (hd.1 x)

/-- **drain_iter_fused.** `next()` never rewinds: once it has returned `None` the object is unchanged, and nothing a
    closure does afterwards yields a value again. -/
theorem drain_iter_fused (d : DrainIt) (w : d.WF) (h : d.next.2 = none) :
    d.next.1 = d ∧ ∀ script, (d.runIt script).2 = [] := by
  have hn : ¬ d.idx < d.len := by
    intro hlt; rw [next_some d hlt] at h; simp at h
  refine ⟨by rw [next_none d hn], fun script => ?_⟩
  have hs := (runIt_reads script d w).sub
  rw [rest_nil d hn] at hs
  have := List.eq_nil_of_sublist_nil hs
  exact (List.append_eq_nil_iff.mp this).1

/-- **drain_iter_collect_is_drain.** The plain loop over the object (`for v in drain`, `collect`, `fold`) yields
    exactly the values of `Res.drain` — the list every theorem above speaks about —, `len()` announces exactly that
    number beforehand, `sample_rate()` is the rate of `rate_exact`, and the loop leaves the iterator exhausted. -/
theorem drain_iter_collect_is_drain (r : Res) :
    r.drainIt.pullAll.2 = r.drain.values
    ∧ r.drainIt.remaining = r.drain.values.length
    ∧ r.drainIt.pullAll.1.next.2 = none
    ∧ r.drainIt.rate = r.drain.rate := by
  have w := drainIt_wf r
  rw [pullAll_spec _ w, ← drainIt_rest, rest_length _ w]
  refine ⟨rfl, rfl, ?_, rfl⟩
  rw [next_none _ (by simp)]

/-- **drain_iter_len_exact.** At every moment of every closure script `len()` is exactly the number of values the
    object will still yield, and `sample_rate()` is still the rate of the whole drain (it does not depend on how
    much has been read). -/
theorem drain_iter_len_exact (r : Res) (script : List ItOp) :
    let d := (r.drainIt.runIt script).1
    d.remaining = d.pullAll.2.length ∧ d.rate = r.drain.rate := by
  intro d
  have h := runIt_reads script r.drainIt (drainIt_wf r)
  refine ⟨?_, ?_⟩
  · rw [pullAll_spec d h.wf, rest_length d h.wf]
  · have hl : d.len = r.drainIt.len := h.later.len
    have hu : d.unsampled = r.drainIt.unsampled := h.later.unsampled
    simp only [DrainIt.rate, hl, hu]; rfl

/-- **builder_last_setting_wins.** For every chain of builder calls the configuration that reaches
    `AtomicHistogram::new` is the LAST `with_histogram_sampling` argument (or the default of the code, `false`) and
    the LAST `with_histogram_reservoir_size` argument (or 1024) — unchanged, not rounded, not clamped. -/
theorem builder_last_setting_wins (calls : List BOp) :
    (Builder.configure calls).sampling = (lastSampling calls).getD false
    ∧ (Builder.configure calls).size = (lastSize calls).getD 1024 :=
  configure_fold calls Builder.default

/-- **builder_sampled_histogram_has_configured_capacity.** When the last `with_histogram_sampling` call said `true`,
    every histogram of the exporter is a sampling reservoir whose capacity is exactly the configured size (any size,
    0 included), so after any history its drain yields `min(pushed, configured size)` values. -/
theorem builder_sampled_histogram_has_configured_capacity (calls : List BOp)
    (h : lastSampling calls = some true) (ops : List Op) :
    (Builder.configure calls).histogram = .sampled (ASR.new ((lastSize calls).getD 1024))
    ∧ (run (ASR.new ((lastSize calls).getD 1024)) ops).consume.2.values.length
        = min (pendOf ops).length ((lastSize calls).getD 1024) := by
  have hc := builder_last_setting_wins calls
  refine ⟨?_, (drain_sound _ ops).2.1⟩
  simp [Builder.histogram, hc.1, hc.2, h]

/-- **builder_default_is_unsampled.** The CODE's default is the raw bucket: a builder on which
    `with_histogram_sampling` was never called (or last called with `false`) creates no reservoir at all, whatever
    size was configured.  (The doc comment of `with_histogram_sampling` says "Defaults to `true`"; `impl Default` sets `false`.) -/
theorem builder_default_is_unsampled (calls : List BOp) (h : (lastSampling calls).getD false = false) :
    (Builder.configure calls).histogram = .raw := by
  simp [Builder.histogram, (builder_last_setting_wins calls).1, h]

/-- what `DrainIt` relies on: `Drain` has exactly these impl blocks; `impl Iterator for Drain` defines `next` and
    nothing else (so `nth`, `count`, `last`, `fold`, `size_hint`, … are the trait's default loops over `next`, as in
    the model — an overriding method added later breaks this fact), `ExactSizeIterator` only `len`; `next` reads slot
    `idx` while `idx < len` and otherwise returns `None` WITHOUT touching `idx`; `len` is `len - idx`; and past the
    verification override `fastrand` is one draw of the thread-local generator from `0..upper`, nothing else -/
theorem src_drain_iterator_inventory :
    Generated.reservoir_drain_impls
      = ["Drain<'a>", "Drop for Drain<'a>", "ExactSizeIterator for Drain<'_>", "Iterator for Drain<'a>"]
    ∧ Generated.reservoir_drain_iterator_fns = ["next"]
    ∧ Generated.reservoir_drain_exactsize_fns = ["len"]
    ∧ Generated.reservoir_drain_inherent_fns = ["sample_rate"]
    ∧ Generated.reservoir_drain_next_body
      = "{ if self.idx < self.len { let value = f64::from_bits(self.reservoir.values[self.idx].load(Relaxed)); self.idx += 1; Some(value) } else { None } }"
    ∧ Generated.reservoir_drain_len_body = "{ self.len - self.idx }"
    ∧ Generated.reservoir_fastrand_real_body
      = "{ let rng = UNSAFE { &mut *rng.get() }; rng.random_range(0..upper) }" :=
  ⟨rfl, rfl, rfl, rfl, rfl, rfl, rfl⟩

/-- the path of the two sampling settings from the builder to `AtomicHistogram::new` (`Builder.configure`,
    `Builder.histogram`): each setter assigns its argument unchanged and these are the only two assignments to the
    fields; `build()` copies both fields into the `StateConfiguration` literal; `Default` has `false` and
    `DEFAULT_HISTOGRAM_RESERVOIR_SIZE`; `State::new` hands both to `ClientSideAggregatedStorage::new`, which stores
    them (and `histogram()` passes them on: `src_dogstatsd_sampled_wiring`) -/
theorem src_dogstatsd_builder_wiring :
    Generated.dogstatsd_builder_with_sampling_body = "{ self.histogram_sampling = histogram_sampling; self }"
    ∧ Generated.dogstatsd_builder_with_size_body = "{ self.histogram_reservoir_size = reservoir_size; self }"
    ∧ Generated.dogstatsd_builder_histogram_field_writes = 2
    ∧ Generated.dogstatsd_builder_build_histogram_fields
      = ["histogram_sampling: self.histogram_sampling", "histogram_reservoir_size: self.histogram_reservoir_size"]
    ∧ Generated.dogstatsd_builder_default_histogram_fields
      = ["histogram_sampling: false", "histogram_reservoir_size: DEFAULT_HISTOGRAM_RESERVOIR_SIZE"]
    ∧ Generated.dogstatsd_state_new_body
      = "{ State { registry: Registry::new(ClientSideAggregatedStorage::new( config.histogram_sampling, config.histogram_reservoir_size, )), config, } }"
    ∧ Generated.dogstatsd_storage_new_body = "{ Self { histogram_sampling, histogram_reservoir_size } }" :=
  ⟨rfl, rfl, rfl, rfl, rfl, rfl, rfl⟩

/-! non-vacuity of the iterator and builder statements on concrete inputs -/
example : ((Res.new 2 |>.push 7 0 |>.push 8 0 |>.push 9 1).drainIt.runIt [.next, .len, .nth 5, .next, .collect]).2 = [7] := by decide +kernel
example : ((Res.new 3 |>.push 7 0 |>.push 8 0 |>.push 9 0).drainIt.runIt [.nth 1, .collect, .next]).2 = [8, 9] := by decide +kernel
example : (Builder.configure [.size 4, .sampling true, .size 7]).histogram = .sampled (ASR.new 7) := by decide +kernel
example : (Builder.configure [.size 4]).histogram = .raw := by decide +kernel

/-- what the drains of a history report in total: the sum of `unsampled_len` over every `consume` of `ops`, started
    in state `a` (each drain read through the model's own `ASR.consume`, not through the ghost `pendOf`) -/
def reportedTotal (a : ASR) : List Op → Nat
  | [] => 0
  | .push v c :: ops => reportedTotal (a.push v c) ops
  | .consume :: ops => a.consume.2.unsampled + reportedTotal a.consume.1 ops

/-- the values the drains of a history hand out in total -/
def yieldedTotal (a : ASR) : List Op → Nat
  | [] => 0
  | .push v c :: ops => yieldedTotal (a.push v c) ops
  | .consume :: ops => a.consume.2.values.length + yieldedTotal a.consume.1 ops

/-- number of `push` operations of a history -/
def pushesIn : List Op → Nat
  | [] => 0
  | .push _ _ :: ops => pushesIn ops + 1
  | .consume :: ops => pushesIn ops

/-- from any state of a sequential history (values `pend` pushed since the last drain): every push of `ops` is
    reported by a drain of `ops` or still pending at the end, and no drain yields more than it reports -/
theorem conservation_from {cap : Nat} (ops : List Op) : ∀ {a : ASR} {pend : List Nat}, AInv cap a pend →
    reportedTotal a ops + (ops.foldl pendStep pend).length = pend.length + pushesIn ops
    ∧ yieldedTotal a ops ≤ reportedTotal a ops := by
  induction ops with
  | nil => intro a pend _; exact ⟨Nat.zero_add _, Nat.le_refl _⟩
  | cons op ops ih =>
    intro a pend h
    cases op with
    | push v c =>
      obtain ⟨h1, h2⟩ := ih (h.push v c)
      rw [List.length_append] at h1
      exact ⟨h1.trans (Nat.add_right_comm _ _ _), h2⟩
    | consume =>
      obtain ⟨h1, h2⟩ := ih h.consume
      have e := h.exact
      refine ⟨?_, Nat.add_le_add e.length_le h2⟩
      show a.consume.2.unsampled + reportedTotal a.consume.1 ops + (ops.foldl pendStep []).length
        = pend.length + pushesIn ops
      rw [Nat.add_assoc, h1, e.unsampled, List.length_nil, Nat.zero_add]

/-- **counts_conserved.** Over ANY sequential history (any capacity including 0, any number of push/drain cycles, any
    values and random choices) the numbers the drains report add up to the truth: the sum of `unsampled_len` over all
    drains of the history, plus the values still pending at its end, is exactly the number of pushes made — no push is
    ever counted twice, in two cycles, or not at all.  (`drain_sound`/`rate_exact` are the per-drain statements; this is
    their lift to whole histories, with the drains read from the model's `consume`, not from the ghost.) -/
theorem counts_conserved (cap : Nat) (ops : List Op) :
    reportedTotal (ASR.new cap) ops + (pendOf ops).length = pushesIn ops := by
  have h := (conservation_from ops (AInv.new cap)).1
  rwa [List.length_nil, Nat.zero_add] at h

/-- **yield_never_exceeds_report.** Over any history the drains never hand out more values than they report pushed, and
    a history that ends with a drain has reported every push. -/
theorem yield_never_exceeds_report (cap : Nat) (ops : List Op) :
    yieldedTotal (ASR.new cap) ops ≤ reportedTotal (ASR.new cap) ops
    ∧ reportedTotal (ASR.new cap) (ops ++ [Op.consume]) = pushesIn (ops ++ [Op.consume]) := by
  refine ⟨(conservation_from ops (AInv.new cap)).2, ?_⟩
  have h := counts_conserved cap (ops ++ [Op.consume])
  rwa [pendOf, List.foldl_append, List.foldl_cons, List.foldl_nil, pendStep] at h

example : reportedTotal (ASR.new 1) [.push 7 0, .push 8 0, .consume, .push 9 0, .consume, .push 1 0] = 3
    ∧ yieldedTotal (ASR.new 1) [.push 7 0, .push 8 0, .consume, .push 9 0, .consume, .push 1 0] = 2
    ∧ pushesIn [.push 7 0, .push 8 0, .consume, .push 9 0, .consume, .push 1 0] = 4 := by decide +kernel

end MetricsVerif.C16
