/-
C03 — Key equality, ordering and hashing agree and ignore how a key was built.

Model: `Model/Key.lean` — `Key.eq`, `Key.cmp`, `hashStream` follow `impl PartialEq / Ord / Hash for Key`
(metrics/src/key.rs, with the fix-C03 repair of `Ord`) arm by arm; `step`/`run` is `Key::get_hash` at the
granularity of one atomic operation, together with `Clone for Key::clone` (two thread-local `Cow` clones, then the
two loads of the memo) so that `clone()` racing with first `get_hash()` calls is inside the model
(`clone_coherent`, `clone_get_hash_stable`); `CompositeKey.eq/.cmp` follow the derives of
`metrics_util::CompositeKey`.  All theorems are for ALL keys (any strings, any number of labels, repeated
names, repeated labels), all permutations, all schedules and any number of threads.

Construction independence is by construction in the model (it sees content only) and is carried by the
correspondence run, which builds every key through every public path and compares each with this model.

The statements are about the repaired code.  Before the repair `eq_iff_cmp_eq` is false: see the `example`
headed **cmp incoherent before the fix** among the test vectors (two labels with the same name, values swapped).
-/
import MetricsVerif.Proofs.Key
import MetricsVerif.Generated.SourceFacts

namespace MetricsVerif.C03
open MetricsVerif.Key

/-! ## `==` is equality of canonical forms, hence an equivalence -/

/-- `a == b` exactly when name, label count and the labels in canonical order (0/1 labels as given, 2 labels
    ordered by the whole label, ≥ 3 labels stably sorted by name) coincide. -/
theorem eq_iff_canon (a b : Key) : Key.eq a b = true ↔ canon a = canon b := by
  unfold Key.eq canon
  by_cases hn : a.name = b.name
  · by_cases hl : a.labels.length = b.labels.length
    · simp [hn, hl, (arms_canon a.labels b.labels hl).1]
    · simp [hn, hl]
  · simp [hn]

theorem eq_refl (a : Key) : Key.eq a a = true := (eq_iff_canon a a).2 rfl

theorem eq_symm (a b : Key) : Key.eq a b = Key.eq b a := by
  rw [Bool.eq_iff_iff, eq_iff_canon, eq_iff_canon]; exact eq_comm

theorem eq_trans (a b c : Key) (h1 : Key.eq a b = true) (h2 : Key.eq b c = true) : Key.eq a c = true := by
  rw [eq_iff_canon] at *; exact h1.trans h2

/-! ## `cmp` is the lexicographic comparison of the same canonical forms, hence a total order up to `==` -/

/-- `a.cmp(b)` compares `(name, label count, labels in canonical order)` lexicographically -/
theorem cmp_is_compare (a b : Key) : Key.cmp a b = cmpCanon (canon a) (canon b) := by
  unfold Key.cmp cmpCanon canon
  by_cases hl : a.labels.length = b.labels.length
  · rw [(arms_canon a.labels b.labels hl).2]
  · have : cmpNat a.labels.length b.labels.length ≠ .eq := fun e => hl ((goodNat.eq_iff _ _).1 e)
    revert this
    generalize cmpStr a.name b.name = x
    generalize cmpNat a.labels.length b.labels.length = y
    cases x <;> cases y <;> simp [Ordering.then]

/-- **the coherence law**: `a == b` exactly when `a.cmp(b)` is `Equal` -/
theorem eq_iff_cmp_eq (a b : Key) : Key.eq a b = true ↔ Key.cmp a b = .eq := by
  rw [eq_iff_canon, cmp_is_compare, goodCanon.eq_iff]

/-- `cmp` is total and antisymmetric: `b.cmp(a)` is the reverse of `a.cmp(b)`
    (so exactly one of `<`, `Equal`, `>` holds, and `a < b` iff `b > a`) -/
theorem cmp_swap (a b : Key) : Key.cmp b a = (Key.cmp a b).swap := by
  rw [cmp_is_compare, cmp_is_compare]; exact goodCanon.swap _ _

theorem cmp_le_trans (a b c : Key) (h1 : Key.cmp a b ≠ .gt) (h2 : Key.cmp b c ≠ .gt) : Key.cmp a c ≠ .gt := by
  rw [cmp_is_compare] at *; exact goodCanon.le_trans h1 h2

theorem cmp_lt_trans (a b c : Key) (h1 : Key.cmp a b = .lt) (h2 : Key.cmp b c = .lt) : Key.cmp a c = .lt := by
  rw [cmp_is_compare] at *; exact goodCanon.lt_trans _ _ _ h1 h2

/-- antisymmetry in the usual form: `a ≤ b` and `b ≤ a` only for equal keys -/
theorem cmp_antisymm (a b : Key) (h1 : Key.cmp a b ≠ .gt) (h2 : Key.cmp b a ≠ .gt) : Key.eq a b = true := by
  rw [cmp_is_compare] at h1 h2
  exact (eq_iff_canon a b).2 (goodCanon.le_antisymm h1 h2)

/-- equal keys are interchangeable in comparisons -/
theorem cmp_respects_eq (a a' b b' : Key) (ha : Key.eq a a' = true) (hb : Key.eq b b' = true) :
    Key.cmp a b = Key.cmp a' b' := by
  rw [eq_iff_canon] at ha hb
  rw [cmp_is_compare, cmp_is_compare, ha, hb]

/-! ## equal keys hash alike -/

/-- `a == b` implies the `Hash` impl makes the identical sequence of `Hasher` calls -/
theorem eq_hash (a b : Key) (h : Key.eq a b = true) : hashStream a = hashStream b := by
  rw [eq_iff_canon] at h
  simp only [canon, Prod.mk.injEq] at h
  unfold hashStream
  rw [h.1, h.2.1, h.2.2]

/-- … hence, for whatever function of the written data the hasher computes, the same std hash, the same
    `write` calls on `KeyHasher`, and the same `get_hash()` value -/
theorem eq_get_hash (H : List Write → Nat) (a b : Key) (h : Key.eq a b = true) :
    generateKeyHash H a = generateKeyHash H b ∧ keyHasherWrites a = keyHasherWrites b := by
  unfold generateKeyHash keyHasherWrites
  rw [eq_hash a b h]; exact ⟨rfl, rfl⟩

/-! ## label order is irrelevant when label names are pairwise distinct -/

theorem hashOrder_eq_of_perm {l₁ l₂ : List Label} (hp : l₁.Perm l₂) (hd : (l₁.map (·.key)).Nodup) :
    hashOrder l₁ = hashOrder l₂ := by
  have hl := hp.length_eq
  match l₁, l₂, hl, hp, hd with
  | [], [], _, _, _ => rfl
  | [x], [y], _, hp, _ => have := List.singleton_perm_singleton.1 hp; subst this; rfl
  | [x0, x1], [y0, y1], _, hp, hd =>
    simp only [hashOrder]
    have m0 : x0 ∈ [y0, y1] := hp.subset (by simp)
    have m1 : x1 ∈ [y0, y1] := hp.subset (by simp)
    have hne : x0 ≠ x1 := by intro e; subst e; simp at hd
    simp only [List.mem_cons, List.not_mem_nil, or_false] at m0 m1
    rcases m0 with e0 | e0 <;> rcases m1 with e1 | e1
    · exact absurd (e0.trans e1.symm) hne
    · rw [e0, e1]
    · rw [e0, e1]; exact order2_comm _ _
    · exact absurd (e0.trans e1.symm) hne
  | x0 :: x1 :: x2 :: xs, y0 :: y1 :: y2 :: ys, _, hp, hd =>
    simp only [hashOrder]; exact sortByKey_eq_of_perm hp hd

/-- two keys with the same name whose label lists are permutations of each other, label names pairwise
    distinct: `==`, `cmp` is `Equal`, identical `Hasher` call sequence -/
theorem perm_invariant (n : Str) (l₁ l₂ : List Label) (hp : l₁.Perm l₂) (hd : (l₁.map (·.key)).Nodup) :
    Key.eq ⟨n, l₁⟩ ⟨n, l₂⟩ = true ∧ Key.cmp ⟨n, l₁⟩ ⟨n, l₂⟩ = .eq ∧ hashStream ⟨n, l₁⟩ = hashStream ⟨n, l₂⟩ := by
  have he : Key.eq ⟨n, l₁⟩ ⟨n, l₂⟩ = true := by
    rw [eq_iff_canon]; simp only [canon]; rw [hp.length_eq, hashOrder_eq_of_perm hp hd]
  exact ⟨he, (eq_iff_cmp_eq _ _).1 he, eq_hash _ _ he⟩

/-! ## `get_hash()`: one value for the whole life of a key, on every thread, under every interleaving -/

/-- a lazily hashed key (`from_static_parts`, `from_static_labels`, the literal macros), any number `n` of
    threads calling `get_hash()` for the first time, any interleaving of their atomic operations: every call
    that has returned returned `generate_key_hash(name, labels)`. -/
theorem get_hash_stable (H : List Write → Nat) (k : Key) (n : Nat) (sched : List Nat) (t v : Nat)
    (hdone : (run codeOrds (generateKeyHash H k) (freshStatic n) sched).pc t = .done v) :
    v = generateKeyHash H k :=
  (Inv.run sched (inv_freshStatic _ n)).done_eq hdone

/-- the same for an eagerly hashed key (`from_name`, `from_parts`, `with_extra_labels`) -/
theorem get_hash_stable_built (H : List Write → Nat) (k : Key) (n : Nat) (sched : List Nat) (t v : Nat)
    (hdone : (run codeOrds (generateKeyHash H k) (freshBuilt (generateKeyHash H k) n) sched).pc t = .done v) :
    v = generateKeyHash H k :=
  (Inv.run sched (inv_freshBuilt _ n)).done_eq hdone

/-- the memo is never wrong: at every moment, once `hashed` is up, `hash` holds the true value — so every
    later call (a later call is one more thread id) and every `clone()` (which loads `hashed` then `hash`)
    sees it too -/
theorem memo_correct (H : List Write → Nat) (k : Key) (n : Nat) (sched : List Nat) :
    let s := run codeOrds (generateKeyHash H k) (freshStatic n) sched
    s.hashed = true → s.hash = generateKeyHash H k :=
  (Inv.run sched (inv_freshStatic _ n)).hash_of_hashed

/-- a thread stays in the call it started (or idle), whoever steps -/
theorem run_role (o : Ords) (h : Nat) (sched : List Nat) :
    ∀ (s : Sys) (u : Nat), ((run o h s sched).pc u).role = (s.pc u).role := by
  induction sched with
  | nil => intro s u; rfl
  | cons t ts ih =>
    intro s u
    refine (ih (step o h s t) u).trans ?_
    by_cases hu : u = t
    · rw [hu]; exact (step_rank o h s t).2
    · rw [step_pc_other o h s t u hu]

/-- after `k` further steps of its own a thread's remaining work has shrunk by `k` -/
theorem run_own_rank (o : Ords) (h : Nat) (t : Nat) :
    ∀ (k : Nat) (s : Sys), ((run o h s (List.replicate k t)).pc t).rank ≤ (s.pc t).rank - k := by
  intro k
  induction k with
  | zero => exact fun s => Nat.le_refl _
  | succ k ih =>
    intro s
    calc ((run o h (step o h s t) (List.replicate k t)).pc t).rank
      _ ≤ ((step o h s t).pc t).rank - k := ih _
      _ ≤ (s.pc t).rank - 1 - k := Nat.sub_le_sub_right (step_rank o h s t).1 k
      _ = (s.pc t).rank - (k + 1) := by rw [Nat.sub_sub, Nat.add_comm]

/-- nobody waits for anybody: whatever happened before (`sched`), after as many further steps of its own as its
    call takes at most, a thread has no work left — and is still in the call it started -/
theorem finishes (o : Ords) (h : Nat) (s : Sys) (sched : List Nat) (t k : Nat) (hk : (s.pc t).role.steps ≤ k) :
    ((run o h s (sched ++ List.replicate k t)).pc t).rank = 0
    ∧ ((run o h s (sched ++ List.replicate k t)).pc t).role = (s.pc t).role := by
  refine ⟨?_, run_role ..⟩
  have r := run_own_rank o h t k (run o h s sched)
  have b := ((run o h s sched).pc t).rank_le
  rw [run_role] at b
  rw [run_append]
  omega

/-- no call of `get_hash()` waits for another thread — whatever the other callers of `get_hash()` and `clone()`
    have done so far, and whatever the key's memo was constructed with (consistently): after at most three
    further steps of its own the caller has returned, and it returned the true hash -/
theorem get_hash_returns_mixed (H : List Write → Nat) (k : Key) (f0 : Bool) (v0 : Nat)
    (hc : f0 = true → v0 = generateKeyHash H k) (roles : Nat → Role) (sched : List Nat) (t : Nat)
    (ht : roles t = .hasher) :
    (run codeOrds (generateKeyHash H k) (freshOf f0 v0 roles) (sched ++ [t, t, t])).pc t = .done (generateKeyHash H k) := by
  have hr : ((freshOf f0 v0 roles).pc t).role = .hasher := by show (roles t).start.role = _; rw [ht]; rfl
  have fin := finishes codeOrds (generateKeyHash H k) (freshOf f0 v0 roles) sched t 3 (by rw [hr]; exact Nat.le_refl 3)
  have hp := PC.of_rank_zero _ fin.1
  rw [fin.2, hr] at hp
  obtain ⟨v, hv⟩ := hp
  exact hv.trans (congrArg PC.done ((Inv.run _ (inv_freshOf _ f0 v0 roles hc)).done_eq hv))

/-- no call waits for another thread: whatever happened before, a calling thread has returned after at most
    three further steps of its own — and (with `get_hash_stable`) what it returned is the true hash -/
theorem get_hash_returns (H : List Write → Nat) (k : Key) (n : Nat) (sched : List Nat) (t : Nat) (ht : t < n) :
    (run codeOrds (generateKeyHash H k) (freshStatic n) (sched ++ [t, t, t])).pc t = .done (generateKeyHash H k) := by
  rw [freshStatic_eq]
  exact get_hash_returns_mixed H k false 0 nofun _ sched t (if_pos ht)

/-! ## `clone()` racing with first `get_hash()` calls, and `get_hash()` on the clone -/

/-- `get_hash_stable` with `clone()` callers in the mix, for a key whose memo was constructed consistently
    (`from_static_*`: `false, 0`; `builder`: `true, hash`; a clone: see `clone_coherent`): any number of threads,
    each calling `get_hash()` or `clone()` on the shared key, any interleaving of their atomic operations —
    every `get_hash()` that has returned returned the true hash -/
theorem get_hash_stable_mixed (H : List Write → Nat) (k : Key) (f0 : Bool) (v0 : Nat)
    (hc : f0 = true → v0 = generateKeyHash H k) (roles : Nat → Role) (sched : List Nat) (t v : Nat)
    (hdone : (run codeOrds (generateKeyHash H k) (freshOf f0 v0 roles) sched).pc t = .done v) :
    v = generateKeyHash H k :=
  (Inv.run sched (inv_freshOf _ f0 v0 roles hc)).done_eq hdone

/-- **a clone never carries a wrong memo**: in the same setting, a `clone()` that has returned a key with
    `hashed = true` copied the true hash into it — also when it raced with the first `get_hash()` calls.
    (With `hashed = false` the copied value is never looked at: the clone rehashes.) -/
theorem clone_coherent (H : List Write → Nat) (k : Key) (f0 : Bool) (v0 : Nat)
    (hc : f0 = true → v0 = generateKeyHash H k) (roles : Nat → Role) (sched : List Nat) (t : Nat) (f : Bool) (v : Nat)
    (hdone : (run codeOrds (generateKeyHash H k) (freshOf f0 v0 roles) sched).pc t = .cloned f v) :
    f = true → v = generateKeyHash H k := by
  intro hf; subst hf
  exact (Inv.run sched (inv_freshOf _ f0 v0 roles hc)).cloned_eq hdone

/-- **`clone` is a neutral construction path for `get_hash()`**: take any clone made under any interleaving
    with `get_hash()` / `clone()` callers of the original; share the clone among any number of threads calling
    `get_hash()` or `clone()` on it, under any interleaving: every `get_hash()` on the clone returns the true
    hash of the (equal) content, and clones of the clone are coherent again -/
theorem clone_get_hash_stable (H : List Write → Nat) (k : Key) (f0 : Bool) (v0 : Nat)
    (hc : f0 = true → v0 = generateKeyHash H k) (roles : Nat → Role) (sched : List Nat) (t : Nat) (f : Bool) (v : Nat)
    (hdone : (run codeOrds (generateKeyHash H k) (freshOf f0 v0 roles) sched).pc t = .cloned f v)
    (roles' : Nat → Role) (sched' : List Nat) (u : Nat) :
    (∀ w, (run codeOrds (generateKeyHash H k) (freshOf f v roles') sched').pc u = .done w → w = generateKeyHash H k)
    ∧ (∀ f' w, (run codeOrds (generateKeyHash H k) (freshOf f v roles') sched').pc u = .cloned f' w →
        f' = true → w = generateKeyHash H k) :=
  have hc' := clone_coherent H k f0 v0 hc roles sched t f v hdone
  ⟨fun w hw => get_hash_stable_mixed H k f v hc' roles' sched' u w hw,
   fun f' w hw => clone_coherent H k f v hc' roles' sched' u f' w hw⟩

/-- `clone()` does not wait for anybody either: four steps of its own (two of them thread-local) -/
theorem clone_returns (H : List Write → Nat) (k : Key) (f0 : Bool) (v0 : Nat) (roles : Nat → Role)
    (sched : List Nat) (t : Nat) (ht : roles t = .cloner) :
    ∃ f v, (run codeOrds (generateKeyHash H k) (freshOf f0 v0 roles) (sched ++ [t, t, t, t])).pc t = .cloned f v := by
  have hr : ((freshOf f0 v0 roles).pc t).role = .cloner := by show (roles t).start.role = _; rw [ht]; rfl
  have fin := finishes codeOrds (generateKeyHash H k) (freshOf f0 v0 roles) sched t 4 (by rw [hr]; exact Nat.le_refl 4)
  have hp := PC.of_rank_zero _ fin.1
  rwa [fin.2, hr] at hp

/-! ## `CompositeKey` (metrics-util) inherits the coherence law -/

/-- `CompositeKey(kind, key)`: `a == b` exactly when `a.cmp(b)` is `Equal` — in particular two composite keys of
    different kinds are never `==`, whatever their keys -/
theorem ckey_eq_iff_cmp_eq (a b : CompositeKey) : CompositeKey.eq a b = true ↔ CompositeKey.cmp a b = .eq := by
  unfold CompositeKey.eq CompositeKey.cmp
  rw [Ordering.then_eq_eq, goodNat.eq_iff, Bool.and_eq_true, eq_iff_cmp_eq, beq_iff_eq]
  constructor
  · intro ⟨h1, h2⟩; exact ⟨by rw [h1], h2⟩
  · intro ⟨h1, h2⟩
    refine ⟨?_, h2⟩
    revert h1; cases a.kind <;> cases b.kind <;> simp [Kind.discr]

/-- `==` of composite keys is equality of kind and of the keys' canonical forms -/
theorem ckey_eq_iff (a b : CompositeKey) : CompositeKey.eq a b = true ↔ (a.kind = b.kind ∧ canon a.key = canon b.key) := by
  unfold CompositeKey.eq
  rw [Bool.and_eq_true, beq_iff_eq, eq_iff_canon]

/-! ## the operators and provided methods agree with `==` and `cmp` -/

/-- `==` as one more reading of `cmp`: with it every operator below is a function of `a.cmp(b)` alone -/
theorem eq_eq_cmp (a b : Key) : Key.eq a b = (Key.cmp a b == .eq) := by
  rw [Bool.eq_iff_iff, eq_iff_cmp_eq, beq_iff_eq]

/-- `a != b` exactly when `a.cmp(b)` is not `Equal` (so `!=` and `==` are never both true or both false, and `!=`
    ignores label order exactly where `==` does) -/
theorem ne_iff_cmp_ne (a b : Key) : Key.ne a b = true ↔ Key.cmp a b ≠ .eq := by
  unfold Key.ne
  rw [eq_eq_cmp]
  cases Key.cmp a b <;> decide

/-- `partial_cmp` is `Some(cmp)`; `<`, `<=`, `>`, `>=` are the four readings of `cmp` -/
theorem ops_read_cmp (a b : Key) :
    Key.partialCmp a b = some (Key.cmp a b)
    ∧ (Key.lt a b = true ↔ Key.cmp a b = .lt) ∧ (Key.gt a b = true ↔ Key.cmp a b = .gt)
    ∧ (Key.le a b = true ↔ Key.cmp a b ≠ .gt) ∧ (Key.ge a b = true ↔ Key.cmp a b ≠ .lt) := by
  unfold Key.lt Key.gt Key.le Key.ge Key.partialCmp
  cases Key.cmp a b <;> decide

/-- `a <= b` is `a < b || a == b`, `a >= b` is `a > b || a == b` (the operators of `PartialOrd` and the `==` of
    `PartialEq` are two different impls in key.rs; that they fit together is the coherence law again) -/
theorem le_iff_lt_or_eq (a b : Key) :
    Key.le a b = (Key.lt a b || Key.eq a b) ∧ Key.ge a b = (Key.gt a b || Key.eq a b) := by
  rw [eq_eq_cmp]
  unfold Key.le Key.lt Key.ge Key.gt Key.partialCmp
  cases Key.cmp a b <;> exact ⟨rfl, rfl⟩

/-- `a > b` is `b < a`, `a >= b` is `b <= a` -/
theorem gt_is_lt_swapped (a b : Key) : Key.gt a b = Key.lt b a ∧ Key.ge a b = Key.le b a := by
  unfold Key.gt Key.lt Key.ge Key.le Key.partialCmp
  rw [cmp_swap a b]
  cases Key.cmp a b <;> exact ⟨rfl, rfl⟩

/-- exactly one of `a < b`, `a == b`, `a > b` -/
theorem trichotomy (a b : Key) :
    (Key.lt a b = true ∧ Key.eq a b = false ∧ Key.gt a b = false)
    ∨ (Key.lt a b = false ∧ Key.eq a b = true ∧ Key.gt a b = false)
    ∨ (Key.lt a b = false ∧ Key.eq a b = false ∧ Key.gt a b = true) := by
  rw [eq_eq_cmp]
  unfold Key.lt Key.gt Key.partialCmp
  cases Key.cmp a b <;> decide

/-- `max` and `min` return the two arguments, one each (for equal keys: `min` the first, `max` the second) -/
theorem max_min_pick (a b : Key) :
    (Key.min a b = a ∧ Key.max a b = b) ∨ (Key.min a b = b ∧ Key.max a b = a) := by
  cases hc : Key.cmp a b <;> simp [Key.min, Key.max, hc]

/-- `min(a, b) <= max(a, b)`, and both are symmetric up to `==` -/
theorem min_le_max (a b : Key) :
    Key.le (Key.min a b) (Key.max a b) = true
    ∧ Key.eq (Key.max a b) (Key.max b a) = true ∧ Key.eq (Key.min a b) (Key.min b a) = true := by
  have ca := (eq_iff_cmp_eq a a).1 (eq_refl a)
  have cb := (eq_iff_cmp_eq b b).1 (eq_refl b)
  simp only [eq_eq_cmp]
  unfold Key.min Key.max Key.le Key.partialCmp
  rw [cmp_swap a b]
  cases hc : Key.cmp a b <;> simp [Ordering.swap, hc, cmp_swap a b, ca, cb]

/-- `x.clamp(lo, hi)` with `lo <= hi` lies between `lo` and `hi` and is `x` itself whenever `x` already does -/
theorem clamp_between (x lo hi : Key) (h : Key.cmp lo hi ≠ .gt) :
    Key.cmp lo (Key.clamp x lo hi) ≠ .gt ∧ Key.cmp (Key.clamp x lo hi) hi ≠ .gt
    ∧ (Key.cmp lo x ≠ .gt → Key.cmp x hi ≠ .gt → Key.clamp x lo hi = x) := by
  have s1 := cmp_swap x lo
  have rlo := (eq_iff_cmp_eq lo lo).1 (eq_refl lo)
  have rhi := (eq_iff_cmp_eq hi hi).1 (eq_refl hi)
  unfold Key.clamp Key.lt Key.gt Key.partialCmp
  cases h1 : Key.cmp x lo <;> cases h2 : Key.cmp x hi <;> simp [s1, h1, h2, rlo, rhi, h, Ordering.swap]

/-! ## construction paths: whatever sequence of constructors, `with_extra_labels`, `clone`, `into_parts` round trips
and earlier `get_hash()` calls produced a key, its content is the labels given, in the order given, its memo is
never wrong, and `get_hash()` is the hash of the content -/

/-- a path builds the content it was given: names and labels in the order supplied, extra labels appended -/
theorem path_content (H : List Write → Nat) (p : Path) : (p.build H).key = p.content := by
  induction p with
  | fromParts n ls => rfl
  | fromStatic n ls => rfl
  | withExtra p extra ih =>
    cases extra with
    | nil => simp [Path.build, Path.content, RKey.withExtraLabels, RKey.clone, ih]
    | cons e es => simp [Path.build, Path.content, RKey.withExtraLabels, RKey.builder, ih]
  | clone p ih => simpa [Path.build, Path.content, RKey.clone] using ih
  | hashed p ih =>
    simp only [Path.build, Path.content, RKey.getHash]
    split <;> simpa using ih
  | reparts p ih => simp [Path.build, Path.content, RKey.builder, RKey.intoParts, ih]

/-- **no construction path leaves a wrong memo**: if `hashed` is up, `hash` is the hash of the content -/
theorem path_coherent (H : List Write → Nat) (p : Path) :
    (p.build H).hashed = true → (p.build H).hash = generateKeyHash H p.content := by
  induction p with
  | fromParts n ls => intro _; rfl
  | fromStatic n ls => intro h; simp [Path.build, RKey.static] at h
  | withExtra p extra ih =>
    cases extra with
    | nil => simpa [Path.build, Path.content, RKey.withExtraLabels, RKey.clone] using ih
    | cons e es =>
      intro _
      simp [Path.build, Path.content, RKey.withExtraLabels, RKey.builder, path_content H p]
  | clone p ih => simpa [Path.build, Path.content, RKey.clone] using ih
  | hashed p ih =>
    simp only [Path.build, Path.content, RKey.getHash]
    split
    · simpa using ih
    · intro _; simp [path_content H p]
  | reparts p ih => intro _; simp [Path.build, Path.content, RKey.builder, RKey.intoParts, path_content H p]

/-- `get_hash()` of a key obtained through any path is `generate_key_hash` of its content, and leaves a coherent key
    with the same content behind -/
theorem path_get_hash (H : List Write → Nat) (p : Path) :
    ((p.build H).getHash H).1 = generateKeyHash H p.content
    ∧ ((p.build H).getHash H).2.key = p.content
    ∧ ((p.build H).getHash H).2.hashed = true := by
  have hc := path_coherent H p
  have hk := path_content H p
  unfold RKey.getHash
  split
  · rename_i hh; exact ⟨hc hh, hk, hh⟩
  · exact ⟨by rw [hk], hk, rfl⟩

/-- **construction path irrelevant**: two keys obtained through ANY two paths whose contents are `==` (in particular:
    the same content through different paths, or a permutation with distinct names) return the same `get_hash()`,
    make the same `Hasher` calls and compare `Equal` -/
theorem path_irrelevant (H : List Write → Nat) (p q : Path) (h : Key.eq p.content q.content = true) :
    ((p.build H).getHash H).1 = ((q.build H).getHash H).1
    ∧ hashStream (p.build H).key = hashStream (q.build H).key
    ∧ Key.cmp (p.build H).key (q.build H).key = .eq := by
  rw [(path_get_hash H p).1, (path_get_hash H q).1, path_content H p, path_content H q]
  exact ⟨(eq_get_hash H _ _ h).1, eq_hash _ _ h, (eq_iff_cmp_eq _ _).1 h⟩

/-- a key handed to threads after any construction path starts the step machine in a consistent state, so the
    interleaving theorems (`get_hash_stable_mixed`, `clone_coherent`) apply to it -/
theorem path_get_hash_stable (H : List Write → Nat) (p : Path) (roles : Nat → Role) (sched : List Nat) (t v : Nat)
    (hdone : (run codeOrds (generateKeyHash H p.content)
      (freshOf (p.build H).hashed (p.build H).hash roles) sched).pc t = .done v) :
    v = generateKeyHash H p.content :=
  get_hash_stable_mixed H p.content _ _ (path_coherent H p) roles sched t v hdone

/-! ## tie to the source text (facts no run on x86 can show; regenerated from the repository on every check) -/

/-- obligation: `Key::get_hash` in metrics/src/key.rs makes exactly the four atomic calls of the step machine,
    in its order — load flag, load value | store value, **then** store flag — with a release store and an
    acquire load of the flag, and computes the stored value from the key's own name and labels -/
theorem src_get_hash_shape :
    ordsOfSource Generated.key_get_hash_calls Generated.key_get_hash_orderings = some codeOrds
    ∧ Generated.key_get_hash_computes_from_name_and_labels = true := by
  decide +kernel

/-- obligation: `Clone for Key` reads the flag (acquire) before the value, so a clone that copies
    `hashed == true` copies the hash that `memo_correct` says is right; and the body of `clone` contains nothing
    (closure, nested fn, macro) that could make the order of evaluation differ from the order of the text -/
theorem src_clone_shape :
    Generated.key_clone_calls = ["hashed.load", "hash.load"]
    ∧ (Generated.key_clone_orderings.head?.map atLeastAcquire) = some true
    ∧ Generated.key_clone_order_is_textual = true :=
  ⟨rfl, rfl, rfl⟩

/-- obligation: the facts of `get_hash` and `clone` together instantiate the step machine with `codeOrds`, i.e.
    the machine the theorems above are about is the one in the source -/
theorem src_memo_shape :
    ordsOfSources Generated.key_get_hash_calls Generated.key_get_hash_orderings
      Generated.key_clone_calls Generated.key_clone_orderings = some codeOrds := by
  decide +kernel

/-- obligation: nothing else in metrics/src/key.rs touches the memo.  Outside `get_hash` and `Clone::clone` there is
    no access to `hashed` / `hash` (so `==`, `cmp`, `Hash`, `Display`, `into_parts` … cannot depend on whether a key
    has been hashed yet), and the memo is constructed in exactly three places: twice as `(false, 0)` (the `const`
    constructors, `freshOf false 0`) and once as `(true, generate_key_hash(&name, &labels))` (`builder`,
    `freshOf true h`) -/
theorem src_memo_private :
    Generated.key_memo_accesses_elsewhere = []
    ∧ Generated.key_memo_constructions = [("false", "0"), ("false", "0"), ("true", "hash")]
    ∧ Generated.key_builder_hash_from_name_and_labels = true :=
  ⟨rfl, rfl, rfl⟩

/-- obligation: the comparison and hashing impls of `Key` define exactly one method each — `eq`, `partial_cmp`, `cmp`,
    `hash` — (one impl per trait, none derived) so that `!=`, `<`, `<=`, `>`, `>=`, `max`, `min`, `clamp` are the provided
    methods which `Key.ne … Key.clamp` of the model write out; `partial_cmp` is `Some(self.cmp(other))` and `Hash::hash`
    is `key_hasher_impl` on the key's own name and labels (the function `generate_key_hash`, hence `get_hash`, runs) -/
theorem src_cmp_methods :
    Generated.key_trait_impl_methods
      = [("PartialEq", ["eq"]), ("Eq", []), ("PartialOrd", ["partial_cmp"]), ("Ord", ["cmp"]), ("Hash", ["hash"])]
    ∧ Generated.key_trait_impl_counts = [1, 1, 1, 1, 1]
    ∧ Generated.key_derives = ["Debug"]
    ∧ Generated.key_partial_cmp_body = "{Some(self.cmp(other))}"
    ∧ Generated.key_hash_body = "{key_hasher_impl(state,&self.name,&self.labels);}" :=
  ⟨rfl, rfl, rfl, rfl, rfl⟩

/-- obligation: what `Key`'s impls are built from compares and hashes by content.  `Label` and `KeyName` derive all of
    `PartialEq, Eq, PartialOrd, Ord, Hash` (field by field: `Label.eq`, `Label.cmp`, `labelWrites` of the model) and have
    no hand-written impl of any of them; `Cow`'s `eq`, `partial_cmp`, `cmp`, `hash` are the only methods of their impls
    and forward to the `deref()`ed `str` / slice — the representation (static, owned, `Arc`) is not looked at -/
theorem src_parts_by_content :
    Generated.label_derives = ["Clone", "Debug", "Eq", "Hash", "Ord", "PartialEq", "PartialOrd"]
    ∧ Generated.keyname_derives = ["Clone", "Debug", "Eq", "Hash", "Ord", "PartialEq", "PartialOrd"]
    ∧ Generated.key_parts_manual_cmp_impls = []
    ∧ Generated.cow_cmp_impls = [
        ("PartialEq", ["eq"], "{self.deref()==other.deref()}"),
        ("PartialOrd", ["partial_cmp"], "{PartialOrd::partial_cmp(self.deref(),other.deref())}"),
        ("Ord", ["cmp"], "{Ord::cmp(self.deref(),other.deref())}"),
        ("Hash", ["hash"], "{self.deref().hash(state)}")] :=
  ⟨rfl, rfl, rfl, rfl⟩

/-- obligation: the memo is not even MENTIONED elsewhere — no occurrence of the identifier `hashed` and no
    `Key { … hash … }` / `Self { … hash … }` pattern outside `get_hash`, `clone`, the struct definition and the three
    constructions (a destructuring `let Key { hash: h, hashed: f, .. } = self` would read the memo without any
    `.hash.load(` text); and `clone` is one struct literal without a single statement, whose loads of the memo —
    counted with ANY receiver, not only `self` — are the flag, then the value -/
theorem src_memo_unmentioned :
    Generated.key_memo_mentions_elsewhere = []
    ∧ Generated.key_clone_memo_calls_any_receiver = ["hashed.load", "hash.load"]
    ∧ Generated.key_clone_is_one_struct_literal = true :=
  ⟨rfl, rfl, rfl⟩

/-- `get_hash_stable` for the orderings found in the source -/
theorem get_hash_stable_src (H : List Write → Nat) (k : Key) (n : Nat) (sched : List Nat) (t v : Nat) (o : Ords)
    (ho : ordsOfSource Generated.key_get_hash_calls Generated.key_get_hash_orderings = some o)
    (hdone : (run o (generateKeyHash H k) (freshStatic n) sched).pc t = .done v) :
    v = generateKeyHash H k := by
  rw [src_get_hash_shape.1] at ho
  cases ho
  exact get_hash_stable H k n sched t v hdone

/-- `clone_coherent` for the load order and orderings found in the source -/
theorem clone_coherent_src (H : List Write → Nat) (k : Key) (roles : Nat → Role) (sched : List Nat) (t : Nat)
    (f : Bool) (v : Nat) (o : Ords)
    (ho : ordsOfSources Generated.key_get_hash_calls Generated.key_get_hash_orderings
      Generated.key_clone_calls Generated.key_clone_orderings = some o)
    (hdone : (run o (generateKeyHash H k) (freshOf false 0 roles) sched).pc t = .cloned f v) :
    f = true → v = generateKeyHash H k := by
  rw [src_memo_shape] at ho
  cases ho
  exact clone_coherent H k false 0 nofun roles sched t f v hdone

/-- bytes of "n", "a", "b", "1", "2", "3" -/
private def n : Str := [110]
private def la1 : Label := ⟨[97], [49]⟩
private def la2 : Label := ⟨[97], [50]⟩
private def lb3 : Label := ⟨[98], [51]⟩

/-- two labels with the same name, values swapped: equal, `Equal`, same hasher calls (repaired code) -/
example : Key.eq ⟨n, [la1, la2]⟩ ⟨n, [la2, la1]⟩ = true
    ∧ Key.cmp ⟨n, [la1, la2]⟩ ⟨n, [la2, la1]⟩ = .eq
    ∧ hashStream ⟨n, [la1, la2]⟩ = hashStream ⟨n, [la2, la1]⟩ := by decide +kernel

/-- **cmp incoherent before the fix**: the same two keys are `==` but the unrepaired `Ord` says `Less` -/
example : Key.eq ⟨n, [la1, la2]⟩ ⟨n, [la2, la1]⟩ = true ∧ Key.cmpOld ⟨n, [la1, la2]⟩ ⟨n, [la2, la1]⟩ = .lt := by decide +kernel

/-- three labels, a repeated name, values swapped: *not* equal, and `cmp`, `hash` agree with that
    (the ≥ 3 arms sort stably by name, so the given order of same-named labels is part of the identity) -/
example : Key.eq ⟨n, [la1, la2, lb3]⟩ ⟨n, [la2, la1, lb3]⟩ = false
    ∧ Key.cmp ⟨n, [la1, la2, lb3]⟩ ⟨n, [la2, la1, lb3]⟩ = .lt
    ∧ hashStream ⟨n, [la1, la2, lb3]⟩ ≠ hashStream ⟨n, [la2, la1, lb3]⟩ := by decide +kernel

/-- distinct names in any order: equal -/
example : Key.eq ⟨n, [lb3, la1, ⟨[], []⟩]⟩ ⟨n, [⟨[], []⟩, lb3, la1]⟩ = true
    ∧ Key.cmp ⟨n, [lb3, la1, ⟨[], []⟩]⟩ ⟨n, [⟨[], []⟩, lb3, la1]⟩ = .eq := by decide +kernel

/-- the exact hasher calls for `n{a=1}` -/
example : hashStream ⟨n, [la1]⟩ = [.bytes [110], .u8 255, .usize 1, .bytes [97], .u8 255, .bytes [49], .u8 255] := by decide +kernel

/-- an interleaving in which both threads miss the memo and both store -/
example : (run codeOrds 7 (freshStatic 2) [0, 1, 0, 1, 0, 1]).pc 1 = .done 7
    ∧ (run codeOrds 7 (freshStatic 2) [0, 1, 0, 1, 0, 1]).pc 0 = .done 7 := by decide +kernel

/-- an interleaving in which the second thread hits the memo -/
example : (run codeOrds 7 (freshStatic 2) [0, 0, 0, 1, 1]).pc 1 = .done 7 := by decide +kernel

/-- the orderings matter: with `hashed.store(true, Relaxed)` the second thread may return the constructor's 0 -/
example : (run { codeOrds with flagStoreRelease := false } 7 (freshStatic 2) [0, 0, 0, 1, 1]).pc 1 = .done 0 := by decide +kernel

/-- … and likewise with `hashed.load(Relaxed)` -/
example : (run { codeOrds with flagLoadAcquire := false } 7 (freshStatic 2) [0, 0, 0, 1, 1]).pc 1 = .done 0 := by decide +kernel

/-- `clone()` racing with the first `get_hash()` (thread 0 clones, thread 1 hashes): the clone's two loads fall
    on either side of the hasher's two stores — the clone copies `hashed = false` and will rehash -/
example : (run codeOrds 7 (freshOf false 0 (rolesOf [.cloner, .hasher])) [0, 0, 0, 1, 1, 1, 0]).pc 0 = .cloned false 0 := by decide +kernel

/-- … the clone starts after the hasher has finished: it copies the memo, `(true, 7)` -/
example : (run codeOrds 7 (freshOf false 0 (rolesOf [.cloner, .hasher])) [1, 1, 1, 0, 0, 0, 0]).pc 0 = .cloned true 7 := by decide +kernel

/-- **the order of the two loads in `clone()` matters**: with `hash` loaded before `hashed`, the same race gives a
    clone with `hashed = true` and the constructor's `hash = 0` … -/
example : (run { codeOrds with cloneFlagFirst := false } 7 (freshOf false 0 (rolesOf [.cloner, .hasher]))
    [0, 0, 0, 1, 1, 1, 0]).pc 0 = .cloned true 0 := by decide +kernel

/-- … and every later `get_hash()` on that clone returns 0 instead of 7 -/
example : (run codeOrds 7 (freshOf true 0 (rolesOf [.hasher])) [0, 0]).pc 0 = .done 0 := by decide +kernel

/-- the ordering of the flag load in `clone()` matters as well: relaxed, it may pair `true` with a stale value -/
example : (run { codeOrds with cloneFlagAcquire := false } 7 (freshOf false 0 (rolesOf [.cloner, .hasher]))
    [1, 1, 1, 0, 0, 0, 0]).pc 0 = .cloned true 0 := by decide +kernel

/-- the operators on the repaired witness (`==` keys: not `!=`, `<=` and `>=` both hold, `max` is the second, `min` the
    first argument) and on a strictly ordered pair -/
example : Key.ne ⟨n, [la1, la2]⟩ ⟨n, [la2, la1]⟩ = false ∧ Key.le ⟨n, [la1, la2]⟩ ⟨n, [la2, la1]⟩ = true
    ∧ Key.ge ⟨n, [la1, la2]⟩ ⟨n, [la2, la1]⟩ = true ∧ Key.lt ⟨n, [la1, la2]⟩ ⟨n, [la2, la1]⟩ = false
    ∧ Key.max ⟨n, [la1, la2]⟩ ⟨n, [la2, la1]⟩ = ⟨n, [la2, la1]⟩ ∧ Key.min ⟨n, [la1, la2]⟩ ⟨n, [la2, la1]⟩ = ⟨n, [la1, la2]⟩
    ∧ Key.lt ⟨n, [la1]⟩ ⟨n, [la2]⟩ = true ∧ Key.max ⟨n, [la2]⟩ ⟨n, [la1]⟩ = ⟨n, [la2]⟩
    ∧ Key.clamp ⟨n, [lb3]⟩ ⟨n, [la1]⟩ ⟨n, [la2]⟩ = ⟨n, [la2]⟩ := by decide +kernel

/-- construction paths: a static key extended by one label is eagerly hashed with the hash of the three labels; extended
    by nothing it is a clone (still unhashed); after a `get_hash()` its clone carries the memo -/
example : ((Path.withExtra (.fromStatic n [la1, la2]) [lb3]).build (fun ws => ws.length)).hashed = true
    ∧ ((Path.withExtra (.fromStatic n [la1, la2]) [lb3]).build (fun ws => ws.length)).hash = 15
    ∧ ((Path.withExtra (.fromStatic n [la1, la2]) []).build (fun ws => ws.length)) = ⟨⟨n, [la1, la2]⟩, false, 0⟩
    ∧ ((Path.clone (.hashed (.fromStatic n [la1]))).build (fun ws => ws.length)) = ⟨⟨n, [la1]⟩, true, 7⟩
    ∧ (Path.reparts (.withExtra (.fromParts n [la1]) [la2])).content = ⟨n, [la1, la2]⟩ := by decide +kernel

/-- same key, different kinds: never `==`, never `Equal`; same kind: as the keys -/
example : CompositeKey.eq ⟨.counter, ⟨n, [la1, la2]⟩⟩ ⟨.gauge, ⟨n, [la1, la2]⟩⟩ = false
    ∧ CompositeKey.cmp ⟨.counter, ⟨n, [la1, la2]⟩⟩ ⟨.gauge, ⟨n, [la1, la2]⟩⟩ = .lt
    ∧ CompositeKey.eq ⟨.gauge, ⟨n, [la1, la2]⟩⟩ ⟨.gauge, ⟨n, [la2, la1]⟩⟩ = true
    ∧ CompositeKey.cmp ⟨.histogram, ⟨n, []⟩⟩ ⟨.counter, ⟨n, [la1]⟩⟩ = .gt := by decide +kernel

end MetricsVerif.C03
