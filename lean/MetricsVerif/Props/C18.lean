/-
C18 — the scrape endpoint serves the current rendering and enforces its allowlist.

Model: `Model/Allowlist.lean` (`parseEntry`/`addAllowed` = `PrometheusBuilder::add_allowed_address`,
`contains` = `ipnet::IpNet::contains`, `checkAllowed` = `HttpListeningExporter::check_tcp_allowed`,
`handleHttpRequest`/`respond` = `handle_http_request`, `run` = the listener over a history of connections).
All theorems are for ALL allowlists (any length, single hosts, nested / overlapping / duplicated blocks, both
families mixed, entries written with non-zero host bits), ALL peer addresses, ALL prefix lengths `0..width`, ALL
paths and ALL renderings: nothing is enumerated; the arithmetic is on `Nat` with `/ 2^k`.

Reading of the property's words.
* "a peer whose address lies in none of the listed networks": no entry contains the address the listener's
  socket reports, nor — when that address is IPv4-mapped (`::ffff:a.b.c.d`, an IPv4 client of a dual-stack
  listener) — the IPv4 address embedded in it (`peerMatches`).  For every other peer this is plain `contains`
  (`peerMatches_v4`, `peerMatches_plain_v6`).
* "always receives 403 with an empty body and never any metric data": for EVERY path.  The code checks the
  allowlist before it looks at the path, so an outsider asking `/health` gets 403 and not "OK"
  (`outsider_health_is_403`); the wording "always receives 403" is taken literally, `/health` is no exception.
* "is served": 200 with the current rendering, or 200 "OK" when the path is exactly `/health`.
* "a rendering of the metrics at that time": the body IS the value `PrometheusHandle::render()` returned while
  handling the request (`served_body_is_render`), so everything C07 / C08 prove of `render` holds of the body.
  "At that time" when requests overlap and a rendering takes time: the body is made of values loaded AFTER the
  request arrived — one event per step of the code in `stepC` (`arrive`, one `read` per series, `respond`), any
  interleaving of any number of clients and updates: `scrape_fresh`, `scrape_sees_completed_updates` (every update
  completed before the GET arrived is in the body), with `shared_rendering_is_stale` showing that a rendering
  shared between overlapping scrapes would break the clause and `src_render_per_request` pinning that the code
  shares none.  Other clients' renderings are neither needed nor in the way (`own_rendering_suffices`,
  `refusal_and_health_never_wait`).
* "a GET on any path": ANY complete GET, also from a client that shuts down its write side right after it
  (`printf … | nc`): `half_closing_client_served` (the code sets `half_close(true)`, `src_connection_task`);
  `default_eof_drops_request` is the witness that hyper's default breaks the clause (the tree before `fix-C18`).
  "Path" is `req.uri().path()`: the path component of the target in origin-form, absolute-form, with a fragment
  (`pathOf_query`, `pathOf_fragment`, `pathOf_absolute`, `health_targets`).
* "aborted, malformed or concurrent requests never prevent later clients from being served": connections share
  no state (one task per connection, decision per connection); in the model a faulty connection is an event that
  changes nothing (`faults_transparent`).  That hyper / tokio really isolate connections is exercised by the
  harness on every run (garbage, half-open, reset, oversized, pipelined, concurrent), not proved.
-/
import MetricsVerif.Proofs.Allowlist
import MetricsVerif.Generated.SourceFacts

namespace MetricsVerif.C18
open MetricsVerif.Allowlist

/-- **parse_plain**: a plain address is accepted and denotes the host network (`/32`, `/128`) of that address. -/
theorem parse_plain (f : Family) (b : Nat) (h : b < 2 ^ f.width) :
    parseEntry ⟨f, b, none⟩ = some ⟨f, b, f.width⟩ :=
  if_pos h

/-- **parse_cidr**: `addr/len` is accepted exactly when `len ≤ width`, and is stored as written (no truncation of
    host bits at parse time). -/
theorem parse_cidr (f : Family) (b p : Nat) (h : b < 2 ^ f.width) :
    parseEntry ⟨f, b, some p⟩ = if p ≤ f.width then some ⟨f, b, p⟩ else none :=
  if_pos h

/-- a plain address and the same address with the full prefix length are the same entry -/
theorem plain_eq_full_prefix (f : Family) (b : Nat) :
    parseEntry ⟨f, b, none⟩ = parseEntry ⟨f, b, some f.width⟩ := by
  simp only [parseEntry, Nat.le_refl, if_true]

/-- every entry that parses has a prefix length within the width and keeps family and address -/
theorem parse_sound (e : Entry) (n : Net) (h : parseEntry e = some n) :
    n.fam = e.fam ∧ n.bits = e.bits ∧ n.plen ≤ n.fam.width ∧ n.bits < 2 ^ n.fam.width := by
  unfold parseEntry at h
  split at h
  · rename_i hb
    split at h
    · split at h
      · rename_i hle; cases h; exact ⟨rfl, rfl, hle, hb⟩
      · cases h
    · cases h; exact ⟨rfl, rfl, Nat.le_refl _, hb⟩
  · cases h

/-- **contains_iff_range**: `contains` is the interval test the code performs: same family and
    `network ≤ a ≤ broadcast`, where `network` is the written address with its low `width − len` bits cleared and
    `broadcast = network + 2^(width − len) − 1`. -/
theorem contains_iff_range (n : Net) (a : Addr) :
    contains n a = true ↔ n.fam = a.fam ∧ n.network ≤ a.bits ∧ a.bits ≤ n.network + (2 ^ (n.fam.width - n.plen) - 1) :=
  contains_iff_interval n a

/-- the block starts at a multiple of its size at or below the written address, less than one block away -/
theorem network_spec (n : Net) :
    n.network ≤ n.bits ∧ n.bits < n.network + n.size ∧ n.network % n.size = 0 :=
  ⟨Nat.div_mul_le_self _ _, Nat.lt_div_mul_add n.size_pos, Nat.mul_mod_left _ _⟩

/-- **contains_iff_prefix**: the interval test equals the bit-prefix test, for every prefix length: an address is
    in the block iff it is of the same family and agrees with the entry's written address after dropping the low
    `width − len` bits (`/ 2^(width−len)`), i.e. on the top `len` bits. -/
theorem contains_iff_prefix (n : Net) (a : Addr) :
    contains n a = true ↔
      n.fam = a.fam ∧ a.bits / 2 ^ (n.fam.width - n.plen) = n.bits / 2 ^ (n.fam.width - n.plen) :=
  contains_eq_true_iff n a

theorem div_two_pow_eq_iff_testBit {x y w : Nat} (hx : x < 2 ^ w) (hy : y < 2 ^ w) (k : Nat) :
    x / 2 ^ k = y / 2 ^ k ↔ ∀ i, k ≤ i → i < w → x.testBit i = y.testBit i := by
  constructor
  · intro h i hi _
    have := congrArg (Nat.testBit · (i - k)) h
    simp only [Nat.testBit_div_two_pow] at this
    rwa [Nat.sub_add_cancel hi] at this
  · intro h
    apply Nat.eq_of_testBit_eq
    intro i
    simp only [Nat.testBit_div_two_pow]
    by_cases hi : i + k < w
    · exact h _ (Nat.le_add_left _ _) hi
    · have hw := Nat.pow_le_pow_right (Nat.zero_lt_two) (Nat.le_of_not_lt hi)
      rw [Nat.testBit_lt_two_pow (Nat.lt_of_lt_of_le hx hw), Nat.testBit_lt_two_pow (Nat.lt_of_lt_of_le hy hw)]

/-- **contains_iff_topbits**: the same in terms of single bits: for addresses of the family's width and
    `len ≤ width`, membership means that bits `width−len … width−1` (the top `len` bits) coincide. -/
theorem contains_iff_topbits (n : Net) (a : Addr) (ha : a.bits < 2 ^ n.fam.width)
    (hn : n.bits < 2 ^ n.fam.width) :
    contains n a = true ↔
      n.fam = a.fam ∧ ∀ i, n.fam.width - n.plen ≤ i → i < n.fam.width → a.bits.testBit i = n.bits.testBit i := by
  rw [contains_iff_prefix, div_two_pow_eq_iff_testBit ha hn]

/-- **host_bits_ignored**: an entry written with non-zero host bits (`10.1.2.3/8`) denotes the same block as the
    one written with its network address (`10.0.0.0/8`): `contains` masks. -/
theorem host_bits_ignored (n : Net) (a : Addr) :
    contains n a = contains ⟨n.fam, n.network, n.plen⟩ a := by
  rw [Bool.eq_iff_iff, contains_eq_true_iff, contains_eq_true_iff]
  show _ ↔ _ ∧ _ = n.bits / n.size * n.size / n.size
  rw [Nat.mul_div_cancel _ n.size_pos]
  exact Iff.rfl

/-- **cross_family**: an IPv4 entry never contains an IPv6 address and vice versa. -/
theorem cross_family (n : Net) (a : Addr) (h : n.fam ≠ a.fam) : contains n a = false :=
  (contains_eq_false_iff n a).2 fun h' => h h'.1

/-- **host_entry**: a plain-address entry admits exactly that address. -/
theorem host_entry (f : Family) (b : Nat) (n : Net) (h : parseEntry ⟨f, b, none⟩ = some n) (a : Addr) :
    contains n a = true ↔ a = ⟨f, b⟩ := by
  unfold parseEntry at h
  split at h
  · cases h
    rw [contains_eq_true_iff]
    simp only [Net.size, Nat.sub_self, Nat.pow_zero, Nat.div_one]
    cases a
    simp only [Addr.mk.injEq, eq_comm]
  · cases h

/-- **prefix_zero_all**: `/0` contains every address of its family (and none of the other). -/
theorem prefix_zero_all (n : Net) (a : Addr) (hp : n.plen = 0) (hn : n.bits < 2 ^ n.fam.width)
    (ha : a.wf) : contains n a = true ↔ n.fam = a.fam := by
  rw [contains_eq_true_iff]
  refine ⟨fun h => h.1, fun hf => ⟨hf, ?_⟩⟩
  unfold Addr.wf at ha
  rw [← hf] at ha
  rw [Net.size, hp, Nat.sub_zero, Nat.div_eq_of_lt ha, Nat.div_eq_of_lt hn]

/-- **nested_subnet**: a block whose written address lies in a shorter-prefix block of the same family is wholly
    inside it (nested blocks). -/
theorem nested_subnet (outer inner : Net) (hlen : outer.plen ≤ inner.plen)
    (hin : contains outer ⟨inner.fam, inner.bits⟩ = true) (a : Addr) (h : contains inner a = true) :
    contains outer a = true := by
  obtain ⟨hf, hq⟩ := (contains_eq_true_iff _ _).1 hin
  obtain ⟨hf', hq'⟩ := (contains_eq_true_iff _ _).1 h
  have hf : outer.fam = inner.fam := hf
  have hle : inner.fam.width - inner.plen ≤ outer.fam.width - outer.plen := by
    rw [hf]; exact Nat.sub_le_sub_left hlen _
  refine (contains_eq_true_iff _ _).2 ⟨hf.trans hf', ?_⟩
  unfold Net.size at hq hq' ⊢
  rw [div_two_pow_of_le hle a.bits, hq', ← div_two_pow_of_le hle inner.bits, hq]

/-- for an IPv4 peer address the match is plain `contains` -/
theorem peerMatches_v4 (n : Net) (p : Addr) (h : p.fam = .v4) : peerMatches n p = contains n p :=
  peerMatches_of_unmapped (if_neg fun h' => by rw [h] at h'; cases h'.1) n

/-- for an IPv6 peer address that is not IPv4-mapped the match is plain `contains` -/
theorem peerMatches_plain_v6 (n : Net) (p : Addr) (h : p.bits / 2 ^ 32 ≠ 0xffff) :
    peerMatches n p = contains n p :=
  peerMatches_of_unmapped (if_neg fun h' => h h'.2) n

/-- **mapped_peer**: an IPv4 client `x` of a dual-stack listener is reported as `::ffff:x`; IPv4 entries match it
    exactly as they match `x`, IPv6 entries match the reported form. -/
theorem mapped_peer (n : Net) (x : Nat) (hx : x < 2 ^ 32) :
    peerMatches n ⟨.v6, 0xffff * 2 ^ 32 + x⟩ =
      (contains n ⟨.v6, 0xffff * 2 ^ 32 + x⟩ || contains n ⟨.v4, x⟩) := by
  obtain ⟨h1, h2⟩ := mul_add_div_mod 0xffff hx
  refine peerMatches_of_mapped ?_ n
  rw [v4Mapped, if_pos ⟨rfl, h1⟩, h2]

/-- the embedded address is a genuine IPv4 address -/
theorem v4Mapped_wf (p p4 : Addr) (h : v4Mapped p = some p4) : p4.fam = .v4 ∧ p4.wf := by
  unfold v4Mapped at h
  split at h
  · cases h
    exact ⟨rfl, Nat.mod_lt _ (Nat.two_pow_pos 32)⟩
  · cases h

theorem peerMatches_nested (outer inner : Net) (hlen : outer.plen ≤ inner.plen)
    (hin : contains outer ⟨inner.fam, inner.bits⟩ = true) (p : Addr) (h : peerMatches inner p = true) :
    peerMatches outer p = true := by
  cases h4 : v4Mapped p with
  | none =>
    rw [peerMatches_of_unmapped h4] at h ⊢
    exact nested_subnet outer inner hlen hin p h
  | some p4 =>
    rw [peerMatches_of_mapped h4, Bool.or_eq_true] at h ⊢
    exact h.imp (nested_subnet outer inner hlen hin p) (nested_subnet outer inner hlen hin p4)

/-- **allowed_iff_exists**: with an allowlist, a peer is allowed iff SOME entry matches it — the allowlist is the
    union of its networks; order and repetition of entries are irrelevant. -/
theorem allowed_iff_exists (nets : List Net) (p : Addr) :
    checkAllowed (some nets) p = true ↔ ∃ n, n ∈ nets ∧ peerMatches n p = true :=
  checkAllowed_some_iff nets p

/-- **no_allowlist_allows_all**: without any `add_allowed_address` call every peer is allowed. -/
theorem no_allowlist_allows_all (p : Addr) : checkAllowed none p = true := rfl

/-- **allowed_union**: the allowlist made of two lists allows exactly the peers one of them allows. -/
theorem allowed_union (xs ys : List Net) (p : Addr) :
    checkAllowed (some (xs ++ ys)) p = (checkAllowed (some xs) p || checkAllowed (some ys) p) :=
  List.any_append

/-- **allowed_mono**: adding entries (anywhere, in any order) never locks out a peer that was allowed. -/
theorem allowed_mono (xs ys : List Net) (hsub : ∀ n, n ∈ xs → n ∈ ys) (p : Addr)
    (h : checkAllowed (some xs) p = true) : checkAllowed (some ys) p = true := by
  obtain ⟨n, hn, hm⟩ := (allowed_iff_exists xs p).1 h
  exact (allowed_iff_exists ys p).2 ⟨n, hsub n hn, hm⟩

/-- two lists with the same entries (reordered, duplicated) decide every peer alike -/
theorem allowed_same_entries (xs ys : List Net) (h : ∀ n, n ∈ xs ↔ n ∈ ys) (p : Addr) :
    checkAllowed (some xs) p = checkAllowed (some ys) p :=
  Bool.eq_iff_iff.2 ⟨allowed_mono xs ys (fun n => (h n).1) p, allowed_mono ys xs (fun n => (h n).2) p⟩

/-- **nested_redundant**: an entry nested inside another listed block changes nothing. -/
theorem nested_redundant (outer inner : Net) (rest : List Net) (hlen : outer.plen ≤ inner.plen)
    (hin : contains outer ⟨inner.fam, inner.bits⟩ = true) (p : Addr) :
    checkAllowed (some (outer :: inner :: rest)) p = checkAllowed (some (outer :: rest)) p := by
  show (peerMatches outer p || (peerMatches inner p || _)) = (peerMatches outer p || _)
  cases hi : peerMatches inner p
  · rfl
  · rw [peerMatches_nested outer inner hlen hin p hi]; rfl

/-- **addAllowed_nonempty**: a successful `add_allowed_address` always leaves a configured, non-empty allowlist
    ending in the parsed entry (so "allowlist configured but empty" cannot be built). -/
theorem addAllowed_nonempty (al al' : Option (List Net)) (e : Entry) (h : addAllowed al e = some al') :
    ∃ n, parseEntry e = some n ∧ al' = some (al.getD [] ++ [n]) := by
  obtain ⟨n, hn, rfl⟩ := Option.map_eq_some_iff.1 h
  exact ⟨n, hn, rfl⟩

/-- a failed `add_allowed_address` is exactly an entry outside the documented syntax -/
theorem addAllowed_fails_iff (al : Option (List Net)) (e : Entry) :
    addAllowed al e = none ↔ parseEntry e = none :=
  Option.map_eq_none_iff

theorem respond_of_allowed {al : Option (List Net)} {peer : Addr} (h : checkAllowed al peer = true)
    (path rendered : List Char) :
    respond al peer path rendered = ⟨200, if path = healthPath then okBody else rendered⟩ := by
  rw [respond, h]; rfl

theorem respond_of_denied {al : Option (List Net)} {peer : Addr} (h : checkAllowed al peer = false)
    (path rendered : List Char) : respond al peer path rendered = ⟨403, []⟩ := by
  rw [respond, h]; rfl

/-- **deny_outside**: with an allowlist, a peer that no listed network matches gets status 403 and an empty body
    — for every list, peer, path (including `/health`) and whatever the metrics are. -/
theorem deny_outside (nets : List Net) (peer : Addr) (path rendered : List Char)
    (h : ∀ n, n ∈ nets → peerMatches n peer = false) :
    respond (some nets) peer path rendered = ⟨403, []⟩ :=
  respond_of_denied (checkAllowed_eq_false h) path rendered

/-- **allow_inside**: a peer that some listed network matches is served: 200 with "OK" for the path `/health`,
    200 with the current rendering for every other path. -/
theorem allow_inside (nets : List Net) (n : Net) (hn : n ∈ nets) (peer : Addr) (path rendered : List Char)
    (h : peerMatches n peer = true) :
    respond (some nets) peer path rendered = ⟨200, if path = healthPath then okBody else rendered⟩ :=
  respond_of_allowed ((allowed_iff_exists nets peer).2 ⟨n, hn, h⟩) path rendered

/-- **no_allowlist_serves_all**: without an allowlist every peer is served. -/
theorem no_allowlist_serves_all (peer : Addr) (path rendered : List Char) :
    respond none peer path rendered = ⟨200, if path = healthPath then okBody else rendered⟩ :=
  rfl

/-- **respond_dichotomy**: there are no other answers: either the peer is allowed and served, or it gets
    403 with an empty body; in particular a non-empty body implies the peer is allowed. -/
theorem respond_dichotomy (al : Option (List Net)) (peer : Addr) (path rendered : List Char) :
    (checkAllowed al peer = true ∧
        respond al peer path rendered = ⟨200, if path = healthPath then okBody else rendered⟩)
    ∨ (checkAllowed al peer = false ∧ respond al peer path rendered = ⟨403, []⟩) := by
  cases h : checkAllowed al peer
  · exact Or.inr ⟨rfl, respond_of_denied h path rendered⟩
  · exact Or.inl ⟨rfl, respond_of_allowed h path rendered⟩

/-- **served_body_is_render**: the body of a 200 answer on a path other than `/health` is, byte for byte, the
    rendering handed to the request handler. -/
theorem served_body_is_render (al : Option (List Net)) (peer : Addr) (path rendered : List Char)
    (hp : path ≠ healthPath) (hs : (respond al peer path rendered).status = 200) :
    (respond al peer path rendered).body = rendered := by
  rcases respond_dichotomy al peer path rendered with ⟨_, h⟩ | ⟨_, h⟩
  · rw [h]; exact if_neg hp
  · rw [h] at hs; cases hs

/-- **outsider_health_is_403**: the allowlist is checked before the path: `/health` is refused to outsiders too. -/
theorem outsider_health_is_403 (nets : List Net) (peer : Addr) (rendered : List Char)
    (h : ∀ n, n ∈ nets → peerMatches n peer = false) :
    respond (some nets) peer healthPath rendered = ⟨403, []⟩ :=
  deny_outside nets peer healthPath rendered h

/-! ## the path of a request target (`req.uri().path()`)

The property says "path": the path component of the request target as RFC 3986 splits it, which is what
`http::Uri::path` returns — for the origin-form `/path?query` every client normally sends, for the absolute-form
`http://host/path?query` of a client behind a proxy, and (because `httparse` lets it through) with a `#fragment`
cut off.  `GET /health?x`, `GET /health#x` and `GET http://h/health` are all the health check. -/

/-- the hypothesis "no `?` or `#` in `p`" in the form the `takeWhile` lemmas want -/
theorem not_endsPath_of {p : List Char} (h : ∀ d, d ∈ p → endsPath d = false) :
    ∀ d, d ∈ p → (!endsPath d) = true :=
  fun d hd => by rw [h d hd]; rfl

theorem pathPart_cut (p q : List Char) (c : Char) (hc : endsPath c = true)
    (h : ∀ d, d ∈ p → endsPath d = false) : pathPart (p ++ c :: q) = p := by
  rw [pathPart, List.takeWhile_append_of_pos (not_endsPath_of h),
    List.takeWhile_cons_of_neg (by rw [hc]; exact Bool.false_ne_true), List.append_nil]

theorem pathPart_all (p : List Char) (h : ∀ d, d ∈ p → endsPath d = false) : pathPart p = p := by
  have := List.takeWhile_append_of_pos (l₂ := []) (not_endsPath_of h)
  rwa [List.append_nil, List.takeWhile_nil, List.append_nil] at this

theorem pathPart_rest (l : List Char) :
    l = pathPart l ∨ ∃ c q, endsPath c = true ∧ l = pathPart l ++ c :: q := by
  have hl : pathPart l ++ l.dropWhile (fun c => !endsPath c) = l := List.takeWhile_append_dropWhile
  cases hd : l.dropWhile (fun c => !endsPath c) with
  | nil => rw [hd, List.append_nil] at hl; exact Or.inl hl.symm
  | cons c q =>
    have hc := List.head_dropWhile_not (fun c => !endsPath c) (l := l) (by rw [hd]; exact List.cons_ne_nil _ _)
    simp only [hd, List.head_cons, Bool.not_eq_false'] at hc
    exact Or.inr ⟨c, q, hc, by rw [← hd, hl]⟩

theorem pathOf_origin (t : List Char) : pathOf ('/' :: t) = pathPart ('/' :: t) := rfl

theorem pathOf_cut (p q : List Char) (c : Char) (hc : endsPath c = true)
    (h : ∀ d, d ∈ p → endsPath d = false) : pathOf ('/' :: p ++ c :: q) = '/' :: p :=
  pathPart_cut ('/' :: p) q c hc fun d hd => (List.mem_cons.1 hd).elim (fun e => e ▸ rfl) (h d)

/-- **pathOf_query**: the query string is not part of the path: `/health?x` is the health check -/
theorem pathOf_query (p q : List Char) (h : ∀ c, c ∈ p → endsPath c = false) :
    pathOf ('/' :: p ++ '?' :: q) = '/' :: p :=
  pathOf_cut p q '?' rfl h

/-- **pathOf_fragment**: a fragment (which `httparse` lets through) is not part of the path: `/health#x` is the
    health check, `/metrics#/health` is not -/
theorem pathOf_fragment (p q : List Char) (h : ∀ c, c ∈ p → endsPath c = false) :
    pathOf ('/' :: p ++ '#' :: q) = '/' :: p :=
  pathOf_cut p q '#' rfl h

/-- a scheme character is skipped (it cannot be the `:` that ends the scheme) -/
theorem afterScheme_cons (c : Char) (cs : List Char) (h : isSchemeChar c = true) :
    afterScheme (c :: cs) = afterScheme cs := by
  have hne : c ≠ ':' := fun h' => by subst h'; exact absurd h (by decide)
  rw [afterScheme.eq_2 _ _ (fun _ h' _ => hne h'), if_pos h]

theorem afterScheme_scheme (sc rest : List Char) (h : ∀ c, c ∈ sc → isSchemeChar c = true) :
    afterScheme (sc ++ ':' :: '/' :: '/' :: rest) = some rest := by
  induction sc with
  | nil => rfl
  | cons c cs ih =>
    rw [List.cons_append, afterScheme_cons c _ (h c List.mem_cons_self)]
    exact ih fun d hd => h d (List.mem_cons_of_mem _ hd)

theorem dropWhile_authority (auth t : List Char) (h : ∀ c, c ∈ auth → endsAuthority c = false) :
    (auth ++ '/' :: t).dropWhile (fun c => !endsAuthority c) = '/' :: t := by
  rw [List.dropWhile_append_of_pos fun c hc => by rw [h c hc]; rfl]
  rfl

/-- **pathOf_absolute**: the absolute form of a target — `scheme://authority` in front of it, what a client talking
    through a proxy sends — has the same path as the target itself: `GET http://host:9000/health` is the health
    check, `GET http://health/metrics` is not. -/
theorem pathOf_absolute (sc auth t : List Char) (hne : sc ≠ []) (hsc : ∀ c, c ∈ sc → isSchemeChar c = true)
    (hauth : ∀ c, c ∈ auth → endsAuthority c = false) :
    pathOf (sc ++ ':' :: '/' :: '/' :: (auth ++ '/' :: t)) = pathOf ('/' :: t) := by
  obtain ⟨c, cs, rfl⟩ := List.exists_cons_of_ne_nil hne
  have hc : isSchemeChar c = true := hsc c List.mem_cons_self
  have h1 : c ≠ '/' := fun h' => by subst h'; exact absurd hc (by decide)
  have h2 : c ≠ '*' := fun h' => by subst h'; exact absurd hc (by decide)
  have hs := afterScheme_scheme (c :: cs) (auth ++ '/' :: t) hsc
  rw [List.cons_append] at hs ⊢
  unfold pathOf
  split
  · rename_i heq; exact absurd (List.cons.inj heq).1 h1
  · rename_i heq; exact absurd (List.cons.inj heq).1 h2
  · rw [hs]
    simp only [dropWhile_authority auth t hauth]
    rfl

/-- **health_targets**: which origin-form targets are the health check: exactly `/health` itself and `/health`
    followed by a query or a fragment — nothing with a trailing slash, another case, a prefix or an encoding. -/
theorem health_targets (t : List Char) :
    pathOf ('/' :: t) = healthPath ↔
      '/' :: t = healthPath ∨ ∃ c q, endsPath c = true ∧ '/' :: t = healthPath ++ c :: q := by
  rw [pathOf_origin]
  constructor
  · intro h
    have := pathPart_rest ('/' :: t)
    rwa [h] at this
  · rintro (h | ⟨c, q, hc, h⟩)
    · rw [h]; rfl
    · rw [h]; exact pathPart_cut healthPath q c hc (by decide)

/-- the allowlist and (for everything but `update`) the metrics survive every event -/
theorem stepEv_state (render : Nat → List Char) (s : Sess) (e : Ev) :
    (stepEv render s e).1.al = s.al ∧
      (stepEv render s e).1.metrics = s.metrics + (match e with | .update n => n | _ => 0) := by
  cases e <;> exact ⟨rfl, rfl⟩

/-- **faults_transparent**: the answers to the well-formed requests of a history are the same as in the history
    with every faulty connection (garbage, half-open, reset, oversized, aborted) removed: such connections
    never change what later (or concurrent) clients receive. -/
theorem faults_transparent (render : Nat → List Char) (s : Sess) (evs : List Ev) :
    run render s evs = run render s (evs.filter (fun e => !e.isFault)) := by
  induction evs generalizing s with
  | nil => rfl
  | cons e es ih =>
    cases e with
    | update n => exact ih _
    | req p t => exact congrArg (List.cons _) (ih _)
    | fault k p => exact ih _

/-- **request_sees_current_metrics**: a request after any number of updates is answered from the metrics as
    they are then (initial value plus all updates), by the allowlist the listener was built with. -/
theorem request_sees_current_metrics (render : Nat → List Char) (s : Sess) (ups : List Nat) (p : Addr)
    (t : List Char) (rest : List Ev) :
    run render s (ups.map .update ++ .req p t :: rest) =
      respond s.al p (pathOf t) (render (s.metrics + ups.sum)) ::
        run render ⟨s.al, s.metrics + ups.sum⟩ rest := by
  induction ups generalizing s with
  | nil => rfl
  | cons u us ih =>
    rw [List.sum_cons, ← Nat.add_assoc]
    exact ih _

/-- every answer of a history is one of the two shapes: served, or 403 with an empty body -/
theorem run_answers (render : Nat → List Char) (s : Sess) (evs : List Ev) (r : Resp)
    (h : r ∈ run render s evs) : r.status = 200 ∨ r = ⟨403, []⟩ := by
  induction evs generalizing s with
  | nil => cases h
  | cons e es ih =>
    cases e with
    | update n => exact ih _ h
    | fault k p => exact ih _ h
    | req p t =>
      rcases List.mem_cons.1 h with rfl | h
      · rcases respond_dichotomy s.al p (pathOf t) (render s.metrics) with ⟨_, h⟩ | ⟨_, h⟩
        · left; rw [h]
        · right; exact h
      · exact ih _ h

/-- a chain of builder calls does two independent things: it runs its `add_allowed_address` arguments, in call
    order, on the allowlist, and it leaves the destination of its LAST destination call -/
theorem applyAll_eq (b : Builder) (ops : List BOp) :
    b.applyAll ops = (addAll b.allowed (entriesOf ops)).map (fun al => ⟨lastDest b.dest ops, al⟩) := by
  induction ops generalizing b with
  | nil => rfl
  | cons o os ih =>
    cases o with
    | allow e =>
      simp only [Builder.applyAll, Builder.apply, entriesOf, addAll, lastDest]
      cases addAllowed b.allowed e with
      | none => rfl
      | some al => exact ih _
    | _ => exact ih _

/-- **applyAll_spec**: a chain of builder calls that succeeds leaves exactly the allowlist made of its
    `add_allowed_address` arguments in call order, and the destination of its LAST destination call — the
    listener calls (`with_http_listener`, `with_http_uds_listener`, `with_push_gateway`) never drop or change
    the allowlist, wherever they stand in the chain. -/
theorem applyAll_spec (b b' : Builder) (ops : List BOp) (h : b.applyAll ops = some b') :
    addAll b.allowed (entriesOf ops) = some b'.allowed ∧ b'.dest = lastDest b.dest ops := by
  rw [applyAll_eq] at h
  obtain ⟨al, hal, rfl⟩ := Option.map_eq_some_iff.1 h
  exact ⟨hal, rfl⟩

/-- **applyAll_fails_iff**: a chain fails exactly when one of its `add_allowed_address` arguments is outside
    the documented syntax; the listener calls never fail and never make a later call fail. -/
theorem applyAll_fails_iff (b : Builder) (ops : List BOp) :
    b.applyAll ops = none ↔ addAll b.allowed (entriesOf ops) = none := by
  rw [applyAll_eq, Option.map_eq_none_iff]

/-- **builder_order_free**: two chains with the same `add_allowed_address` arguments (in the same order)
    configure the same allowlist, however the listener calls are interleaved — in particular calling
    `with_http_listener` AFTER `add_allowed_address` keeps the allowlist. -/
theorem builder_order_free (ops ops' : List BOp) (b b' : Builder)
    (h : Builder.new.applyAll ops = some b) (h' : Builder.new.applyAll ops' = some b')
    (he : entriesOf ops = entriesOf ops') : b.allowed = b'.allowed := by
  have h1 := (applyAll_spec _ _ _ h).1
  rw [he, (applyAll_spec _ _ _ h').1] at h1
  exact (Option.some.inj h1).symm

/-- **build_tcp_keeps_allowlist**: when the last destination call of a successful chain is
    `with_http_listener(a)` (or there is none and `a` is the default `0.0.0.0:9000`), `build` starts a TCP
    listener on `a` whose allowlist is the one made of all `add_allowed_address` arguments. -/
theorem build_tcp_keeps_allowlist (ops : List BOp) (b : Builder) (a : Nat)
    (h : Builder.new.applyAll ops = some b) (hd : lastDest (.tcp defaultListen) ops = .tcp a) :
    addAll none (entriesOf ops) = some b.allowed ∧ b.build = .tcp a b.allowed := by
  obtain ⟨h1, h2⟩ := applyAll_spec _ _ _ h
  refine ⟨h1, ?_⟩
  rw [Builder.build, h2.trans hd]

/-- **no_calls_default_endpoint**: `PrometheusBuilder::new().build()` listens on `0.0.0.0:9000` for everybody. -/
theorem no_calls_default_endpoint : Builder.new.build = .tcp defaultListen none := rfl

/-- **build_uds_drops_allowlist** (an oddity of the code, stated as it is): when the last destination call is
    `with_http_uds_listener`, the endpoint has no allowlist whatever `add_allowed_address` calls were made —
    every unix-socket client is allowed.  (A unix-socket peer has no IP address; the property's allowlist clause
    speaks of peers with addresses.) -/
theorem build_uds_drops_allowlist (ops : List BOp) (b : Builder) (p : Nat)
    (h : Builder.new.applyAll ops = some b) (hd : lastDest (.tcp defaultListen) ops = .uds p) :
    b.build = .uds p ∧ b.build.isAllowed .unix = some true := by
  rw [Builder.build, (applyAll_spec _ _ _ h).2.trans hd]
  exact ⟨rfl, rfl⟩

/-- a refusal is the same on the wire for every method -/
theorem wire_forbidden (m : List Char) : wire m ⟨403, []⟩ = ⟨403, []⟩ :=
  ite_self _

/-- **deny_outside_any_request**: a TCP peer that no listed network matches is refused with 403 and an empty
    body whatever it sends: every method (`GET`, `POST`, `OPTIONS`, `HEAD`, …), every header set
    (`X-Forwarded-For` included), every target, from every source port (privileged ones included), on every
    listen address. -/
theorem deny_outside_any_request (addr : Nat) (nets : List Net) (a : Addr) (port : Nat) (q : Req)
    (rendered : List Char) (h : ∀ n, n ∈ nets → peerMatches n a = false) :
    (Endpoint.tcp addr (some nets)).isAllowed (.ip a port) = some false
      ∧ serveReq false rendered q = ⟨403, []⟩ :=
  ⟨congrArg some (checkAllowed_eq_false h), wire_forbidden q.method⟩

/-- **allow_inside_any_request**: a TCP peer that some listed network matches is served for every method,
    header set and source port: 200 with "OK" for the path `/health`, 200 with the current rendering otherwise
    (for `HEAD` the same status without body bytes). -/
theorem allow_inside_any_request (addr : Nat) (nets : List Net) (n : Net) (hn : n ∈ nets) (a : Addr)
    (port : Nat) (q : Req) (rendered : List Char) (h : peerMatches n a = true) :
    (Endpoint.tcp addr (some nets)).isAllowed (.ip a port) = some true
      ∧ serveReq true rendered q
          = wire q.method ⟨200, if pathOf q.target = healthPath then okBody else rendered⟩ :=
  ⟨congrArg some ((allowed_iff_exists nets a).2 ⟨n, hn, h⟩), rfl⟩

/-- **request_only_path_matters**: two requests with the same path (and both `HEAD` or both not) get the same
    answer: method, headers and query string are not inputs of the decision. -/
theorem request_only_path_matters (ok : Bool) (rendered : List Char) (q q' : Req)
    (hp : pathOf q.target = pathOf q'.target) (hm : q.method = headMethod ↔ q'.method = headMethod) :
    serveReq ok rendered q = serveReq ok rendered q' := by
  unfold serveReq wire
  rw [hp]
  by_cases h : q.method = headMethod
  · rw [if_pos h, if_pos (hm.1 h)]
  · rw [if_neg h, if_neg (mt hm.2 h)]

/-- **port_irrelevant**: the source port of a TCP peer is not an input of the decision. -/
theorem port_irrelevant (ep : Endpoint) (a : Addr) (p p' : Nat) :
    ep.isAllowed (.ip a p) = ep.isAllowed (.ip a p') := by
  cases ep <;> rfl

/-- **uds_serves_everyone**: on a unix-socket endpoint every request is served (200), for every path. -/
theorem uds_serves_everyone (p : Nat) (q : Req) (rendered : List Char) :
    (Endpoint.uds p).isAllowed .unix = some true ∧ (serveReq true rendered q).status = 200 := by
  refine ⟨rfl, ?_⟩
  unfold serveReq wire
  split <;> rfl

/-- sum of the metric updates of a history -/
def updates : List Ev2 → Nat
  | [] => 0
  | .update n :: es => n + updates es
  | _ :: es => updates es

theorem stepEv2_conn_state (arm : LoopAct) (render : Nat → List Char) (s : Sess2) (p : Peer) (rs : List Req) :
    (stepEv2 arm render s (.conn p rs)).1 = s := by
  simp only [stepEv2]
  split
  · split <;> rfl
  · rfl

/-- with the error arm `continue`, a history does nothing to the listener but add up the updates -/
theorem runState2_continue (render : Nat → List Char) (s : Sess2) (evs : List Ev2) :
    runState2 .continue render s evs = { s with metrics := s.metrics + updates evs } := by
  induction evs generalizing s with
  | nil => rfl
  | cons e es ih =>
    rw [runState2, ih]
    cases e with
    | update n => exact congrArg (Sess2.mk s.ep · s.running) (Nat.add_assoc ..)
    | conn p rs => rw [stepEv2_conn_state]; rfl
    | fault k p => rfl
    | acceptErr n => rfl

/-- **endpoint_invariant**: with the accept loop's error arm being `continue`, NO history — faulty
    connections, accept errors (EMFILE, ECONNABORTED), any number of other clients — stops the listener or
    changes its endpoint / allowlist; the metrics are the initial value plus all updates. -/
theorem endpoint_invariant (render : Nat → List Char) (s : Sess2) (evs : List Ev2) :
    (runState2 .continue render s evs).running = s.running
      ∧ (runState2 .continue render s evs).ep = s.ep
      ∧ (runState2 .continue render s evs).metrics = s.metrics + updates evs := by
  rw [runState2_continue]
  exact ⟨rfl, rfl, rfl⟩

/-- **later_clients_served**: after ANY history (faults, accept errors, concurrent and earlier connections) a
    connection to a running listener gets exactly the answers the decision prescribes, computed from the metrics
    as they are then: one answer per request, by the allowlist the listener was built with. -/
theorem later_clients_served (render : Nat → List Char) (s : Sess2) (hr : s.running = true)
    (pre : List Ev2) (peer : Peer) (reqs : List Req) :
    (stepEv2 .continue render (runState2 .continue render s pre) (.conn peer reqs)).2 =
      match s.ep.isAllowed peer with
      | some ok => reqs.map (serveReq ok (render (s.metrics + updates pre)))
      | none => [] := by
  rw [runState2_continue]
  simp only [stepEv2, hr, if_true]
  cases s.ep.isAllowed peer <;> rfl

/-- **noise_transparent**: removing every faulty connection and every accept error from a history leaves the
    answers of all remaining events unchanged (`faults_transparent` for the model with the accept loop: under the
    `continue` policy an accept error is one more event that changes nothing). -/
theorem noise_transparent (render : Nat → List Char) (s : Sess2) (evs : List Ev2) :
    (run2 .continue render s evs).flatten
      = (run2 .continue render s (evs.filter (fun e => !e.isNoise))).flatten := by
  induction evs generalizing s with
  | nil => rfl
  | cons e es ih =>
    cases e with
    | update n => exact ih _
    | conn p rs => exact congrArg (_ ++ ·) (ih _)
    | fault k p => exact ih _
    | acceptErr n => exact ih _

/-- **exit_arm_starves**: the previous three theorems depend on the error arm being `continue`: were it an exit
    from the loop (`break` / `return` / `?`), one accept error would leave every later allowed client without an
    answer.  (The arm is pinned by `src_listener_plumbing`; the harness provokes real accept errors by running
    the process out of file descriptors.) -/
theorem exit_arm_starves :
    ∃ (s : Sess2) (pre : List Ev2) (peer : Peer) (reqs : List Req),
      s.running = true ∧ s.ep.isAllowed peer = some true ∧ reqs ≠ [] ∧
      (stepEv2 .exit (fun _ => []) (runState2 .exit (fun _ => []) s pre) (.conn peer reqs)).2 = [] :=
  ⟨⟨.tcp 0 none, 0, true⟩, [.acceptErr 24], .ip ⟨.v4, 1⟩ 0, [⟨['G', 'E', 'T'], ['/'], []⟩],
    rfl, rfl, List.cons_ne_nil _ _, rfl⟩

/-- **run2_refines_run**: the first-layer histories (`run`: well-formed `GET`s, faults, updates) are the
    second-layer histories of a TCP endpoint with that allowlist, from any source port, under either arm: all
    first-layer theorems speak about `run2` as well. -/
theorem run2_refines_run (arm : LoopAct) (render : Nat → List Char) (addr port : Nat) (s : Sess)
    (evs : List Ev) :
    (run2 arm render ⟨.tcp addr s.al, s.metrics, true⟩ (evs.map (Ev.lift port))).flatten
      = run render s evs := by
  induction evs generalizing s with
  | nil => rfl
  | cons e es ih =>
    cases e with
    | update n => exact ih ⟨s.al, s.metrics + n⟩
    | fault k p => exact ih s
    | req p t =>
      -- the lifted request is a `GET`, so `wire` leaves the answer as it is
      exact congrArg (List.cons _) (ih s)

/-! ## clients that half-close (complete request, then FIN, then wait for the answer)

Clause 1 quantifies over every GET: the client that shuts down its write side after a complete request has sent a
well-formed request and must be answered.  `stepEv3` has that client as an event and the connection's reaction to
the EOF as a parameter (`EofAct`), the way `stepEv2` has the accept loop's error arm. -/

/-- with `half_close(true)` a half-closing client IS an ordinary connection -/
theorem stepEv3_finish (arm : LoopAct) (render : Nat → List Char) (s : Sess2) (e : Ev3) :
    stepEv3 arm .finish render s e = stepEv2 arm render s e.plain := by
  cases e <;> rfl

/-- **run3_refines_run2**: with `half_close(true)` every third-layer history is the second-layer history in which
    each half-closing client is an ordinary connection with the same requests: all second-layer theorems
    (`endpoint_invariant`, `later_clients_served`, `noise_transparent`, `deny_outside_any_request`, …) speak about
    histories with half-closing clients as well. -/
theorem run3_refines_run2 (arm : LoopAct) (render : Nat → List Char) (s : Sess2) (evs : List Ev3) :
    run3 arm .finish render s evs = run2 arm render s (evs.map Ev3.plain)
      ∧ runState3 arm .finish render s evs = runState2 arm render s (evs.map Ev3.plain) := by
  induction evs generalizing s with
  | nil => exact ⟨rfl, rfl⟩
  | cons e es ih =>
    simp only [run3, runState3, List.map_cons, run2, runState2, stepEv3_finish]
    exact ⟨by rw [(ih _).1], (ih _).2⟩

/-- **half_closing_client_served**: with `half_close(true)`, after ANY history (faults, accept errors, other
    half-closing clients, concurrent and earlier connections) a client that sends complete requests and then shuts
    down its write side gets exactly the answers the decision prescribes — one per request, computed from the
    metrics as they are then, by the allowlist the listener was built with: 200 with the rendering (or "OK") for a
    peer inside, 403 with an empty body for a peer outside. -/
theorem half_closing_client_served (render : Nat → List Char) (s : Sess2) (hr : s.running = true)
    (pre : List Ev3) (peer : Peer) (reqs : List Req) :
    (stepEv3 .continue .finish render (runState3 .continue .finish render s pre) (.halfClose peer reqs)).2 =
      match s.ep.isAllowed peer with
      | some ok => reqs.map (serveReq ok (render (s.metrics + updates (pre.map Ev3.plain))))
      | none => [] := by
  rw [stepEv3_finish, (run3_refines_run2 .continue render s pre).2]
  exact later_clients_served render s hr (pre.map Ev3.plain) peer reqs

/-- the state after one third-layer event does not depend on the EOF option (a dropped connection and a served
    one both leave the listener as it was) -/
theorem stepEv3_state (arm : LoopAct) (eof : EofAct) (render : Nat → List Char) (s : Sess2) (e : Ev3) :
    (stepEv3 arm eof render s e).1 = (stepEv2 arm render s e.plain).1 := by
  cases e with
  | ev e => rfl
  | halfClose peer reqs =>
    cases eof with
    | finish => rfl
    | drop => exact (stepEv2_conn_state arm render s peer reqs).symm

/-- **endpoint_invariant3**: under EITHER option, no history with half-closing clients stops the listener or
    changes its endpoint / allowlist / metrics: whatever happens to the half-closing client itself, it is never in
    the way of later clients. -/
theorem endpoint_invariant3 (eof : EofAct) (render : Nat → List Char) (s : Sess2) (evs : List Ev3) :
    runState3 .continue eof render s evs = runState2 .continue render s (evs.map Ev3.plain) := by
  induction evs generalizing s with
  | nil => rfl
  | cons e es ih =>
    rw [runState3, List.map_cons, runState2, stepEv3_state]
    exact ih _

/-- **default_eof_drops_request**: the repair is needed.  With hyper's default (`half_close(false)`, the tree
    before `fix-C18`) there is a running listener without allowlist, a peer and ONE complete `GET /metrics` such
    that the half-closing client gets no answer at all, while the same request from a client that keeps its write
    side open is answered 200 with the rendering: clause 1 ("a GET on any path other than /health returns 200 …")
    fails for a well-formed request.  Witness replayed on the real listener by the harness (`allow hc …`). -/
theorem default_eof_drops_request :
    ∃ (s : Sess2) (peer : Peer) (q : Req),
      s.running = true ∧ s.ep.isAllowed peer = some true ∧ q.method = ['G', 'E', 'T'] ∧
      pathOf q.target ≠ healthPath ∧
      (stepEv3 .continue .drop (fun _ => ['r']) s (.halfClose peer [q])).2 = [] ∧
      (stepEv3 .continue .drop (fun _ => ['r']) s (.ev (.conn peer [q]))).2 = [⟨200, ['r']⟩] ∧
      (stepEv3 .continue .finish (fun _ => ['r']) s (.halfClose peer [q])).2 = [⟨200, ['r']⟩] :=
  ⟨⟨.tcp 0 none, 0, true⟩, .ip ⟨.v4, 2130706433⟩ 40000, ⟨['G', 'E', 'T'], ['/', 'm', 'e', 't', 'r', 'i', 'c', 's'], []⟩,
    rfl, rfl, rfl, by decide, rfl, by decide, by decide⟩

/-- **src_connection_task**: facts extracted from the current source about the task that serves one connection
    and about the request line, which no run on this machine can observe in general.
    * the options set on `HyperHttpBuilder::new()` before `.serve_connection(..)` are exactly `half_close(true)`, on
      the TCP and on the unix-socket path (`EofAct.finish`: `half_closing_client_served`) — no `max_buf_size`,
      `pipeline_flush`, `keep_alive(false)`, `header_read_timeout`;
    * the whole `tokio::spawn(async move { … })` block is `if let Err(err) = <that connection>.await { warn!(..) }`:
      nothing wraps the connection future (no `timeout(..)`, no `select!`, no permit), so a connection lives until
      hyper ends it: a persistent connection is not cut between two scrapes and a slow rendering is not cut short;
    * before the spawn, `process_tcp_stream` calls nothing but `check_tcp_allowed`, the handle's `clone` and
      `service_fn` (nothing is set on the accepted stream: no `set_ttl`, no `set_linger`); the accept arm hands the
      stream on as it is; `new_http_listener` only binds, sets non-blocking mode and converts the listener;
    * the path the handler matches on is `req.uri().path()` (`pathOf`). -/
theorem src_connection_task :
    eofOfSource Generated.tcp_conn_options = EofAct.finish
    ∧ eofOfSource Generated.uds_conn_options = EofAct.finish
    ∧ Generated.tcp_spawn_block
        = "{ifletErr(err)=HyperHttpBuilder::new().half_close(true).serve_connection(TokioIo::new(stream),service).await{warn!(error=?err,\"Errorservingconnection.\");}}"
    ∧ Generated.uds_spawn_block
        = "{ifletErr(err)=HyperHttpBuilder::new().half_close(true).serve_connection(TokioIo::new(stream),service).await{warn!(error=?err,\"Errorservingconnection.\");};}"
    ∧ Generated.tcp_process_calls = ["check_tcp_allowed", "clone", "service_fn", "Self::handle_http_request", "clone"]
    ∧ Generated.serve_tcp_ok_arm = "stream" ∧ Generated.serve_uds_ok_arm = "stream"
    ∧ Generated.new_http_listener_calls = ["set_nonblocking", "TcpListener::bind", "TcpListener::from_std"]
    ∧ Generated.http_path_scrutinee = "req.uri().path()" :=
  ⟨by decide, by decide, rfl, rfl, rfl, rfl, rfl, rfl, rfl⟩

theorem load_fields (m : Nat → Nat) (n k : Nat) (f : Flight) :
    (f.load m n k).id = f.id ∧ (f.load m n k).ok = f.ok ∧ (f.load m n k).path = f.path := by
  unfold Flight.load; split <;> exact ⟨rfl, rfl, rfl⟩

/-- a load puts the CURRENT value of the series into the accumulator and touches nothing else -/
theorem load_acc (m : Nat → Nat) (n k j v : Nat) (f : Flight) (h : (f.load m n k).acc j = some v) :
    f.acc j = some v ∨ v = m j := by
  unfold Flight.load at h
  split at h
  · dsimp only at h
    split at h
    · rename_i hj; subst hj; exact Or.inr (Option.some.inj h).symm
    · exact Or.inl h
  · exact Or.inl h

theorem findFlight_read_ne (m : Nat → Nat) (n id id' k : Nat) (fs : List Flight) (h : id' ≠ id) :
    findFlight id (readFlight m n id' k fs) = findFlight id fs := by
  induction fs with
  | nil => rfl
  | cons f fs ih =>
    unfold readFlight
    split
    · rename_i h1
      have hne : ¬ f.id = id := h1 ▸ h
      simp only [findFlight, (load_fields m n k f).1, if_neg hne]
    · simp only [findFlight, ih]

theorem findFlight_read_eq (m : Nat → Nat) (n id k : Nat) (fs : List Flight) (f : Flight)
    (h : findFlight id fs = some f) : findFlight id (readFlight m n id k fs) = some (f.load m n k) := by
  induction fs with
  | nil => cases h
  | cons g gs ih =>
    unfold readFlight
    unfold findFlight at h
    split
    · rename_i h1
      rw [if_pos h1] at h
      cases h
      simp only [findFlight, (load_fields m n k f).1, if_pos h1]
    · rename_i h1
      rw [if_neg h1] at h
      simp only [findFlight, if_neg h1, ih h]

theorem findFlight_drop_ne (id id' : Nat) (fs : List Flight) (h : id' ≠ id) :
    findFlight id (dropFlight id' fs) = findFlight id fs := by
  induction fs with
  | nil => rfl
  | cons f fs ih =>
    unfold dropFlight
    split
    · rename_i h1
      have hne : ¬ f.id = id := h1 ▸ h
      simp only [findFlight, if_neg hne]
    · simp only [findFlight, ih]

theorem stepC_arrive_new (render : List Nat → List Char) (s : StC) (id : Nat) (ok : Bool) (path : List Char)
    (hnew : findFlight id s.flights = none) :
    (stepC render s (.arrive id ok path)).1 = { s with flights := ⟨id, ok, path, fun _ => none⟩ :: s.flights } := by
  simp only [stepC, hnew]

/-- one event other than the answer to `id`: request `id` stays in flight with its `is_allowed` and path, and
    whatever its accumulator holds afterwards it held before or is the value the series had at that moment -/
theorem flight_step (render : List Nat → List Char) (s : StC) (id : Nat) (f : Flight) (e : EvC)
    (hf : findFlight id s.flights = some f) (he : e.isRespond id = false) :
    ∃ f', findFlight id (stepC render s e).1.flights = some f' ∧ f'.ok = f.ok ∧ f'.path = f.path ∧
      ∀ k v, f'.acc k = some v → f.acc k = some v ∨ v = s.metrics k := by
  -- unless the event is a load of this very request, the flight is found unchanged
  have same : ∀ fl, findFlight id fl = some f → ∃ f', findFlight id fl = some f' ∧ f'.ok = f.ok ∧
      f'.path = f.path ∧ ∀ k v, f'.acc k = some v → f.acc k = some v ∨ v = s.metrics k :=
    fun _ h => ⟨f, h, rfl, rfl, fun _ _ h => Or.inl h⟩
  cases e with
  | update k d => exact same _ hf
  | arrive id' ok path =>
    simp only [stepC]
    split
    · exact same _ hf
    · rename_i hn
      have hne : ¬ id' = id := fun h => by rw [h, hf] at hn; cases hn
      exact same _ (by simp only [findFlight, if_neg hne, hf])
  | read id' k =>
    by_cases h : id' = id
    · subst h
      exact ⟨f.load s.metrics s.n k, findFlight_read_eq _ _ _ _ _ _ hf, (load_fields ..).2.1, (load_fields ..).2.2,
        fun j v hv => load_acc _ _ _ _ _ _ hv⟩
    · exact same _ ((findFlight_read_ne _ _ _ _ _ _ h).trans hf)
  | respond id' =>
    have hne : id' ≠ id := fun h => by subst h; simp [EvC.isRespond] at he
    simp only [stepC]
    split
    · exact same _ hf
    · split
      · exact same _ ((findFlight_drop_ne _ _ _ hne).trans hf)
      · exact same _ hf

/-- no event changes the number of series (registrations are outside this layer) and series only grow (updates
    ADD on `Nat`: counters) -/
theorem stepC_frame (render : List Nat → List Char) (s : StC) (e : EvC) :
    (stepC render s e).1.n = s.n ∧ ∀ k, s.metrics k ≤ (stepC render s e).1.metrics k := by
  have same : ∀ fl, ({ s with flights := fl } : StC).n = s.n ∧ ∀ k, s.metrics k ≤ ({ s with flights := fl } : StC).metrics k :=
    fun _ => ⟨rfl, fun _ => Nat.le_refl _⟩
  cases e with
  | update k' d => exact ⟨rfl, fun k => by simp only [stepC]; split <;> omega⟩
  | arrive id ok path => simp only [stepC]; split <;> exact same _
  | read id k' => exact same _
  | respond id =>
    simp only [stepC]
    split
    · exact same _
    · split <;> exact same _

theorem runStateC_frame (render : List Nat → List Char) (s : StC) (evs : List EvC) :
    (runStateC render s evs).n = s.n ∧ ∀ k, s.metrics k ≤ (runStateC render s evs).metrics k := by
  induction evs generalizing s with
  | nil => exact ⟨rfl, fun _ => Nat.le_refl _⟩
  | cons e es ih =>
    obtain ⟨h1, h2⟩ := stepC_frame render s e
    obtain ⟨h3, h4⟩ := ih (stepC render s e).1
    exact ⟨h3.trans h1, fun k => Nat.le_trans (h2 k) (h4 k)⟩

theorem runStateC_n (render : List Nat → List Char) (s : StC) (evs : List EvC) : (runStateC render s evs).n = s.n :=
  (runStateC_frame render s evs).1

theorem runStateC_mono (render : List Nat → List Char) (s : StC) (evs : List EvC) (k : Nat) :
    s.metrics k ≤ (runStateC render s evs).metrics k :=
  (runStateC_frame render s evs).2 k

theorem runStateC_append (render : List Nat → List Char) (s : StC) (a b : List EvC) :
    runStateC render s (a ++ b) = runStateC render (runStateC render s a) b := by
  induction a generalizing s with
  | nil => rfl
  | cons e es ih => exact ih _

/-- **flight_history**: over ANY history that does not answer request `id` — updates, arrivals, loads and answers
    of any number of OTHER requests, in any interleaving — the request stays in flight, and every value its
    accumulator holds at the end was there at the start or is the value the series had at some moment of that
    history (`t` events into it). -/
theorem flight_history (render : List Nat → List Char) (id : Nat) (mid : List EvC) (s : StC) (f : Flight)
    (hf : findFlight id s.flights = some f) (hmid : ∀ e, e ∈ mid → e.isRespond id = false) :
    ∃ f', findFlight id (runStateC render s mid).flights = some f' ∧ f'.ok = f.ok ∧ f'.path = f.path ∧
      ∀ k v, f'.acc k = some v →
        f.acc k = some v ∨ ∃ t, t ≤ mid.length ∧ v = (runStateC render s (mid.take t)).metrics k := by
  induction mid generalizing s f with
  | nil => exact ⟨f, hf, rfl, rfl, fun _ _ h => Or.inl h⟩
  | cons e es ih =>
    obtain ⟨f1, hf1, hok1, hp1, hacc1⟩ := flight_step render s id f e hf (hmid e List.mem_cons_self)
    obtain ⟨f2, hf2, hok2, hp2, hacc2⟩ := ih _ f1 hf1 (fun e' he' => hmid e' (List.mem_cons_of_mem _ he'))
    refine ⟨f2, hf2, hok2.trans hok1, hp2.trans hp1, fun k v hv => ?_⟩
    rcases hacc2 k v hv with h | ⟨t, ht, hv'⟩
    · exact (hacc1 k v h).imp_right fun h' => ⟨0, Nat.zero_le _, h'⟩
    · exact Or.inr ⟨t + 1, Nat.succ_le_succ ht, hv'⟩

/-- **scrape_fresh** — the freshness clause, for ALL histories.  Let a request arrive (in any state `s`: any
    number of other requests in flight, each anywhere in its rendering), let ANY history `mid` follow that does not
    answer it (updates, other clients arriving, their renderings' loads, their answers, its own loads — in any
    interleaving), and let it then be answered.  The answer is `handle_http_request` applied to a text that is
    made of one value per series, and EVERY one of these values is the value that series had at some moment AFTER
    the arrival (`t` events into `mid`).  No value comes from before the request arrived — whatever other
    renderings were in progress or completed meanwhile. -/
theorem scrape_fresh (render : List Nat → List Char) (s : StC) (id : Nat) (ok : Bool) (path : List Char)
    (mid : List EvC) (hnew : findFlight id s.flights = none) (hmid : ∀ e, e ∈ mid → e.isRespond id = false)
    (s' : StC) (r : Resp)
    (h : stepC render (runStateC render (stepC render s (.arrive id ok path)).1 mid) (.respond id) = (s', some r)) :
    ∃ vs : List Nat, r = handleHttpRequest ok (render vs) path ∧ vs.length = s.n ∧
      (ok = true → path ≠ healthPath → ∀ k, k < s.n → ∃ t, t ≤ mid.length ∧
        vs[k]? = some ((runStateC render (stepC render s (.arrive id ok path)).1 (mid.take t)).metrics k)) := by
  have hf0 : findFlight id (stepC render s (.arrive id ok path)).1.flights = some ⟨id, ok, path, fun _ => none⟩ := by
    rw [stepC_arrive_new render s id ok path hnew]
    exact if_pos rfl
  obtain ⟨f', hf', (hok : f'.ok = ok), (hp : f'.path = path), hacc⟩ := flight_history render id mid _ _ hf0 hmid
  have hn : (runStateC render (stepC render s (.arrive id ok path)).1 mid).n = s.n :=
    (runStateC_n ..).trans (stepC_frame ..).1
  generalize runStateC render (stepC render s (.arrive id ok path)).1 mid = S at h hf' hn
  simp only [stepC, hf', hn] at h
  cases ha : f'.answer render s.n with
  | none => rw [ha] at h; cases h
  | some r' =>
    rw [ha] at h
    cases h
    -- the answer was given: the request does not render, or its rendering is complete
    unfold Flight.answer at ha
    split at ha
    · rename_i hc
      cases ha
      refine ⟨f'.values s.n, by rw [hok, hp], by simp only [Flight.values, List.length_map, List.length_range],
        fun hok' hpath k hk => ?_⟩
      have hren : f'.renders = true := by
        simp only [Flight.renders, hok.trans hok', Bool.true_and, Bool.not_eq_true', beq_eq_false_iff_ne, ne_eq, hp]
        exact hpath
      rw [hren] at hc
      have hk' : (f'.acc k).isSome = true := List.all_eq_true.1 hc k (List.mem_range.2 hk)
      obtain ⟨v, hv⟩ := Option.isSome_iff_exists.1 hk'
      rcases hacc k v hv with h0 | ⟨t, ht, hv'⟩
      · cases h0
      · refine ⟨t, ht, ?_⟩
        simp only [Flight.values, List.getElem?_map, List.getElem?_range hk, Option.map_some, hv, Option.getD_some, hv']
    · cases ha

/-- **scrape_sees_completed_updates** — what the clause means for counters.  Under the hypotheses of
    `scrape_fresh`, every value in the body lies between the value the series had when the request ARRIVED and the
    value it has when the answer is written: every update that completed before the request arrived is in the body
    (read-your-writes across the scrape endpoint), nothing is older than the arrival and nothing is invented. -/
theorem scrape_sees_completed_updates (render : List Nat → List Char) (s : StC) (id : Nat) (ok : Bool)
    (path : List Char) (mid : List EvC) (hnew : findFlight id s.flights = none)
    (hmid : ∀ e, e ∈ mid → e.isRespond id = false) (s' : StC) (r : Resp)
    (h : stepC render (runStateC render (stepC render s (.arrive id ok path)).1 mid) (.respond id) = (s', some r)) :
    ∃ vs : List Nat, r = handleHttpRequest ok (render vs) path ∧ vs.length = s.n ∧
      (ok = true → path ≠ healthPath → ∀ k, k < s.n → ∃ v, vs[k]? = some v ∧ s.metrics k ≤ v ∧
        v ≤ (runStateC render (stepC render s (.arrive id ok path)).1 mid).metrics k) := by
  obtain ⟨vs, hr, hl, hv⟩ := scrape_fresh render s id ok path mid hnew hmid s' r h
  refine ⟨vs, hr, hl, fun hok hpath k hk => ?_⟩
  obtain ⟨t, ht, hvt⟩ := hv hok hpath k hk
  refine ⟨_, hvt, Nat.le_trans ((stepC_frame ..).2 k) (runStateC_mono ..), ?_⟩
  -- the history is its first `t` events followed by the rest, over which the series only grows
  have := runStateC_mono render (runStateC render (stepC render s (.arrive id ok path)).1 (mid.take t)) (mid.drop t) k
  rwa [← runStateC_append, List.take_append_drop] at this

/-- **refusal_and_health_never_wait**: a request that does not render — from a peer that is not allowed, or for
    `/health` — can be answered the moment it has arrived, in EVERY state: however many other clients' renderings
    are in progress, they do not stand in its way. -/
theorem refusal_and_health_never_wait (render : List Nat → List Char) (s : StC) (id : Nat) (ok : Bool)
    (path : List Char) (hnew : findFlight id s.flights = none) (hnr : ok = false ∨ path = healthPath) :
    (stepC render (stepC render s (.arrive id ok path)).1 (.respond id)).2
      = some (if ok then ⟨200, okBody⟩ else ⟨403, []⟩) := by
  rw [stepC_arrive_new render s id ok path hnew]
  rcases hnr with h | h
  · subst h; simp [stepC, findFlight, Flight.answer, Flight.renders, handleHttpRequest]
  · subst h
    cases ok <;> simp [stepC, findFlight, Flight.answer, Flight.renders, handleHttpRequest]

/-- after the first `j` loads of a request that arrived in state `s0` (nothing else happening), its accumulator
    holds exactly the current values of series `0 … j-1` -/
theorem reads_fill (render : List Nat → List Char) (s0 : StC) (id : Nat) (path : List Char)
    (hnew : findFlight id s0.flights = none) (hp : path ≠ healthPath) (j : Nat) (hj : j ≤ s0.n) :
    (runStateC render (stepC render s0 (.arrive id true path)).1 ((List.range j).map (EvC.read id))).n = s0.n
    ∧ (runStateC render (stepC render s0 (.arrive id true path)).1 ((List.range j).map (EvC.read id))).metrics = s0.metrics
    ∧ ∃ f, findFlight id
          (runStateC render (stepC render s0 (.arrive id true path)).1 ((List.range j).map (EvC.read id))).flights = some f
        ∧ f.ok = true ∧ f.path = path ∧ ∀ k, f.acc k = if k < j then some (s0.metrics k) else none := by
  induction j with
  | zero =>
    rw [stepC_arrive_new render s0 id true path hnew]
    exact ⟨rfl, rfl, _, if_pos rfl, rfl, rfl, fun k => (if_neg (Nat.not_lt_zero k)).symm⟩
  | succ j ih =>
    obtain ⟨hn, hm, f, hf, hok, hpath, hacc⟩ := ih (Nat.le_of_succ_le hj)
    rw [List.range_succ, List.map_append, runStateC_append]
    generalize runStateC render (stepC render s0 (.arrive id true path)).1 ((List.range j).map (EvC.read id)) = S
      at hn hm hf
    refine ⟨hn, hm, _, findFlight_read_eq _ _ _ _ _ _ hf, (load_fields ..).2.1.trans hok,
      (load_fields ..).2.2.trans hpath, fun k => ?_⟩
    -- the load of series `j` goes through: the request renders, `j < n`, and series `j` has not been visited
    have hren : f.renders = true := by
      simp only [Flight.renders, hok, hpath, Bool.true_and, Bool.not_eq_true', beq_eq_false_iff_ne]; exact hp
    have hjn : j < S.n := hn ▸ hj
    have hnone : (f.acc j).isNone = true := by rw [hacc j, if_neg (Nat.lt_irrefl j)]; rfl
    simp only [Flight.load, hren, hjn, hnone, decide_true, Bool.and_self, if_true, hm, hacc k]
    by_cases hk : k = j
    · rw [if_pos hk, if_pos (hk ▸ Nat.lt_succ_self j), hk]
    · simp only [Nat.lt_succ_iff_lt_or_eq, hk, or_false, if_false]

/-- **own_rendering_suffices** ("concurrent requests never prevent later clients from being served", and the
    sequential layer as a special case).  In EVERY state — any number of other clients' requests in flight, each
    anywhere in its rendering, complete or not — a request that arrives, is given its own loads and is then answered
    gets 200 with the rendering of the series as they are NOW: nothing another request holds is needed, used or in
    the way.  (`stepEv2`'s one-step answer `render s.metrics` is this history run without interleaving.) -/
theorem own_rendering_suffices (render : List Nat → List Char) (s0 : StC) (id : Nat) (path : List Char)
    (hnew : findFlight id s0.flights = none) (hp : path ≠ healthPath) :
    (stepC render
        (runStateC render (stepC render s0 (.arrive id true path)).1 ((List.range s0.n).map (EvC.read id)))
        (.respond id)).2
      = some ⟨200, render ((List.range s0.n).map s0.metrics)⟩ := by
  obtain ⟨hn, _, f, hf, hok, hpath, hacc⟩ := reads_fill render s0 id path hnew hp s0.n (Nat.le_refl _)
  generalize runStateC render (stepC render s0 (.arrive id true path)).1 ((List.range s0.n).map (EvC.read id)) = S
    at hn hf
  have hfull : ∀ k, k ∈ List.range s0.n → f.acc k = some (s0.metrics k) :=
    fun k hk => (hacc k).trans (if_pos (List.mem_range.1 hk))
  have hcomp : f.complete s0.n = true :=
    List.all_eq_true.2 fun k hk => by rw [hfull k hk]; rfl
  have hvals : f.values s0.n = (List.range s0.n).map s0.metrics :=
    List.map_congr_left fun k hk => by rw [hfull k hk]; rfl
  simp only [stepC, hf, Flight.answer, hn, hcomp, Bool.or_true, if_true, hvals, handleHttpRequest, hok, hpath,
    if_neg hp]

/-- **src_render_per_request**: facts extracted from the current source that tie `stepC` to the code.
    * the served branch of `handle_http_request` produces the body of every path other than `/health` by
      `tokio::task::spawn_blocking(move || handle.render())`, awaited in the handler: the rendering is STARTED by the
      request it answers, after that request arrived (`EvC.arrive` before every `EvC.read` of the same id), and its
      result goes to that request only (`Flight.acc`);
    * the handler receives `is_allowed`, the handle and the request — nothing through which a payload, a counter of
      renderings or a lock could be shared; it calls `render` on that handle and on nothing else;
    * `HttpListeningExporter` has the three fields the model knows (handle, allowlist, listener) and
      `http_listener.rs` declares no shared mutable state at all (no `Mutex`, `RwLock`, atomic, `static`, cell, cache):
      connections have nothing in common but the recorder they render (`StC.flights` are independent records). -/
theorem src_render_per_request :
    Generated.http_render_arm = "tokio::task::spawn_blocking(move||handle.render()).await.unwrap().into()"
    ∧ Generated.http_handler_params = ["is_allowed", "handle", "req"]
    ∧ Generated.http_handler_render_calls = ["handle"]
    ∧ Generated.http_exporter_fields = ["handle", "allowed_addresses", "listener_type"]
    ∧ Generated.http_listener_shared_state = []
    ∧ Generated.tcp_service_call = "Self::handle_http_request(is_allowed,handle.clone(),req)"
    ∧ Generated.uds_service_call = "Self::handle_http_request(true,handle.clone(),req)" :=
  ⟨rfl, rfl, rfl, rfl, rfl, rfl, rfl⟩

/-- **shared_rendering_is_stale**: the clause is not automatic.  With the "coalescing" shortcut (`stepShared`: a
    request takes another request's complete rendering instead of rendering itself) there is a history — client A's
    rendering loads the series, the application adds 1, client B arrives AFTER that update, A's rendering is
    complete, B is answered — in which B's body shows the value from before B arrived.  `scrape_fresh` excludes
    exactly this for the code (`stepC`), where the same history cannot answer B at all before B's own loads. -/
theorem shared_rendering_is_stale :
    ∃ (pre : List EvC) (r : Resp),
      let s0 : StC := ⟨1, fun _ => 5, []⟩
      let run := pre.foldl (fun s e => (stepShared (fun vs => (toString vs).toList) s e).1) s0
      pre = [.arrive 1 true ['/'], .read 1 0, .update 0 1, .arrive 2 true ['/']]
      ∧ run.metrics 0 = 6
      ∧ (stepShared (fun vs => (toString vs).toList) run (.respond 2)).2 = some r
      ∧ r = ⟨200, (toString [5]).toList⟩
      ∧ (stepC (fun vs => (toString vs).toList) run (.respond 2)).2 = none :=
  ⟨_, _, rfl, by decide, by decide, rfl, by decide⟩

/-- **source_shape**: facts extracted from the current source by `tools/extract.py`: the builder documents
    "IP address or subnet"; `add_allowed_address` tries `IpNet::from_str` then `IpAddr::from_str` (`parseEntry`);
    `check_tcp_allowed` returns `true` without an allowlist and otherwise matches the peer address and its
    `to_ipv4_mapped` form with `contains` under `any` (`checkAllowed`, `peerMatches`); `handle_http_request`
    branches on `is_allowed` first, compares the path with the literal the model calls `healthPath`, renders for
    every other path, and in the refused branch answers `FORBIDDEN` with a default (empty) body and never calls
    `render` (`handleHttpRequest`). -/
theorem source_shape :
    Generated.allow_doc_first_sentence = "Adds an IP address or subnet to the allowlist for the scrape endpoint"
    ∧ Generated.allow_entry_parsers = ["IpNet", "IpAddr"]
    ∧ Generated.allow_none_allows_all = true
    ∧ Generated.allow_check_calls = ["peer_addr", "ip", "to_ipv4_mapped", "any", "contains", "contains"]
    ∧ Generated.http_outer_condition = "is_allowed"
    ∧ Generated.http_health_literal.toList = healthPath
    ∧ Generated.http_other_paths_render = true
    ∧ Generated.http_denied_status = "FORBIDDEN"
    ∧ Generated.http_denied_body = "Full::<Bytes>::default()"
    ∧ Generated.http_denied_branch_renders = false :=
  ⟨rfl, rfl, rfl, rfl, rfl, by decide, rfl, rfl, rfl, rfl⟩

/-- the accept loop's error arm as read off the source: `continue` as last statement and nothing in the loop
    that could leave it (`break`, `return`, `?`) -/
def armOfSource (oneLoop : Bool) (errArmLast : String) (exits : List String) : LoopAct :=
  if oneLoop ∧ errArmLast = "continue" ∧ exits = [] then .continue else .exit

/-- **src_listener_plumbing**: facts extracted from the current source that no run on this machine can observe
    in general.
    * `process_tcp_stream` computes `is_allowed` once per connection from `check_tcp_allowed(&stream)` and hands
      exactly that value (nothing or-ed to it: no method, header or port exception) to `handle_http_request`;
      `process_uds_stream` hands `true` (`Endpoint.isAllowed`, `serveReq`).
    * `check_tcp_allowed` calls exactly these methods in this order — no `.port()`, `.take(n)`, `.skip(n)` — and
      `handle_http_request` mentions `req` once, for `req.uri()` (method, headers, body are not inputs).
    * `serve_tcp` / `serve_uds` are one `loop` whose `Err` arm ends in `continue` and which contains no `break`,
      `return` or `?` (`LoopAct.continue`: `endpoint_invariant`, `later_clients_served`).
    * the served branch appends `Content-Type: text/plain`.
    * `new_http_listener` stores the allowlist it is given, `new_http_uds_listener` stores `None`
      (`Builder.build`); `build` takes `self.allowed_addresses` and passes it as third argument; the listener
      calls of the builder assign `exporter_config` only, `add_allowed_address` touches `allowed_addresses` only
      (`Builder.apply`); `new()` starts at `0.0.0.0:9000` without allowlist (`Builder.new`);
      `install`'s own runtime is built with `enable_all()` (I/O driver present, the listener can be polled). -/
theorem src_listener_plumbing :
    Generated.tcp_is_allowed_binding = "self.check_tcp_allowed(&stream)"
    ∧ Generated.tcp_service_call = "Self::handle_http_request(is_allowed,handle.clone(),req)"
    ∧ Generated.tcp_is_allowed_uses = 2
    ∧ Generated.uds_service_call = "Self::handle_http_request(true,handle.clone(),req)"
    ∧ Generated.allow_check_all_calls
        = ["peer_addr", "map_or_else", "ip", "to_ipv4_mapped", "map", "iter", "any", "contains", "map_or", "contains"]
    ∧ Generated.http_req_reads = ["uri"] ∧ Generated.http_req_mentions = 1
    ∧ armOfSource Generated.serve_tcp_is_one_loop Generated.serve_tcp_err_arm_last Generated.serve_tcp_loop_exits
        = LoopAct.continue
    ∧ Generated.serve_tcp_loop_calls = ["accept", "process_tcp_stream"]
    ∧ armOfSource Generated.serve_uds_is_one_loop Generated.serve_uds_err_arm_last Generated.serve_uds_loop_exits
        = LoopAct.continue
    ∧ Generated.http_served_content_type = "append(CONTENT_TYPE,HeaderValue::from_static(\"text/plain\"))"
    ∧ Generated.new_http_listener_fields = "{handle,allowed_addresses,listener_type:ListenerType::Tcp(listener),}"
    ∧ Generated.new_uds_listener_fields = "{handle,allowed_addresses:None,listener_type:ListenerType::Uds(listener),}"
    ∧ Generated.build_allowed_binding = "self.allowed_addresses.take()"
    ∧ Generated.build_allowed_mentions = 3
    ∧ Generated.build_tcp_call = "new_http_listener(handle,listen_address,allowed_addresses)"
    ∧ Generated.build_uds_call = "new_http_uds_listener(handle,listen_path)"
    ∧ Generated.with_http_listener_assigns = ["exporter_config"]
    ∧ Generated.with_http_uds_listener_assigns = ["exporter_config"]
    ∧ Generated.with_push_gateway_assigns = ["exporter_config"]
    ∧ Generated.add_allowed_address_assigns = ["allowed_addresses"]
    ∧ Generated.add_allowed_address_store = "self.allowed_addresses.get_or_insert(vec![]).push(address)"
    ∧ Generated.builder_new_allowed = "None"
    ∧ Generated.builder_new_listen = "SocketAddr::new(IpAddr::V4(Ipv4Addr::new(0,0,0,0)),9000)"
    ∧ Generated.install_runtime_builders = ["new_current_thread().enable_all().build()"] :=
  ⟨rfl, rfl, rfl, rfl, rfl, rfl, rfl, rfl, rfl, rfl, rfl, rfl, rfl, rfl, rfl, rfl, rfl, rfl, rfl, rfl, rfl, rfl, rfl, rfl, rfl⟩

section examples

/-- 127.0.0.0 as a number -/
private def lo127 : Nat := 127 * 2 ^ 24

/-- `127.0.0.0/8` written as `127.1.2.3/8` -/
private def net127 : Net := ⟨.v4, lo127 + 1 * 2 ^ 16 + 2 * 2 ^ 8 + 3, 8⟩

-- first and last address of the block are inside, the neighbours on both sides are outside
example : contains net127 ⟨.v4, lo127⟩ = true := by decide
example : contains net127 ⟨.v4, lo127 + 2 ^ 24 - 1⟩ = true := by decide
example : contains net127 ⟨.v4, lo127 - 1⟩ = false := by decide
example : contains net127 ⟨.v4, lo127 + 2 ^ 24⟩ = false := by decide
example : net127.network = lo127 ∧ net127.broadcast = lo127 + 2 ^ 24 - 1 := by decide

-- `/31`: exactly two addresses
example : (List.range 8).filter (fun i => contains ⟨.v4, lo127 + 2, 31⟩ ⟨.v4, lo127 + i⟩) = [2, 3] := by decide

-- plain address = host route: only that address
example : parseEntry ⟨.v4, lo127 + 1, none⟩ = some ⟨.v4, lo127 + 1, 32⟩ := by decide
example : (List.range 4).filter (fun i => contains ⟨.v4, lo127 + 1, 32⟩ ⟨.v4, lo127 + i⟩) = [1] := by decide

-- prefix lengths beyond the width are rejected, for both families
example : parseEntry ⟨.v4, lo127 + 1, some 33⟩ = none := by decide
example : parseEntry ⟨.v6, 1, some 129⟩ = none := by decide
example : parseEntry ⟨.v6, 1, some 128⟩ = some ⟨.v6, 1, 128⟩ := by decide

-- families never match across: ::1 is not in 0.0.0.0/0, 0.0.0.1 is not in ::/0
example : contains ⟨.v4, 0, 0⟩ ⟨.v6, 1⟩ = false := by decide
example : contains ⟨.v6, 0, 0⟩ ⟨.v4, 1⟩ = false := by decide

-- IPv4 client 127.0.0.1 of a dual-stack listener (reported as ::ffff:127.0.0.1) against 127.0.0.0/8
example : checkAllowed (some [net127]) ⟨.v6, 0xffff * 2 ^ 32 + (lo127 + 1)⟩ = true := by decide
-- … and against an allowlist that lists only ::1
example : checkAllowed (some [⟨.v6, 1, 128⟩]) ⟨.v6, 0xffff * 2 ^ 32 + (lo127 + 1)⟩ = false := by decide

-- the decision, in the order the code takes it.  From here on the vectors are written as string literals;
-- `String.toList_ofList` turns `"…".toList` into the list of characters first, because evaluating it means encoding
-- the literal to UTF-8 and decoding it again, which is slow to check.
private def rendered : List Char := "# TYPE c18_marker counter\nc18_marker 7\n".toList
private def nested : List Net := [⟨.v4, lo127 + 256, 24⟩, ⟨.v4, lo127 + 256 + 128, 25⟩, ⟨.v4, lo127 + 511, 32⟩]

example : respond (some nested) ⟨.v4, lo127 + 256⟩ "/metrics".toList rendered = ⟨200, rendered⟩ := by
  unfold rendered
  repeat rw [String.toList_ofList]
  decide +kernel
example : respond (some nested) ⟨.v4, lo127 + 511⟩ "/health".toList rendered = ⟨200, "OK".toList⟩ := by
  unfold rendered
  repeat rw [String.toList_ofList]
  decide +kernel
example : respond (some nested) ⟨.v4, lo127 + 512⟩ "/metrics".toList rendered = ⟨403, []⟩ := by decide
example : respond (some nested) ⟨.v4, lo127 + 255⟩ "/health".toList rendered = ⟨403, []⟩ := by decide
example : respond (some nested) ⟨.v4, lo127 + 300⟩ "/health/".toList rendered = ⟨200, rendered⟩ := by
  unfold rendered
  repeat rw [String.toList_ofList]
  decide +kernel
example : respond none ⟨.v4, 1⟩ "/".toList rendered = ⟨200, rendered⟩ := by
  unfold rendered
  repeat rw [String.toList_ofList]
  decide +kernel
example : pathOf "/health?probe=1".toList = healthPath := by
  repeat rw [String.toList_ofList]
  decide +kernel
-- request targets outside `/path?query`: fragment, absolute-form, asterisk-form, authority-form
example : pathOf "/health#x".toList = healthPath := by
  repeat rw [String.toList_ofList]
  decide +kernel
example : pathOf "/health?a#b?c".toList = healthPath := by
  repeat rw [String.toList_ofList]
  decide +kernel
example : pathOf "/metrics#/health".toList = "/metrics".toList := by
  repeat rw [String.toList_ofList]
  decide +kernel
example : pathOf "http://c18.test:9000/health".toList = healthPath := by
  repeat rw [String.toList_ofList]
  decide +kernel
example : pathOf "http://c18.test/health?x=1".toList = healthPath := by
  repeat rw [String.toList_ofList]
  decide +kernel
example : pathOf "http://health/metrics".toList = "/metrics".toList := by
  repeat rw [String.toList_ofList]
  decide +kernel
example : pathOf "http://c18.test".toList = "/".toList := by
  repeat rw [String.toList_ofList]
  decide +kernel
example : pathOf "http://c18.test?/health".toList = "/".toList := by
  repeat rw [String.toList_ofList]
  decide +kernel
example : pathOf "*".toList = "*".toList := by
  repeat rw [String.toList_ofList]
  decide +kernel
example : pathOf "c18.test:9000".toList = [] := by
  repeat rw [String.toList_ofList]
  decide +kernel
example : respond none ⟨.v4, 1⟩ (pathOf "http://h/health#frag".toList) rendered = ⟨200, "OK".toList⟩ := by
  unfold rendered
  repeat rw [String.toList_ofList]
  decide +kernel

-- a history with faults in between: the later client is served the then-current value
example :
    run (fun n => (toString n).toList) ⟨some nested, 0⟩
      [.update 5, .fault 0 ⟨.v4, lo127 + 300⟩, .req ⟨.v4, lo127 + 300⟩ "/metrics".toList, .fault 2 ⟨.v4, 9⟩,
       .update 2, .req ⟨.v4, 9⟩ "/metrics".toList, .req ⟨.v4, lo127 + 300⟩ "/m".toList]
      = [⟨200, "5".toList⟩, ⟨403, []⟩, ⟨200, "7".toList⟩] := by
  repeat rw [String.toList_ofList]
  decide +kernel

-- the builder: `with_http_listener` AFTER `add_allowed_address` keeps the allowlist; UDS drops it
example :
    (Builder.new.applyAll [.allow ⟨.v4, lo127 + 1, none⟩, .pushGateway, .httpListener 1234]).map Builder.build
      = some (.tcp 1234 (some [⟨.v4, lo127 + 1, 32⟩])) := by decide
example :
    (Builder.new.applyAll [.httpListener 1234, .allow ⟨.v4, lo127 + 1, some 8⟩, .udsListener 7]).map Builder.build
      = some (.uds 7) := by decide
example : (Builder.new.applyAll [.allow ⟨.v4, lo127 + 1, some 33⟩, .httpListener 1]).isNone = true := by decide

-- whole requests: an outsider's OPTIONS with X-Forwarded-For from port 80 is refused, an insider's POST is served
example :
    (stepEv2 .continue (fun n => (toString n).toList) ⟨.tcp 1 (some nested), 5, true⟩
      (.conn (.ip ⟨.v4, lo127 + 512⟩ 80)
        [⟨"OPTIONS".toList, "/metrics".toList, [("x-forwarded-for".toList, "127.0.1.0".toList)]⟩])).2
      = [⟨403, []⟩] := by
  repeat rw [String.toList_ofList]
  decide +kernel
example :
    (stepEv2 .continue (fun n => (toString n).toList) ⟨.tcp 1 (some nested), 5, true⟩
      (.conn (.ip ⟨.v4, lo127 + 300⟩ 80)
        [⟨"POST".toList, "/metrics".toList, []⟩, ⟨"HEAD".toList, "/x".toList, []⟩, ⟨"GET".toList, "/health".toList, []⟩])).2
      = [⟨200, "5".toList⟩, ⟨200, []⟩, ⟨200, "OK".toList⟩] := by
  repeat rw [String.toList_ofList]
  decide +kernel

-- accept errors in between: the later client is served the then-current value
example :
    run2 .continue (fun n => (toString n).toList) (Sess2.start (.tcp 1 (some nested)))
      [.update 5, .acceptErr 24, .acceptErr 24, .fault 1 (.ip ⟨.v4, 9⟩ 1), .update 2,
       .conn (.ip ⟨.v4, lo127 + 300⟩ 4000) [⟨"GET".toList, "/m".toList, []⟩]]
      = [[], [], [], [], [], [⟨200, "7".toList⟩]] := by
  repeat rw [String.toList_ofList]
  decide +kernel

-- a half-closing client between faults and accept errors: served like the ordinary client after it (option of the
-- code); dropped under hyper's default while everybody else is served as before
example :
    run3 .continue .finish (fun n => (toString n).toList) (Sess2.start (.tcp 1 (some nested)))
      [.ev (.update 5), .ev (.acceptErr 24), .halfClose (.ip ⟨.v4, lo127 + 300⟩ 4000) [⟨"GET".toList, "/m".toList, []⟩, ⟨"GET".toList, "/health#x".toList, []⟩],
       .halfClose (.ip ⟨.v4, 9⟩ 4000) [⟨"GET".toList, "/m".toList, []⟩], .ev (.update 2),
       .ev (.conn (.ip ⟨.v4, lo127 + 300⟩ 4001) [⟨"GET".toList, "http://h/health".toList, []⟩, ⟨"GET".toList, "/m".toList, []⟩])]
      = [[], [], [⟨200, "5".toList⟩, ⟨200, "OK".toList⟩], [⟨403, []⟩], [], [⟨200, "OK".toList⟩, ⟨200, "7".toList⟩]] := by
  repeat rw [String.toList_ofList]
  decide +kernel
example :
    run3 .continue .drop (fun n => (toString n).toList) (Sess2.start (.tcp 1 (some nested)))
      [.ev (.update 5), .halfClose (.ip ⟨.v4, lo127 + 300⟩ 4000) [⟨"GET".toList, "/m".toList, []⟩],
       .ev (.conn (.ip ⟨.v4, lo127 + 300⟩ 4001) [⟨"GET".toList, "/m".toList, []⟩])]
      = [[], [], [⟨200, "5".toList⟩]] := by
  repeat rw [String.toList_ofList]
  decide +kernel

-- overlapping scrapes: A's rendering loads series 0, the application adds 3 to both series, B arrives (and a denied
-- peer, answered at once); B cannot be answered before its own loads, then shows both updates; A shows series 0 as
-- it was when A loaded it (after A arrived) and series 1 new
example :
    runC (fun vs => (toString vs).toList) ⟨2, fun _ => 5, []⟩
      [.arrive 1 true "/metrics".toList, .read 1 0, .update 0 3, .update 1 3, .arrive 2 true "/".toList,
       .arrive 3 false "/metrics".toList, .respond 3, .respond 2, .read 2 1, .read 2 0, .respond 2, .read 1 1,
       .respond 1]
      = [⟨403, []⟩, ⟨200, (toString [8, 8]).toList⟩, ⟨200, (toString [5, 8]).toList⟩] := by
  repeat rw [String.toList_ofList]
  decide +kernel

end examples

end MetricsVerif.C18
