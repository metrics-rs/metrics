/-
C08 — Prometheus output is well-formed exposition text for any input strings.

Lemmas about the writers and the independent reader live in `Proofs/PromFmt.lean`, those about the recorder's
render in `Proofs/PromWhole.lean`, the invariants of the distribution map under the drain loop (`KindInv`,
`drainOne_inv`) in `Proofs/DistExpose.lean`.  Everything is for ALL strings
(`List Char` = any sequence of Unicode scalar values), all 17 units, unit suffix on and off, all three
family kinds — by induction, no sampling.
-/
import MetricsVerif.Proofs.PromFmt
import MetricsVerif.Proofs.PromWhole
import MetricsVerif.Proofs.DistExpose
import MetricsVerif.Model.PromNum
import MetricsVerif.Generated.SourceFacts

namespace MetricsVerif.C08
open MetricsVerif.PromFmt MetricsVerif.PromRender MetricsVerif.Expo

/-! ## names match the Prometheus grammar -/

/-- every non-empty string becomes a grammar-conforming metric name -/
theorem name_grammar (s : List Char) (h : s ≠ []) : IsMetricName (sanitizeMetricName s) = true :=
  sanitizeMetricName_grammar s h

/-- every non-empty string becomes a grammar-conforming label name -/
theorem label_key_grammar (s : List Char) (h : s ≠ []) : IsLabelName (sanitizeLabelKey s) = true :=
  sanitizeLabelKey_grammar s h

/-- sanitising keeps the length (no character is dropped or added) -/
theorem name_length (s : List Char) : (sanitizeMetricName s).length = s.length := sanitizeWith_length _ _ s
/-- sanitising a sanitised name changes nothing -/
theorem name_idempotent (s : List Char) (h : s ≠ []) :
    sanitizeMetricName (sanitizeMetricName s) = sanitizeMetricName s :=
  sanitizeMetricName_id _ (name_grammar s h)

/-! ## escaping: label values and help text are sequences of escape pairs and harmless characters -/

theorem escape_wf_value (s : List Char) : WF false (sanitizeLabelValue s) := sanitizeLabelValue_wf s
theorem escape_wf_description (s : List Char) : WF true (sanitizeDescription s) := sanitizeDescription_wf s

/-- the label string `key_to_parts` formats is one the grammar accepts, for any user strings -/
theorem formatLabel_ok (k v : List Char) (hk : k ≠ []) :
    formatLabel k v = labelStr (sanitizeLabelKey k, sanitizeLabelValue v) ∧
    LabelOk (sanitizeLabelKey k, sanitizeLabelValue v) :=
  ⟨by simp [formatLabel, labelStr], label_key_grammar k hk, escape_wf_value v⟩

/-! ## escaping does not depend on the length of the string

The escaper is a one-bit transducer: what it writes for a character depends on that character and on
`previous_backslash` only — not on the position, not on how much has been written, not on what follows.  Hence
there is no length at which it behaves differently (no cap, no truncation, no buffer boundary), and the escape
of a long string is the concatenation of the pieces written for its parts. -/

/-- one round of the loop of `sanitize_label_value_or_description`: the new `previous_backslash` and the text
    pushed in this round -/
def escStep (d : Bool) (p : Bool) (c : Char) : Bool × List Char :=
  if c = '\n' then (p, ['\\', 'n'])
  else if c = '"' ∧ d = false then (false, ['\\', '"'])
  else if c = '\\' then (if p then (false, ['\\', '\\']) else (true, []))
  else (false, if p then ['\\', '\\', c] else [c])

/-- the loop over a whole string from state `p`: final `previous_backslash` and the text pushed (without the
    flush after the loop) -/
def escRun (d : Bool) : Bool → List Char → Bool × List Char
  | p, [] => (p, [])
  | p, c :: cs => ((escRun d (escStep d p c).1 cs).1, (escStep d p c).2 ++ (escRun d (escStep d p c).1 cs).2)

/-- the model's escaper is the loop of `escStep`; `escGo d p []` is the flush
    `if previous_backslash { push_str("\\\\") }` after the loop.  Everything below about `escGo` goes through this
    equation, the only place where the two case distinctions are compared. -/
theorem escGo_cons (d p : Bool) (c : Char) (cs : List Char) :
    escGo d p (c :: cs) = (escStep d p c).2 ++ escGo d (escStep d p c).1 cs := by
  rw [escGo]; unfold escStep
  by_cases h1 : c = '\n'
  · simp only [if_pos h1]; rfl
  · by_cases h2 : c = '"' ∧ d = false
    · simp only [if_neg h1, if_pos h2]; rfl
    · by_cases h3 : c = '\\' <;> cases p <;> simp [h1, h2, h3]

/-- **transducer law** (homomorphism from concatenation of strings to composition of runs): running over
    `a ++ b` is running over `a`, then over `b` from the state `a` left; the texts are concatenated -/
theorem escRun_append (d : Bool) (a b : List Char) : ∀ p,
    escRun d p (a ++ b)
      = ((escRun d (escRun d p a).1 b).1, (escRun d p a).2 ++ (escRun d (escRun d p a).1 b).2) := by
  induction a with
  | nil => intro p; simp [escRun]
  | cons c cs ih => intro p; simp [escRun, ih]

/-- **length independence.**  The escape of `a ++ b` is the text the loop wrote for `a` — which does not depend
    on `b`, nor on the length of either — followed by the escape of `b` started in the one-bit state `a` left.
    For all strings of all lengths. -/
theorem escape_append (d : Bool) (p : Bool) (a b : List Char) :
    escGo d p (a ++ b) = (escRun d p a).2 ++ escGo d (escRun d p a).1 b := by
  induction a generalizing p with
  | nil => rfl
  | cons c cs ih => rw [List.cons_append, escGo_cons, ih, escRun, List.append_assoc]

/-- the escape of a whole string: what the loop wrote, then the flush -/
theorem escGo_eq_run (d p : Bool) (s : List Char) :
    escGo d p s = (escRun d p s).2 ++ escGo d (escRun d p s).1 [] := by
  simpa using escape_append d p s []

/-- what has been written for a prefix is never taken back: it is a prefix of the escape of every extension -/
theorem escape_prefix_stable (d : Bool) (a b : List Char) :
    (escRun d false a).2 <+: escGo d false (a ++ b) := by
  rw [escape_append]; exact List.prefix_append _ _

/-- when no backslash is left pending at the end of `a`, escaping distributes over the concatenation -/
theorem escape_concat (d : Bool) (a b : List Char) (h : (escRun d false a).1 = false) :
    escGo d false (a ++ b) = escGo d false a ++ escGo d false b := by
  rw [escape_append, escGo_eq_run d false a, h]; simp [escGo]

/-- what the escaper writes for one character when no backslash is pending -/
def escChar (d : Bool) (c : Char) : List Char :=
  if c = '\n' then ['\\', 'n'] else if c = '"' ∧ d = false then ['\\', '"'] else [c]

theorem escStep_noBackslash (d : Bool) {c : Char} (h : c ≠ '\\') : escStep d false c = (false, escChar d c) := by
  by_cases h1 : c = '\n'
  · simp [escStep, escChar, h1]
  · by_cases h2 : c = '"' ∧ d = false <;> simp [escStep, escChar, h, h1, h2]

theorem escRun_noBackslash (d : Bool) (s : List Char) (h : '\\' ∉ s) :
    escRun d false s = (false, s.flatMap (escChar d)) := by
  induction s with
  | nil => rfl
  | cons c cs ih =>
    rw [List.mem_cons, not_or] at h
    rw [escRun, escStep_noBackslash d (Ne.symm h.1), ih h.2]; rfl

/-- **homomorphism on characters**: on strings without a backslash the escaper is the character-wise map
    `escChar` (newline ↦ `\n`, quote ↦ `\"` in label values, anything else itself), whatever the length -/
theorem escape_flatMap (d : Bool) (s : List Char) (h : '\\' ∉ s) : escGo d false s = s.flatMap (escChar d) := by
  rw [escGo_eq_run, escRun_noBackslash d s h]; exact List.append_nil _

/-- with backslashes the character-wise statement is FALSE of the code (a pending backslash is swallowed by a
    following quote): `\` then `"` gives `\"`, not `\\` + `\"`.  The string is in the harness corpus; the state
    bit of `escape_append` is what the full statement needs. -/
theorem escape_char_homomorphism_false :
    sanitizeLabelValue (['\\'] ++ ['"']) ≠ sanitizeLabelValue ['\\'] ++ sanitizeLabelValue ['"'] := by decide +kernel

/-- a character the escaper copies -/
def plainChar (c : Char) : Bool := c != '\n' && c != '"' && c != '\\'

theorem escChar_plain (d : Bool) {c : Char} (h : plainChar c = true) : c ≠ '\\' ∧ escChar d c = [c] := by
  simp only [plainChar, Bool.and_eq_true, bne_iff_ne, ne_eq] at h
  simp [escChar, h.1.1, h.1.2, h.2]

theorem escRun_plain (d : Bool) (a : List Char) (h : a.all plainChar = true) : escRun d false a = (false, a) := by
  have hp := fun c hc => escChar_plain d (List.all_eq_true.1 h c hc)
  rw [escRun_noBackslash d a fun hm => (hp _ hm).1 rfl, List.flatMap_def,
    List.map_congr_left fun c hc => (hp c hc).2, ← List.flatMap_def, List.flatMap_singleton']

/-- a run of ordinary characters **of any length** is copied verbatim and leaves no state behind -/
theorem escape_plain_run (d : Bool) (a b : List Char) (h : a.all plainChar = true) :
    escGo d false (a ++ b) = a ++ escGo d false b := by
  rw [escape_append, escRun_plain d a h]

/-- the strings of the harness's boundary generator, for EVERY length `n` (255, 256, 1023, 1024, 65535, … and
    all others): `n` filler characters followed by anything are the `n` filler characters followed by the escape
    of the rest — for label values and for descriptions -/
theorem escape_boundary (n : Nat) (f : Char) (hf : plainChar f = true) (t : List Char) :
    sanitizeLabelValue (List.replicate n f ++ t) = List.replicate n f ++ sanitizeLabelValue t
    ∧ sanitizeDescription (List.replicate n f ++ t) = List.replicate n f ++ sanitizeDescription t := by
  have h : (List.replicate n f).all plainChar = true :=
    List.all_eq_true.2 fun x hx => (List.mem_replicate.1 hx).2 ▸ hf
  exact ⟨escape_plain_run false _ t h, escape_plain_run true _ t h⟩

/-- one round writes at least one character per character consumed (a pending backslash counts as consumed and
    not yet written) and at most two -/
theorem escStep_length (d p : Bool) (c : Char) :
    1 + p.toNat ≤ (escStep d p c).2.length + (escStep d p c).1.toNat
    ∧ (escStep d p c).2.length + 2 * (escStep d p c).1.toNat ≤ 2 + 2 * p.toNat := by
  by_cases h1 : c = '\n'
  · cases p <;> simp [escStep, h1]
  · by_cases h2 : c = '"' ∧ d = false
    · cases p <;> simp [escStep, h2]
    · by_cases h3 : c = '\\' <;> cases p <;> simp [escStep, h1, h2, h3]

theorem escGo_length (d : Bool) (s : List Char) (p : Bool) :
    s.length + p.toNat ≤ (escGo d p s).length ∧ (escGo d p s).length ≤ 2 * (s.length + p.toNat) := by
  induction s generalizing p with
  | nil => cases p <;> simp [escGo]
  | cons c cs ih =>
    rw [escGo_cons, List.length_append, List.length_cons]
    have := ih (escStep d p c).1
    have := escStep_length d p c
    omega

/-- **nothing is cut off, at any length**: the escaped text has at least as many characters as the input and
    at most twice as many — there is no cap on a label value or a description -/
theorem escape_length (s : List Char) :
    (s.length ≤ (sanitizeLabelValue s).length ∧ (sanitizeLabelValue s).length ≤ 2 * s.length)
    ∧ (s.length ≤ (sanitizeDescription s).length ∧ (sanitizeDescription s).length ≤ 2 * s.length) :=
  ⟨escGo_length false s false, escGo_length true s false⟩

/-! ## an independent reader of the format reads back exactly what was meant -/

/-- suffixes `write_metric_line` is called with -/
def SuffixOk (s : Option (List Char)) : Prop := ∀ x, s = some x → x.all nameChar = true

/-- the `_suffix` / `_unit` part of `fullName` -/
theorem suffix_all {s : Option (List Char)} (hs : SuffixOk s) :
    (match s with | some s => '_' :: s | none => []).all nameChar = true := by
  cases s with
  | none => rfl
  | some x => exact Bool.and_eq_true_iff.2 ⟨by decide +kernel, hs x rfl⟩

theorem fullName_grammar (n : List Char) (hn : IsMetricName n = true) (sfx : Option (List Char))
    (hs : SuffixOk sfx) (u : Option MUnit) : IsMetricName (fullName n sfx u) = true := by
  cases n with
  | nil => exact absurd hn (by decide)
  | cons c cs =>
    simp only [IsMetricName, Bool.and_eq_true] at hn
    simp only [fullName, List.cons_append, IsMetricName, Bool.and_eq_true, List.all_append]
    exact ⟨hn.1, ⟨hn.2, suffix_all hs⟩, suffix_all (unitSuffix_chars u)⟩

/-- **sample round trip.**  For every grammar-conforming name, every list of accepted labels (in
    particular everything `key_to_parts` produces, see `formatLabel_ok`), every additional label and every
    value token, the line `write_metric_line` writes is read by the independent reader as exactly one
    sample with that name, exactly those labels in order, and that value.  Hence no quote, backslash or
    newline in user data can end a value early, start a new line or forge a sample. -/
theorem sample_roundtrip (n : List Char) (hn : IsMetricName n = true) (sfx : Option (List Char))
    (hs : SuffixOk sfx) (u : Option MUnit) (lbls : List (List Char × List Char))
    (hl : ∀ kt ∈ lbls, LabelOk kt) (extra : Option (List Char × List Char))
    (he : ∀ kt, extra = some kt → LabelOk kt) (v : List Char) (hv : IsToken v = true) :
    parseSample (writeMetricLine n sfx (lbls.map labelStr) extra v u)
      = some ⟨fullName n sfx u, lbls ++ extra.toList, v⟩ := by
  have hfn := fullName_grammar n hn sfx hs u
  have hall := IsMetricName.all hfn
  have hval : parseValue (' ' :: (v ++ ['\n'])) = some v := parseValue_token v hv
  unfold writeMetricLine
  by_cases hempty : ((lbls.map labelStr).isEmpty && extra.isNone) = true
  · -- no label block
    rw [if_pos hempty]
    simp only [Bool.and_eq_true, List.isEmpty_iff, List.map_eq_nil_iff, Option.isNone_iff_eq_none] at hempty
    obtain ⟨rfl, rfl⟩ := hempty
    simp only [parseSample, List.append_nil, List.append_assoc, List.cons_append, List.nil_append]
    rw [spanName_append _ hall ' ' (by decide +kernel)]
    simp [hfn, hval]
  · rw [if_neg hempty, labelBlock_eq]
    have hne : lbls ++ extra.toList ≠ [] := by
      intro h
      rw [List.append_eq_nil_iff] at h
      cases extra <;> simp_all
    simp only [parseSample, List.append_assoc, List.cons_append, List.nil_append]
    rw [spanName_append _ hall '{' (by decide +kernel)]
    simp only [hfn, if_true]
    rw [labelsGo_all _ hne (labelOk_append hl he)]
    simp [hval]

/-- **HELP round trip**: the docstring cannot break out of its line -/
theorem help_roundtrip (n : List Char) (hn : IsMetricName n = true) (d : List Char) :
    parseHelp (writeHelpLine n d) = some (n, sanitizeDescription d) := by
  have hall := IsMetricName.all hn
  have hdoc := (sanitizeDescription_wf d).docOk
  simp only [writeHelpLine, parseHelp, List.append_assoc, List.cons_append, List.nil_append]
  rw [spanName_append _ hall ' ' (by decide)]
  simp [hn, hdoc]

theorem type_roundtrip (n : List Char) (hn : IsMetricName n = true) (t : List Char) (ht : isType t = true) :
    parseType (writeTypeLine n t) = some (n, t) := by
  have hall := IsMetricName.all hn
  simp only [writeTypeLine, parseType, List.append_assoc, List.cons_append, List.nil_append]
  rw [spanName_append _ hall ' ' (by decide)]
  simp [hn, ht]

/-! ## every written line is exactly one line; the text splits back into the lines written -/

/-- exactly one newline, at the end -/
def OneLine (l : List Char) : Prop := ∃ body, l = body ++ ['\n'] ∧ '\n' ∉ body

/-- what the renderer passes to the writers (established for `renderFamily` below) -/
def LineOk : Line → Prop
  | .help n _ => IsMetricName n = true
  | .type n t => IsMetricName n = true ∧ isType t = true
  | .sample n sfx ls e v => IsMetricName n = true ∧ SuffixOk sfx
      ∧ (∃ lbls : List (List Char × List Char), ls = lbls.map labelStr ∧ ∀ kt ∈ lbls, LabelOk kt)
      ∧ (∀ kt, e = some kt → LabelOk kt) ∧ IsToken v = true
  | .blank => True

/-- each writer ends its line with the only newline it writes: the body is a concatenation of literal text, names,
    escaped text and tokens, none of which contains one -/
theorem line_oneLine (l : Line) (h : LineOk l) : OneLine l.text := by
  cases l with
  | blank => exact ⟨[], rfl, List.not_mem_nil⟩
  | help n d =>
    exact ⟨_, rfl, List.not_mem_append (List.not_mem_append (List.not_mem_append (by decide +kernel)
      (no_newline_of_all (by decide +kernel) (IsMetricName.all h))) (by decide +kernel)) (sanitizeDescription_wf d).no_newline⟩
  | type n t =>
    exact ⟨_, rfl, List.not_mem_append (List.not_mem_append (List.not_mem_append (by decide +kernel)
      (no_newline_of_all (by decide +kernel) (IsMetricName.all h.1))) (by decide +kernel)) (isType_no_newline h.2)⟩
  | sample n sfx ls e v =>
    obtain ⟨hn, hs, ⟨lbls, rfl, hl⟩, he, hv⟩ := h
    refine ⟨_, rfl, List.not_mem_append (List.not_mem_append (List.not_mem_append
      (no_newline_of_all (by decide +kernel) (IsMetricName.all (fullName_grammar n hn sfx hs none))) ?_) (by decide +kernel))
      (isToken_no_newline hv)⟩
    split
    · exact List.not_mem_nil
    · exact labelBlock_no_newline lbls e (labelOk_append hl he)

/-- **no line injection**: splitting the rendered text at newlines gives back exactly the lines the
    renderer wrote — user data never starts a new line, for any list of well-formed lines. -/
theorem text_splits_back (ls : List Line) (h : ∀ l ∈ ls, LineOk l) :
    splitLines (renderText ls) = ls.map Line.text := by
  induction ls with
  | nil => simp [renderText, splitLines]
  | cons l more ih =>
    obtain ⟨body, hb, hnl⟩ := line_oneLine l (h l (by simp))
    have ih' := ih (fun x hx => h x (by simp [hx]))
    simp only [renderText, List.flatMap_cons, List.map_cons] at ih' ⊢
    rw [hb, splitLines_oneLine_append body _ hnl, ih']

/-! ## family shape: one TYPE line, before the samples; every sample belongs to the family -/

/-- the type word matches what the series carry (established for every render in `renderLines_shaped`) -/
def TyMatches (ty : List Char) (s : Series) : Prop :=
  match s.data with
  | .scalar _ => ty = "counter".toList ∨ ty = "gauge".toList
  | .hist .. => ty = "histogram".toList
  | .summ .. => ty = "summary".toList

/-- sample shapes the exposition format allows in a family of type `ty` named `fam` -/
def AllowedSample (ty fam : List Char) : Line → Prop
  | .sample n sfx _ e _ =>
    n = fam ∧
    ( ((ty = "counter".toList ∨ ty = "gauge".toList) ∧ sfx = none ∧ e = none)
    ∨ (ty = "histogram".toList ∧
        ((sfx = some "bucket".toList ∧ ∃ le, e = some ("le".toList, le))
         ∨ (sfx = some "sum".toList ∧ e = none) ∨ (sfx = some "count".toList ∧ e = none)))
    ∨ (ty = "summary".toList ∧
        ((sfx = none ∧ ∃ q, e = some ("quantile".toList, q))
         ∨ (sfx = some "sum".toList ∧ e = none) ∨ (sfx = some "count".toList ∧ e = none))))
  | _ => False

theorem seriesLines_allowed (ty fam : List Char) (s : Series) (h : TyMatches ty s) :
    ∀ l ∈ seriesLines fam s, AllowedSample ty fam l := by
  obtain ⟨ls, data⟩ := s
  cases data with
  | scalar v =>
    intro l hl
    obtain rfl := List.mem_singleton.1 hl
    exact ⟨rfl, Or.inl ⟨h, rfl, rfl⟩⟩
  | hist bs c sm =>
    simp only [seriesLines, List.mem_append, List.mem_map, List.mem_cons, List.not_mem_nil, or_false]
    rintro l (⟨b, _, rfl⟩ | rfl | rfl | rfl)
    · exact ⟨rfl, Or.inr (Or.inl ⟨h, Or.inl ⟨rfl, _, rfl⟩⟩)⟩
    · exact ⟨rfl, Or.inr (Or.inl ⟨h, Or.inl ⟨rfl, _, rfl⟩⟩)⟩
    · exact ⟨rfl, Or.inr (Or.inl ⟨h, Or.inr (Or.inl ⟨rfl, rfl⟩)⟩)⟩
    · exact ⟨rfl, Or.inr (Or.inl ⟨h, Or.inr (Or.inr ⟨rfl, rfl⟩)⟩)⟩
  | summ qs sm c =>
    simp only [seriesLines, List.mem_append, List.mem_map, List.mem_cons, List.not_mem_nil, or_false]
    rintro l (⟨b, _, rfl⟩ | rfl | rfl)
    · exact ⟨rfl, Or.inr (Or.inr ⟨h, Or.inl ⟨rfl, _, rfl⟩⟩)⟩
    · exact ⟨rfl, Or.inr (Or.inr ⟨h, Or.inr (Or.inl ⟨rfl, rfl⟩)⟩)⟩
    · exact ⟨rfl, Or.inr (Or.inr ⟨h, Or.inr (Or.inr ⟨rfl, rfl⟩)⟩)⟩

/-- **family shape.**  For every name, description, unit, unit-suffix setting and list of series, a family
    is rendered as: at most one HELP line, then exactly one TYPE line, then only sample lines whose name is
    the family name of the TYPE line (plus a suffix the type allows), then a blank line.  The family name
    is the sanitised name plus the unit suffix when enabled — the same on HELP, TYPE and every sample. -/
theorem family_shape (on : Bool) (name : List Char) (desc : Option (List Char × Option MUnit))
    (ty : List Char) (series : List Series) (h : ∀ s ∈ series, TyMatches ty s) :
    ∃ fam pre samples,
      renderFamily on name desc ty series = pre ++ [Line.type fam ty] ++ samples ++ [Line.blank]
      ∧ (pre = [] ∨ ∃ d, pre = [Line.help fam d])
      ∧ (∀ l ∈ samples, AllowedSample ty fam l)
      ∧ fam = familyName name (match desc with | some (_, u) => if on then u else none | none => none) := by
  refine ⟨_, (match desc with | some (d, _) => [Line.help _ d] | none => []), series.flatMap (seriesLines _), rfl, ?_, ?_, rfl⟩
  · cases desc with
    | none => exact Or.inl rfl
    | some du => exact Or.inr ⟨du.1, rfl⟩
  · intro l hl
    simp only [List.mem_flatMap] at hl
    obtain ⟨s, hs, hl⟩ := hl
    exact seriesLines_allowed ty _ s (h s hs) l hl

/-- a sample's written name is the family name followed by `_suffix` -/
theorem sample_written_name (fam : List Char) (sfx : Option (List Char)) :
    fullName fam sfx none = fam ++ (match sfx with | some s => '_' :: s | none => []) := by
  cases sfx <;> simp [fullName, unitSuffix]

theorem familyName_grammar (n : List Char) (hn : IsMetricName n = true) (u : Option MUnit) :
    IsMetricName (familyName n u) = true :=
  fullName_grammar n hn none nofun u

/-! ## the whole render: every line the recorder writes, after any history, is one the reader accepts -/

/-- a key as the property quantifies over it: non-empty metric name, non-empty label names -/
def KeyOk (k : Prom.MKey) : Prop := k.name ≠ [] ∧ ∀ x ∈ k.labels, x.1 ≠ []

/-- the operations of a history, on such keys -/
def OpOk : Prom.Op → Prop
  | .describe .. => True
  | .cinc k _ | .cabs k _ | .gset k _ | .gadd k _ | .hrec k _ | .hrecMany k _ _ => KeyOk k
  | .upkeep => True

/-- what a series hands to the line writers -/
def DataOk : SeriesData → Prop
  | .scalar v => IsToken v = true
  | .hist bs c sm => (∀ b ∈ bs, WF false b.1 ∧ IsToken b.2 = true) ∧ IsToken c = true ∧ IsToken sm = true
  | .summ qs sm c => (∀ q ∈ qs, WF false q.1 ∧ IsToken q.2 = true) ∧ IsToken sm = true ∧ IsToken c = true

def SeriesOk (s : Series) : Prop := LabelsOk s.labels ∧ DataOk s.data

/-- invariant of the recorder state: every stored key is `KeyOk`, every distribution entry carries a
    grammar-conforming name and accepted label strings; the configured global label names are non-empty and
    the quantile texts are harmless label values -/
structure Inv (s : Prom.St) : Prop where
  globals : ∀ x ∈ s.cfg.globals, x.1 ≠ []
  quantiles : ∀ q ∈ s.cfg.quantiles, WF false q
  counters : ∀ kv ∈ s.counters, KeyOk kv.1
  gauges : ∀ kv ∈ s.gauges, KeyOk kv.1
  hists : ∀ kv ∈ s.hists, KeyOk kv.1
  dists : ∀ f ∈ s.dists, IsMetricName f.1 = true ∧ ∀ ld ∈ f.2, LabelsOk ld.1

theorem suffixOk_lit (x : List Char) (h : x.all nameChar = true) : SuffixOk (some x) := by
  intro y hy; cases hy; exact h

theorem extraOk {k v : List Char} (hk : IsLabelName k = true) (hv : WF false v) :
    ∀ kt, some (k, v) = some kt → LabelOk kt :=
  fun _ h => Option.some.inj h ▸ ⟨hk, hv⟩

theorem seriesLines_ok (fam : List Char) (s : Series) (hf : IsMetricName fam = true) (hs : SeriesOk s) :
    ∀ l ∈ seriesLines fam s, LineOk l := by
  obtain ⟨ls, data⟩ := s
  obtain ⟨hl, hd⟩ := hs
  have hsum := suffixOk_lit "sum".toList (by decide +kernel)
  have hcount := suffixOk_lit "count".toList (by decide +kernel)
  cases data with
  | scalar v =>
    intro l hl'
    obtain rfl := List.mem_singleton.1 hl'
    exact ⟨hf, nofun, hl, nofun, hd⟩
  | hist bs c sm =>
    obtain ⟨hb, hc, hsm⟩ := hd
    have hle : IsLabelName "le".toList = true := by decide +kernel
    have hbucket := suffixOk_lit "bucket".toList (by decide +kernel)
    simp only [seriesLines, List.mem_append, List.mem_map, List.mem_cons, List.not_mem_nil, or_false]
    rintro l (⟨b, hbm, rfl⟩ | rfl | rfl | rfl)
    · exact ⟨hf, hbucket, hl, extraOk hle (hb b hbm).1, (hb b hbm).2⟩
    · exact ⟨hf, hbucket, hl, extraOk hle (wf_of_safe (by decide +kernel)), hc⟩
    · exact ⟨hf, hsum, hl, nofun, hsm⟩
    · exact ⟨hf, hcount, hl, nofun, hc⟩
  | summ qs sm c =>
    obtain ⟨hqs, hsm, hc⟩ := hd
    have hq : IsLabelName "quantile".toList = true := by decide +kernel
    simp only [seriesLines, List.mem_append, List.mem_map, List.mem_cons, List.not_mem_nil, or_false]
    rintro l (⟨q, hqm, rfl⟩ | rfl | rfl)
    · exact ⟨hf, nofun, hl, extraOk hq (hqs q hqm).1, (hqs q hqm).2⟩
    · exact ⟨hf, hsum, hl, nofun, hsm⟩
    · exact ⟨hf, hcount, hl, nofun, hc⟩

/-- **one family, all lines**: what the comment at `LineOk` promises.  For a grammar-conforming name, a type
    word and series whose labels came out of `key_to_parts`, every line of the family — HELP (any description,
    any unit, suffix on or off), TYPE, every sample, the blank line — satisfies `LineOk`. -/
theorem renderFamily_ok (on : Bool) (name : List Char) (desc : Option (List Char × Option MUnit))
    (ty : List Char) (series : List Series) (hn : IsMetricName name = true) (ht : isType ty = true)
    (hs : ∀ s ∈ series, SeriesOk s) : ∀ l ∈ renderFamily on name desc ty series, LineOk l := by
  intro l hl
  have hfam : ∀ u, IsMetricName (familyName name u) = true := familyName_grammar name hn
  unfold renderFamily at hl
  simp only [List.mem_append, List.mem_cons, List.not_mem_nil, or_false, List.mem_flatMap] at hl
  rcases hl with ((hl | rfl) | ⟨s, hsm, hl⟩) | rfl
  · cases desc with
    | none => cases hl
    | some du => obtain rfl := List.mem_singleton.1 hl; exact hfam _
  · exact ⟨hfam _, ht⟩
  · exact seriesLines_ok _ s (hfam _) (hs s hsm) l hl
  · trivial

theorem distSeries_ok (qs : List (List Char)) (hq : ∀ q ∈ qs, WF false q) (labels : List (List Char))
    (hl : LabelsOk labels) (d : Prom.Dist) : SeriesOk (Prom.distSeries qs labels d) := by
  cases d with
  | hist bounds counts count sum =>
    refine ⟨hl, ?_, natText_token count, intTok_token sum⟩
    -- `simp only` first, here and below: it reduces `(a, b).2` in the goal; matched against the unreduced
    -- projection, `natText_token` makes the unifier unfold `natText` instead, which is very slow
    simp only [List.forall_mem_map]
    exact fun bc _ => ⟨intTok_wf bc.1, natText_token bc.2⟩
  | summ count sum =>
    refine ⟨hl, ?_, intTok_token sum, natText_token count⟩
    simp only [List.forall_mem_map]
    exact fun q hq0 => ⟨hq q hq0, by decide +kernel⟩

theorem groupFamilies_ok (entries : List (Prom.MKey × List Char)) (globals : List (List Char × List Char))
    (hg : ∀ x ∈ globals, x.1 ≠ []) (he : ∀ kv ∈ entries, KeyOk kv.1 ∧ IsToken kv.2 = true) :
    ∀ f ∈ Prom.groupFamilies entries globals, IsMetricName f.1 = true ∧ ∀ s ∈ f.2, SeriesOk s :=
  groupFamilies_inv (IsMetricName · = true) SeriesOk entries globals fun kv hkv =>
    have hp := keyToParts_ok kv.1.name kv.1.labels globals (he kv hkv).1.1 (he kv hkv).1.2 hg
    ⟨hp.1, hp.2, (he kv hkv).2⟩

theorem inv_drain (s : Prom.St) (h : Inv s) : Inv (Prom.drain s) where
  globals := h.globals
  quantiles := h.quantiles
  counters := h.counters
  gauges := h.gauges
  hists := List.forall_mem_map.2 h.hists
  dists :=
    foldl_inv _ (fun kh : Prom.MKey × List Int => KeyOk kh.1) _ s.hists
      (fun ds kh hds hk =>
        have hp := keyToParts_ok kh.1.name kh.1.labels s.cfg.globals hk.1 hk.2 h.globals
        DistBuilder.drainOne_inv (IsMetricName · = true) (fun _ l _ => LabelsOk l) s.cfg ds kh hp.1 hp.2 (fun _ h => h) hds)
      s.dists h.dists h.hists

theorem inv_init (cfg : Prom.Cfg) (hg : ∀ x ∈ cfg.globals, x.1 ≠ []) (hq : ∀ q ∈ cfg.quantiles, WF false q) :
    Inv { cfg := cfg } :=
  ⟨hg, hq, nofun, nofun, nofun, nofun⟩

/-- every operation on `KeyOk` keys keeps the invariant: an update touches one of the three key maps by `upsert`,
    which adds at most the operation's own key -/
theorem inv_step (s : Prom.St) (op : Prom.Op) (h : Inv s) (ho : OpOk op) : Inv (Prom.step s op) := by
  have key {α : Type} (m : List (Prom.MKey × α)) (k : Prom.MKey) (d : α) (f : α → α) (hk : KeyOk k)
      (hm : ∀ kv ∈ m, KeyOk kv.1) : ∀ kv ∈ Prom.upsert m k d f, KeyOk kv.1 :=
    upsert_inv (fun k _ => KeyOk k) m k d f hm hk (fun _ _ => hk)
  cases op with
  | describe name unit desc =>
    simp only [Prom.step]
    split
    · exact h
    · exact { h with }
  | cinc k n | cabs k n => exact { h with counters := key _ k _ _ ho h.counters }
  | gset k v | gadd k n => exact { h with gauges := key _ k _ _ ho h.gauges }
  | hrec k v | hrecMany k v n => exact { h with hists := key _ k _ _ ho h.hists }
  | upkeep => exact inv_drain s h

theorem inv_run (ops : List Prom.Op) : ∀ s, Inv s → (∀ op ∈ ops, OpOk op) → Inv (ops.foldl Prom.step s) :=
  foldl_inv Inv OpOk Prom.step ops inv_step

/-- **whole render, one state**: in a state satisfying the invariant, every line of every family `render`
    writes satisfies `LineOk` -/
theorem renderLines_ok (s : Prom.St) (h : Inv s) : ∀ fam ∈ (Prom.renderLines s).2, ∀ l ∈ fam, LineOk l := by
  have hd := inv_drain s h
  intro fam hfam
  simp only [Prom.renderLines, List.mem_append, List.mem_map] at hfam
  rcases hfam with (⟨f, hf, rfl⟩ | ⟨f, hf, rfl⟩) | ⟨f, hf, rfl⟩
  · have := groupFamilies_ok _ _ hd.globals (by
      simp only [List.forall_mem_map]
      exact fun kv hkv => ⟨hd.counters kv hkv, natText_token kv.2⟩) f hf
    exact renderFamily_ok _ _ _ _ _ this.1 isType_words.1 this.2
  · have := groupFamilies_ok _ _ hd.globals (by
      simp only [List.forall_mem_map]
      exact fun kv hkv => ⟨hd.gauges kv hkv, valTok_token kv.2⟩) f hf
    exact renderFamily_ok _ _ _ _ _ this.1 isType_words.2.1 this.2
  · have hf' := hd.dists f hf
    exact renderFamily_ok _ _ _ _ _ hf'.1 (isType_distType _ _)
      (List.forall_mem_map.2 fun ld hld => distSeries_ok _ hd.quantiles _ (hf'.2 ld hld) _)

/-- **whole render, any history** (clause "every line is a HELP, TYPE, sample or blank line", unbounded):
    for every configuration with non-empty global label names, every history of
    describe/update/upkeep operations on keys with non-empty names and label names — arbitrary Unicode
    otherwise —, every line `render` writes is `LineOk`. -/
theorem render_lines_ok (cfg : Prom.Cfg) (hg : ∀ x ∈ cfg.globals, x.1 ≠ []) (hq : ∀ q ∈ cfg.quantiles, WF false q)
    (ops : List Prom.Op) (ho : ∀ op ∈ ops, OpOk op) :
    ∀ l ∈ (Prom.renderLines (ops.foldl Prom.step { cfg := cfg })).2.flatten, LineOk l := by
  intro l hl
  obtain ⟨fam, hfam, hl⟩ := List.mem_flatten.1 hl
  exact renderLines_ok _ (inv_run ops _ (inv_init cfg hg hq) ho) fam hfam l hl

/-- what the independent reader makes of a line -/
def ReadsBack : Line → Prop
  | .help n d => parseHelp (Line.text (.help n d)) = some (n, sanitizeDescription d)
  | .type n t => parseType (Line.text (.type n t)) = some (n, t)
  | .sample n sfx ls e v => ∃ lbls : List (List Char × List Char), ls = lbls.map labelStr ∧
      parseSample (Line.text (.sample n sfx ls e v)) = some ⟨fullName n sfx none, lbls ++ e.toList, v⟩
  | .blank => Line.text .blank = ['\n']

/-- a `LineOk` line is read back as exactly the HELP / TYPE / sample / blank line that was meant -/
theorem line_reads_back (l : Line) (h : LineOk l) : ReadsBack l := by
  cases l with
  | help n d => exact help_roundtrip n h d
  | type n t => exact type_roundtrip n h.1 t h.2
  | blank => rfl
  | sample n sfx ls e v =>
    obtain ⟨hn, hs, ⟨lbls, rfl, hl⟩, he, hv⟩ := h
    exact ⟨lbls, rfl, sample_roundtrip n hn sfx hs none lbls hl e he v hv⟩

/-- **the rendered text, any history**: splitting the text `render` returns at newlines gives back exactly the
    lines written, and the independent reader reads each of them as the HELP / TYPE / sample / blank line the
    recorder meant — no user string starts a line, ends a value early or forges a sample, in any render of
    any history. -/
theorem render_text_wellformed (cfg : Prom.Cfg) (hg : ∀ x ∈ cfg.globals, x.1 ≠ [])
    (hq : ∀ q ∈ cfg.quantiles, WF false q) (ops : List Prom.Op) (ho : ∀ op ∈ ops, OpOk op) :
    let lines := (Prom.renderLines (ops.foldl Prom.step { cfg := cfg })).2.flatten
    splitLines (renderText lines) = lines.map Line.text ∧ ∀ l ∈ lines, ReadsBack l := by
  intro lines
  have h := render_lines_ok cfg hg hq ops ho
  exact ⟨text_splits_back lines h, fun l hl => line_reads_back l (h l hl)⟩

/-! ## distinct families: FALSE as stated; the part that holds -/

/-- names of the TYPE lines, in order -/
def typeNames (ls : List Line) : List (List Char) :=
  ls.filterMap (fun l => match l with | .type n _ => some n | _ => none)

def collisionCfg : Prom.Cfg := { unitSuffix := true, globals := [], buckets := none, overrides := [], quantiles := [] }

/-- `describe_counter!("a", Unit::Bytes, "d"); counter!("a").increment(3); counter!("a_bytes").increment(3)` -/
def collisionOps : List Prom.Op :=
  [.describe "a".toList (some .bytes) "d".toList, .cinc ⟨"a".toList, []⟩ 3, .cinc ⟨"a_bytes".toList, []⟩ 3]

/-- **"exactly one TYPE line per family" is false** under the property's precondition (distinct sanitised
    names): with unit suffixes enabled, counter `a` described with `Unit::Bytes` and counter `a_bytes` are both
    announced as `# TYPE a_bytes counter`.  Replayed on the real recorder by the harness
    (c08.rs `run_adjacent`, first case) through the same `prom` ops. -/
theorem type_lines_unique_false :
    (∀ op ∈ collisionOps, OpOk op)
    ∧ sanitizeMetricName "a".toList ≠ sanitizeMetricName "a_bytes".toList
    ∧ typeNames (Prom.renderLines (collisionOps.foldl Prom.step { cfg := collisionCfg })).2.flatten
        = ["a_bytes".toList, "a_bytes".toList] := by
  refine ⟨?_, by decide +kernel, by decide +kernel⟩
  intro op hop
  simp only [collisionOps, List.mem_cons, List.not_mem_nil, or_false] at hop
  rcases hop with rfl | rfl | rfl
  · trivial
  · exact ⟨by decide +kernel, nofun⟩
  · exact ⟨by decide +kernel, nofun⟩

theorem typeNames_seriesLines (fam : List Char) (s : Series) : typeNames (seriesLines fam s) = [] := by
  obtain ⟨ls, data⟩ := s
  cases data <;> simp only [typeNames, seriesLines, List.filterMap_append, List.filterMap_map, List.filterMap_cons,
    List.filterMap_nil, Function.comp_def, List.append_nil, List.filterMap_eq_nil_iff, implies_true]

theorem typeNames_samples (fam : List Char) (series : List Series) :
    typeNames (series.flatMap (seriesLines fam)) = [] := by
  induction series with
  | nil => rfl
  | cons s rest ih =>
    rw [List.flatMap_cons, typeNames, List.filterMap_append, ← typeNames, ← typeNames, typeNames_seriesLines, ih]
    rfl

/-- a family announces exactly one TYPE line, named `familyName` -/
theorem renderFamily_typeNames (on : Bool) (name : List Char) (desc : Option (List Char × Option MUnit))
    (ty : List Char) (series : List Series) :
    typeNames (renderFamily on name desc ty series)
      = [familyName name (match desc with | some (_, u) => if on then u else none | none => none)] := by
  have hs := typeNames_samples
    (familyName name (match desc with | some (_, u) => if on then u else none | none => none)) series
  unfold typeNames at hs ⊢
  cases desc <;> simp [renderFamily, List.filterMap_append, hs]

/-- the part that holds: the unit suffix never merges two families that get the SAME suffix (in particular
    with unit suffixes disabled, or two families without description) -/
theorem familyName_injective_partial (a b : List Char) (u : Option MUnit)
    (h : familyName a u = familyName b u) : a = b := by
  unfold familyName fullName at h
  simp only [List.append_nil] at h
  exact List.append_cancel_right h

theorem familyName_none (n : List Char) : familyName n none = n := by
  simp [familyName, fullName, unitSuffix]

/-! ## clauses D and E for the WHOLE render of ANY history: `TyMatches` is discharged from the recorder's invariant

`family_shape` asks for `TyMatches ty s` (the type word fits what the series carry).  For counter and gauge families it
holds by construction of `groupFamilies`; for distribution families it is the invariant `DistBuilder.KindInv` of `Prom.step`
(every stored distribution has the kind `get_distribution` gives for its family's plain name) composed with
`distType_newDist` (`get_distribution_type` and `get_distribution` decide alike, for every configuration: any number of
overrides, global buckets or not). -/

/-- `get_distribution_type(name)` announces `histogram` exactly when `get_distribution(name)` builds a histogram — for
    every configuration (global buckets, any list of overrides in any order) and every name -/
theorem distType_newDist (cfg : Prom.Cfg) (name : List Char) :
    Prom.distType cfg name
      = if DistBuilder.isHist (Prom.newDist cfg name) then "histogram".toList else "summary".toList := by
  rw [DistBuilder.isHist_newDist]
  unfold Prom.distType
  simp only [Bool.or_eq_true]
  split
  · rw [if_pos (Or.inr ‹_›)]
  · split
    · rw [if_pos (Or.inl ‹_›)]
    · rw [if_neg (not_or.2 ⟨‹_›, ‹_›⟩)]

theorem distSeries_tyMatches (qs : List (List Char)) (labels : List (List Char)) (d : Prom.Dist) :
    TyMatches (if DistBuilder.isHist d then "histogram".toList else "summary".toList) (Prom.distSeries qs labels d) := by
  cases d <;> exact rfl

theorem tyMatches_scalar {ty : List Char} {s : Series} (h : ∃ v, s.data = .scalar v)
    (ht : ty = "counter".toList ∨ ty = "gauge".toList) : TyMatches ty s := by
  obtain ⟨v, hv⟩ := h
  unfold TyMatches
  rw [hv]
  exact ht

theorem groupFamilies_scalar (entries : List (Prom.MKey × List Char)) (globals : List (List Char × List Char)) :
    ∀ f ∈ Prom.groupFamilies entries globals, ∀ s ∈ f.2, ∃ v, s.data = .scalar v := fun f hf =>
  (groupFamilies_inv (fun _ => True) (fun s => ∃ v, s.data = .scalar v) entries globals
    (fun _ _ => ⟨trivial, _, rfl⟩) f hf).2

/-- one rendered family as the property describes it: at most one HELP line, exactly one TYPE line with an exposition
    type word, then only samples the type allows under the announced family name, then the blank line -/
def FamilyShaped (fam : List Line) : Prop :=
  ∃ name ty pre samples, fam = pre ++ [Line.type name ty] ++ samples ++ [Line.blank]
    ∧ (pre = [] ∨ ∃ d, pre = [Line.help name d]) ∧ isType ty = true ∧ ∀ l ∈ samples, AllowedSample ty name l

theorem renderFamily_shaped (on : Bool) (name : List Char) (desc : Option (List Char × Option MUnit))
    (ty : List Char) (series : List Series) (ht : isType ty = true) (h : ∀ s ∈ series, TyMatches ty s) :
    FamilyShaped (renderFamily on name desc ty series) := by
  obtain ⟨fam, pre, samples, e, hp, hs, _⟩ := family_shape on name desc ty series h
  exact ⟨fam, ty, pre, samples, e, hp, ht, hs⟩

/-- **whole render, one state**: in a state whose distributions have the kind their family name asks for, every family
    `render` writes is `FamilyShaped` — no hypothesis on the type words is left -/
theorem renderLines_shaped (s : Prom.St) (h : DistBuilder.KindInv s.cfg s.dists) :
    ∀ fam ∈ (Prom.renderLines s).2, FamilyShaped fam := by
  have hk := DistBuilder.drain_kind s h
  intro fam hfam
  simp only [Prom.renderLines, List.mem_append, List.mem_map] at hfam
  rcases hfam with (⟨f, hf, rfl⟩ | ⟨f, hf, rfl⟩) | ⟨f, hf, rfl⟩
  · exact renderFamily_shaped _ _ _ _ _ isType_words.1 fun sr hsr =>
      tyMatches_scalar (groupFamilies_scalar _ _ f hf sr hsr) (Or.inl rfl)
  · exact renderFamily_shaped _ _ _ _ _ isType_words.2.1 fun sr hsr =>
      tyMatches_scalar (groupFamilies_scalar _ _ f hf sr hsr) (Or.inr rfl)
  · refine renderFamily_shaped _ _ _ _ _ (isType_distType _ _) ?_
    intro sr hsr
    simp only [List.mem_map] at hsr
    obtain ⟨ld, hld, rfl⟩ := hsr
    have hkind := hk f hf ld hld
    rw [Prom.drain_cfg] at hkind
    show TyMatches (Prom.distType s.cfg f.1) (Prom.distSeries s.cfg.quantiles ld.1 ld.2)
    rw [distType_newDist, ← hkind]
    exact distSeries_tyMatches _ _ _

/-- **clauses D and E, any history** ("each family has exactly one TYPE line which precedes its samples, every sample
    name is the family name or the family name plus a suffix its type allows"): for EVERY configuration (unit suffix on or
    off, any global labels, global buckets or none, ANY list of bucket overrides, any quantiles) and EVERY history of
    describe / update / upkeep operations on ANY keys (no precondition at all), every family of every render is: optional
    HELP, one TYPE, samples allowed by that TYPE under that name, blank.  The hypothesis `TyMatches` of `family_shape` is
    discharged here. -/
theorem render_families_shaped (cfg : Prom.Cfg) (ops : List Prom.Op) :
    ∀ fam ∈ (Prom.renderLines (ops.foldl Prom.step { cfg := cfg })).2, FamilyShaped fam := by
  have h0 : DistBuilder.KindInv ({ cfg := cfg } : Prom.St).cfg ({ cfg := cfg } : Prom.St).dists := by
    intro f hf; cases hf
  exact renderLines_shaped _ (DistBuilder.run_kind ops _ h0)

/-! ### the same as a sequential reader over the whole list of lines

`FamilyShaped` speaks about each family on its own.  The reader below goes over the flattened output line by line, the way
a scraper does, with the state "what has been announced since the last blank line"; it accepts iff every block is
`HELP? TYPE sample* blank`, the HELP names the TYPE's family, and every sample is allowed by the TYPE line that precedes it
in its block.  It is independent of `renderFamily` (it never looks at how the lines were produced). -/

/-- Boolean form of `AllowedSample` -/
def allowedB (ty fam : List Char) : Line → Bool
  | .sample n sfx _ e _ =>
    n == fam &&
    ( ((ty == "counter".toList || ty == "gauge".toList) && sfx == none && e == none)
    || (ty == "histogram".toList &&
        ((sfx == some "bucket".toList && (match e with | some (k, _) => k == "le".toList | none => false))
         || (sfx == some "sum".toList && e == none) || (sfx == some "count".toList && e == none)))
    || (ty == "summary".toList &&
        ((sfx == none && (match e with | some (k, _) => k == "quantile".toList | none => false))
         || (sfx == some "sum".toList && e == none) || (sfx == some "count".toList && e == none))))
  | _ => false

/-- in each case of `AllowedSample` the corresponding disjunct of `allowedB` is a conjunction of `x == x`; the other
    disjuncts are not evaluated -/
theorem allowedB_of_allowed (ty fam : List Char) (l : Line) (h : AllowedSample ty fam l) : allowedB ty fam l = true := by
  cases l with
  | sample n sfx ls e v =>
    obtain ⟨rfl, hcase⟩ := h
    rcases hcase with ⟨rfl | rfl, rfl, rfl⟩ | ⟨rfl, ⟨rfl, le, rfl⟩ | ⟨rfl, rfl⟩ | ⟨rfl, rfl⟩⟩
        | ⟨rfl, ⟨rfl, q, rfl⟩ | ⟨rfl, rfl⟩ | ⟨rfl, rfl⟩⟩ <;>
      simp only [allowedB, beq_self_eq_true, Bool.and_true, Bool.true_and, Bool.or_true, Bool.true_or]
  | _ => exact h.elim

/-- reader state: between families / after a HELP line / after the TYPE line of the current family -/
inductive ScanSt
  | start
  | helped (name : List Char)
  | typed (name ty : List Char)

/-- the sequential reader: `true` iff the lines are a sequence of blocks `HELP? TYPE sample* blank` in which the HELP names
    the family of the TYPE line and every sample is allowed by the (single) TYPE line before it in its block -/
def scan : ScanSt → List Line → Bool
  | .start, [] => true
  | _, [] => false
  | .start, .help n _ :: rest => scan (.helped n) rest
  | .start, .type n t :: rest => isType t && scan (.typed n t) rest
  | .helped n, .type n' t :: rest => n' == n && isType t && scan (.typed n' t) rest
  | .typed _ _, .blank :: rest => scan .start rest
  | .typed n t, l :: rest => allowedB t n l && scan (.typed n t) rest
  | _, _ :: _ => false

theorem scan_samples (n t : List Char) (samples rest : List Line) (h : ∀ l ∈ samples, AllowedSample t n l) :
    scan (.typed n t) (samples ++ Line.blank :: rest) = scan .start rest := by
  induction samples with
  | nil => simp [scan]
  | cons l more ih =>
    have hl := h l (by simp)
    have hb := allowedB_of_allowed t n l hl
    cases l with
    | sample a b c d e =>
      simp only [List.cons_append, scan, hb, Bool.true_and]
      exact ih fun x hx => h x (by simp [hx])
    | _ => exact hl.elim

theorem scan_family (fam : List Line) (h : FamilyShaped fam) (rest : List Line) :
    scan .start (fam ++ rest) = scan .start rest := by
  obtain ⟨name, ty, pre, samples, rfl, hp, ht, hs⟩ := h
  have hsm := scan_samples name ty samples rest hs
  rcases hp with rfl | ⟨d, rfl⟩
  · simp only [List.nil_append, List.append_assoc, List.cons_append, scan, ht, Bool.true_and]
    exact hsm
  · simp only [List.nil_append, List.append_assoc, List.cons_append, scan, ht, Bool.true_and, beq_self_eq_true]
    exact hsm

theorem scan_families (fams : List (List Line)) (h : ∀ fam ∈ fams, FamilyShaped fam) :
    scan .start fams.flatten = true := by
  induction fams with
  | nil => rfl
  | cons f more ih =>
    rw [List.flatten_cons, scan_family f (h f (by simp))]
    exact ih (fun x hx => h x (by simp [hx]))

/-- **the whole output, read line by line, any history**: the sequential reader accepts the flattened output of every
    render of every history under every configuration — every sample line is preceded, inside its own block, by exactly one
    TYPE line, of a type that allows that sample under that family name (clauses D and E over the whole text, not per
    `renderFamily` call) -/
theorem render_scan_ok (cfg : Prom.Cfg) (ops : List Prom.Op) :
    scan .start (Prom.renderLines (ops.foldl Prom.step { cfg := cfg })).2.flatten = true :=
  scan_families _ (render_families_shaped cfg ops)

/-- the reader is not vacuous: a sample under the wrong family name, a histogram sample under `summary`, a second TYPE line
    in a block and a sample before its TYPE line are all rejected -/
theorem scan_rejects :
    scan .start [.type "a".toList "counter".toList, .sample "b".toList none [] none "1".toList, .blank] = false
    ∧ scan .start [.type "a".toList "summary".toList,
        .sample "a".toList (some "bucket".toList) [] (some ("le".toList, "1".toList)) "1".toList, .blank] = false
    ∧ scan .start [.type "a".toList "counter".toList, .type "a".toList "counter".toList, .blank] = false
    ∧ scan .start [.sample "a".toList none [] none "1".toList, .type "a".toList "counter".toList, .blank] = false
    ∧ scan .start [.type "a".toList "counter".toList, .sample "a".toList none [] none "1".toList] = false := by
  decide +kernel

/-! ## number texts: the `le` label value as TEXT

`render_lines_ok` is about the recorder model's number tokens.  For the values the generator uses as bucket bounds (and
`_sum` / gauge values) — exact `n / 1024` — `PromNum.dyText` is the text `Display for f64` writes (compared text against
text with the real `format!("{}", …)` by the stream `c08 letext`, and against every `le` / dyadic value of whole renders by the
harness oracle `number_text_oracle`).  It is a plain decimal `-?[0-9]+(\.[0-9]+)?`, for every `n`; hence an accepted `le`
label and a value token, so that `seriesLines_ok` / `renderFamily_ok` hold with the REAL texts in place of the model's. -/

theorem fracDigits_digit (fuel : Nat) : ∀ r, ∀ c ∈ PromNum.fracDigits fuel r, c.isDigit = true := by
  induction fuel with
  | zero => intro r c hc; simp [PromNum.fracDigits] at hc
  | succ k ih =>
    intro r c hc
    simp only [PromNum.fracDigits] at hc
    split at hc
    · simp at hc
    · rcases List.mem_append.mp hc with h | h
      · exact natRepr_digit _ c h
      · exact ih _ c h

theorem fracDigits_ne (k r : Nat) (hr : r ≠ 0) : PromNum.fracDigits (k + 1) r ≠ [] := by
  simp only [PromNum.fracDigits, hr, if_false]
  intro h
  exact natRepr_ne _ (List.append_eq_nil_iff.mp h).1

/-- **plain decimal, every n**: the text of `n / 1024` is an optional `-`, at least one digit, and — only when the value is
    not an integer — a `.` followed by at least one digit.  No exponent, no blank, no `+`, nothing else. -/
theorem dyText_shape (n : Int) : ∃ ip fp : List Char,
    ip ≠ [] ∧ (∀ c ∈ ip, c.isDigit = true) ∧ (∀ c ∈ fp, c.isDigit = true)
    ∧ (fp = [] ↔ n.natAbs % 1024 = 0)
    ∧ PromNum.dyText n = (if n < 0 then ['-'] else []) ++ ip ++ (if fp = [] then [] else '.' :: fp) := by
  by_cases hz : n.natAbs % 1024 = 0
  · refine ⟨(toString (n.natAbs / 1024)).toList, [], natRepr_ne _, natRepr_digit _, (by intro c hc; cases hc),
      ⟨fun _ => hz, fun _ => rfl⟩, ?_⟩
    simp [PromNum.dyText, hz]
  · have hne := fracDigits_ne 9 (n.natAbs % 1024) hz
    refine ⟨(toString (n.natAbs / 1024)).toList, PromNum.fracDigits 10 (n.natAbs % 1024), natRepr_ne _, natRepr_digit _,
      fracDigits_digit 10 _, ⟨fun h => absurd h hne, fun h => absurd h hz⟩, ?_⟩
    simp only [PromNum.dyText, hz, if_false, hne]

theorem dyText_safe (n : Int) : ∀ c ∈ PromNum.dyText n, c ≠ ' ' ∧ c ≠ '\n' ∧ c ≠ '\\' ∧ c ≠ '"' := by
  obtain ⟨ip, fp, _, hip, hfp, _, e⟩ := dyText_shape n
  intro c hc
  rw [e] at hc
  simp only [List.mem_append] at hc
  rcases hc with (hc | hc) | hc
  · split at hc
    · simp only [List.mem_singleton] at hc; subst hc; decide
    · cases hc
  · exact numChar_safe (numChar_of_digit (hip c hc))
  · split at hc
    · cases hc
    · rcases List.mem_cons.mp hc with rfl | h
      · decide
      · exact numChar_safe (numChar_of_digit (hfp c h))

theorem dyText_ne (n : Int) : PromNum.dyText n ≠ [] := by
  obtain ⟨ip, fp, hne, _, _, _, e⟩ := dyText_shape n
  rw [e]
  intro h
  exact hne (List.append_eq_nil_iff.mp (List.append_eq_nil_iff.mp h).1).2

/-- **the real `le` text is an accepted label value and a value token**, for every bound `n / 1024`: with the text
    `Display` writes in place of the model's token, the `le` label of a `_bucket` line is `LabelOk` and the text is `IsToken`
    (what `DataOk` asks of a histogram's buckets and of `_sum`) -/
theorem le_text_ok (n : Int) :
    LabelOk ("le".toList, PromNum.dyText n) ∧ WF false (PromNum.dyText n) ∧ IsToken (PromNum.dyText n) = true := by
  have h := token_of_safe (dyText_ne n) (dyText_safe n)
  have hle : IsLabelName "le".toList = true := by decide +kernel
  exact ⟨⟨hle, h.1⟩, h⟩

/-- a histogram series whose bounds, counts and sum carry the REAL texts (`dyText` for f64, `natText` for u64) is `SeriesOk`:
    `renderFamily_ok` applies to it as it does to the model's tokens -/
theorem histSeries_realText_ok (labels : List (List Char)) (hl : LabelsOk labels) (bounds : List (Int × Nat))
    (count : Nat) (sum : Int) :
    SeriesOk ⟨labels, .hist (bounds.map (fun bc => (PromNum.dyText bc.1, Prom.natText bc.2))) (Prom.natText count)
      (PromNum.dyText sum)⟩ := by
  refine ⟨hl, ?_, natText_token count, (le_text_ok sum).2.2⟩
  simp only [List.forall_mem_map]
  exact fun bc _ => ⟨(le_text_ok bc.1).2.1, natText_token bc.2⟩

example : PromNum.dyText 512 = "0.5".toList ∧ PromNum.dyText (-1) = "-0.0009765625".toList
    ∧ PromNum.dyText 1024 = "1".toList ∧ PromNum.dyText 0 = "0".toList ∧ PromNum.dyText (-2560) = "-2.5".toList
    ∧ PromNum.dyText 2147483647 = "2097151.9990234375".toList := by
  repeat rw [String.toList_ofList]
  decide +kernel

/-! ## source facts: what a run on ASCII-only or ordinary inputs cannot tell apart -/

/-- obligation **src_char_classes**: the four character-class predicates of formatting.rs are written with
    the ASCII tests the model (`validNameStart` … `validLabelChar`, via `Char.isAlpha`/`Char.isAlphanum`, which
    are ASCII-only) encodes, no further classifying function exists, and the two sanitizers use them as
    `start` / `rest` with `_` as the replacement. -/
theorem src_char_classes :
    Generated.fmt_valid_metric_name_start_character = "c.is_ascii_alphabetic() || c == '_' || c == ':'"
    ∧ Generated.fmt_valid_metric_name_character = "c.is_ascii_alphanumeric() || c == '_' || c == ':'"
    ∧ Generated.fmt_valid_label_key_start_character = "c.is_ascii_alphabetic() || c == '_'"
    ∧ Generated.fmt_valid_label_key_character = "c.is_ascii_alphanumeric() || c == '_'"
    ∧ Generated.fmt_char_class_fns = ["valid_metric_name_start_character", "valid_metric_name_character",
        "valid_label_key_start_character", "valid_label_key_character"]
    ∧ Generated.fmt_sanitize_metric_name_shape = ["valid_metric_name_start_character", "valid_metric_name_character", "_"]
    ∧ Generated.fmt_sanitize_label_key_shape = ["valid_label_key_start_character", "valid_label_key_character", "_"] :=
  ⟨rfl, rfl, rfl, rfl, rfl, rfl, rfl⟩

/-- obligation **src_escape_arms**: the escaper matches on exactly newline, quote (label values only),
    backslash, anything else — as `escGo` — and pushes only the three escape pairs -/
theorem src_escape_arms :
    Generated.fmt_escape_arms = ["'\\n'", "'\"' if !is_desc", "'\\\\'", "c"]
    ∧ Generated.fmt_escape_pushes = ["\"\\\\n\"", "\"\\\\\\\"\"", "\"\\\\\\\\\"", "\"\\\\\\\\\"", "\"\\\\\\\\\""] :=
  ⟨rfl, rfl⟩

/-- obligation **src_escape_length_independent**: what ties `escape_append` / `escape_length` to the code at
    lengths no run reaches.  The two public escapers only forward to the shared loop (nothing is done to its
    result: no cap, no truncation); inside, the output buffer is only ever appended to (`push` / `push_str`) and
    is what the function returns; no statement of the loop looks at a length, index, capacity or byte offset;
    formatting.rs declares no constant (a limit would be one). -/
theorem src_escape_length_independent :
    Generated.fmt_sanitize_label_value_body = "sanitize_label_value_or_description(value, false)"
    ∧ Generated.fmt_sanitize_description_body = "sanitize_label_value_or_description(value, true)"
    ∧ Generated.fmt_escape_output_methods.all (fun m => m == "push" || m == "push_str") = true
    ∧ Generated.fmt_escape_output_methods.length = 6
    ∧ Generated.fmt_escape_loop_found = true
    ∧ Generated.fmt_escape_loop_length_words = []
    ∧ Generated.fmt_escape_returns_buffer = true
    ∧ Generated.fmt_consts = [] :=
  ⟨rfl, rfl, rfl, rfl, rfl, rfl, rfl, rfl⟩

/-- obligation **src_unit_table**: `Unit::as_str` is the table `MUnit.asStr` in declaration order, and the
    unit arms of `write_metric_line` and of `family_name` are those of `unitSuffix`
    (`Count`/`None` nothing, `Percent` `_ratio`, otherwise `_` + `as_str`) -/
theorem src_unit_table :
    Generated.unit_as_str.map (·.2) = MUnit.all.map MUnit.asStr
    ∧ Generated.unit_as_str.map (·.1) = ["Count", "Percent", "Seconds", "Milliseconds", "Microseconds",
        "Nanoseconds", "Tebibytes", "Gibibytes", "Mebibytes", "Kibibytes", "Bytes", "TerabitsPerSecond",
        "GigabitsPerSecond", "MegabitsPerSecond", "KilobitsPerSecond", "BitsPerSecond", "CountPerSecond"]
    ∧ Generated.fmt_write_metric_line_unit_arms = ["Some(Unit::Count) | None", "Some(Unit::Percent)", "Some(unit)",
        "pushes:", "'_'", "\"ratio\"", "'_'", "unit.as_str("]
    ∧ Generated.prom_family_name_unit_arms = ["Some(Unit::Count) | None", "Some(Unit::Percent)", "Some(unit)",
        "pushes:", "\"_ratio\"", "'_'", "unit.as_str("] :=
  ⟨rfl, rfl, rfl, rfl⟩

/-- `key_to_parts` removes duplicates on the RAW label name: two names that differ before and agree after
    sanitising give a sample with the same label name twice (outside the property's precondition, which asks
    for distinct sanitised label names; kept as a recorded oddity of the code) -/
theorem parts_dup_label_witness :
    (keyToParts "m".toList [("a.b".toList, "1".toList), ("a-b".toList, "2".toList)] []).2
      = ["a_b=\"1\"".toList, "a_b=\"2\"".toList] := by decide +kernel

/-! ## non-vacuity: concrete hostile inputs satisfy the hypotheses and go through the reader -/

example : (Prom.renderLines (collisionOps.foldl Prom.step { cfg := collisionCfg })).2.flatten.length = 7 := by decide +kernel

example : ReadsBack (.sample "a_b".toList (some "bucket".toList) [formatLabel "k²".toList "v\"\\\n".toList]
    (some ("le".toList, "+Inf".toList)) "3".toList) :=
  line_reads_back _ ⟨by decide +kernel, suffixOk_lit _ (by decide +kernel),
    ⟨[(sanitizeLabelKey "k²".toList, sanitizeLabelValue "v\"\\\n".toList)], by simp [formatLabel, labelStr],
      by intro kt h; simp only [List.mem_singleton] at h; subst h
         exact ⟨label_key_grammar "k²".toList (by decide +kernel), escape_wf_value _⟩⟩,
    extraOk (by decide +kernel) (wf_of_safe (by decide +kernel)), by decide +kernel⟩


/-- an escape pair across offset 1024 (a cap on the escaped value would cut it there; `seeded/C08-6`): 1023 plain
    characters and a quote — the escape pair is complete -/
example : sanitizeLabelValue (List.replicate 1023 'a' ++ ['"', 'b'])
    = List.replicate 1023 'a' ++ ['\\', '"', 'b'] := by
  rw [(escape_boundary 1023 'a' (by decide) ['"', 'b']).1]; rfl

example : sanitizeDescription (List.replicate 65535 'é' ++ ['\\', '\n'])
    = List.replicate 65535 'é' ++ ['\\', 'n', '\\', '\\'] := by
  rw [(escape_boundary 65535 'é' (by decide) ['\\', '\n']).2]; rfl

example : escRun false false ['a', '\\'] = (true, ['a']) ∧ escRun false true ['"', '\n'] = (false, ['\\', '"', '\\', 'n']) := by
  decide +kernel

example : parseSample (writeMetricLine (sanitizeMetricName "9lat{ency\n".toList) (some "bucket".toList)
      [formatLabel "a\"b".toList "x\"} 1\n# TYPE evil counter\\".toList] (some ("le".toList, "0.5".toList))
      "3".toList (some .seconds))
    = some ⟨"_lat_ency__bucket_seconds".toList,
            [("a_b".toList, "x\\\"} 1\\n# TYPE evil counter\\\\".toList), ("le".toList, "0.5".toList)],
            "3".toList⟩ := by
  repeat rw [String.toList_ofList]
  decide +kernel

example : (renderFamily true "lat".toList (some ("d".toList, some .seconds)) "histogram".toList
    [⟨[], .hist [("1".toList, "0".toList)] "2".toList "3".toList⟩]).map Line.text
  = ["# HELP lat_seconds d\n".toList, "# TYPE lat_seconds histogram\n".toList,
     "lat_seconds_bucket{le=\"1\"} 0\n".toList, "lat_seconds_bucket{le=\"+Inf\"} 2\n".toList,
     "lat_seconds_sum 3\n".toList, "lat_seconds_count 2\n".toList, "\n".toList] := by
  repeat rw [String.toList_ofList]
  decide +kernel

end MetricsVerif.C08
