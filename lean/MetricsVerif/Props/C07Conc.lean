/-
C07, concurrency clause — "for each histogram series the cumulative _count equals the number of samples ever recorded
under that key and _sum their sum, every sample being counted exactly once however record(), render() and run_upkeep()
calls are interleaved, repeated or RUN CONCURRENTLY".

Model: `Model/PromConc.lean` — one histogram series on top of the step machine of the lock-free bucket (`Model/Bucket.lean`,
one step = one shared-memory operation): `record` = push, a drain pass (`run_upkeep` / first half of `render`) = ONE
`clear_with` whose callback folds the detached samples into the distribution (count, sum).  Any number of recording
threads, any number of draining threads, any number of calls each, any block size, EVERY schedule.  Built on C05's
universal theorems (`Props/C05.lean`: `conservation_except_K1`, `accounting_except_K1`, `never_duplicates`,
`never_invents_count`).  Separate file because `Model/Prom` (sequential recorder) and `Model/Bucket` both have
`init`/`run`/`step`.

* `conc_never_counted_twice` — ALL schedules, EVERY moment: per value, folded by finished drains + folded by running
  drains + still pending in the bucket ≤ recorded.  No sample is ever counted twice, by two drains or by one; none is
  both counted and still pending; none is invented.
* `conc_count_le_begun` — ALL schedules, every moment: the same left-hand side is at most the number of record() calls
  that have at least claimed their slot (a render never shows a sample whose record() has not begun).
* `conc_dist_never_exceeds` — the (count, sum) form of the first: distribution + pending never exceeds the recorded
  samples, at any moment of any run.
* `conc_hist_conserved_partial` — every schedule WITHOUT a K1 step, at quiescence: per value, folded + pending = recorded;
  `conc_dist_conserved_partial`: distribution.count + pending.count = number of record() calls, same for the sums
  (the concurrent form of `C07.hist_conserved`).
* `conc_final_render_exact_partial` — every schedule without a K1 step in which one more drain pass (the final `render()`)
  starts after all recording threads and all other drainers have finished: the distribution is EXACTLY the recorded
  samples (count = number of completed record() calls, sum = their sum) and nothing is pending.
* `conc_accounting_partial` — every schedule without a K1 step, at EVERY moment: each completed record() (published slot)
  is in exactly one of: folded by a finished drain, folded by a running drain, pending reachable from the tail, in a
  detached block a running drain has not read yet.
* `conc_hist_exact_fails` — the full statement (without "no K1 step") is FALSE of the code: known finding K-C07-K1, the
  straggler of K-C05-K1 on the exporter's histogram; `conc_K1_witness_has_K1_step`: that schedule has exactly one K1 step.
* `conc_render_shows_completed_partial` / `conc_render_count_ge_completed_partial` — the clause "a render shows everything
  recorded before it began": every schedule without a K1 step — a drain pass that STARTS after a record() returned and has
  ended has that sample in the distribution, when the render reads the distributions while no drain is inside
  `clear_with` (the exporter's lock).  No hypothesis about the detach is needed: a failed detach CAS is retried
  (`C05.detach_cas_all_or_nothing`).
* `legacy_render_misses_completed_record` — the defect that the retry repaired (was known finding K-C07-K2), as a theorem
  about the LEGACY step (`Bucket.stepLegacy`): a drain pass whose detach CAS failed folded nothing, so the render it belongs
  to missed samples recorded before it began; `conc_render_after_failed_detach_shows_all`: the same schedule on the step
  machine proper — the pass retries and folds both samples.
* `grants_are_steps` — the schedules the correspondence stream replays (scheduler grants) are schedules of the step machine.
-/
import MetricsVerif.Proofs.PromConc
import MetricsVerif.Props.C05
import MetricsVerif.Generated.SourceFacts

namespace MetricsVerif.C07
open MetricsVerif.Bucket MetricsVerif.PromConc

/-- folding batch after batch (`record_samples` once per drained block, once per drain pass) is folding the
    concatenation: the distribution depends only on WHICH samples were handed to the callbacks -/
theorem Dist.record_append (d : Dist) (a b : List Nat) : (d.record a).record b = d.record (a ++ b) := by
  simp only [Dist.record, List.length_append, List.sum_append, Nat.add_assoc]

/-- the distribution of permuted samples is the same distribution -/
theorem Dist.record_perm (d : Dist) {a b : List Nat} (h : a.Perm b) : d.record a = d.record b := by
  simp only [Dist.record, h.length_eq, h.sum_nat]

/-- **no sample is ever counted twice, none is invented — in every interleaving, at every moment.**  Any recording
    threads `recs`, any draining threads `drains`, any block size, EVERY schedule, value by value: (occurrences folded into
    the distribution by the drain passes that have finished) + (occurrences folded by the drain passes still walking their
    chain) + (occurrences still pending in the bucket) ≤ (times the value was recorded). -/
theorem conc_never_counted_twice (B : Nat) (recs : List (List Nat)) (drains : List Nat) (sched : List Nat) (v : Nat) :
    let s := run (Bucket.init B (progsOf recs drains)) sched
    (delivered s).count v + (inRunningClears s).count v + (visible s).count v ≤ (recorded recs).count v := by
  intro s
  have h1 := folded_visible_le_cells B (progsOf recs drains) sched v
  have h2 := C05.never_invents_count B (progsOf recs drains) sched v
  rw [count_push_progsOf] at h2
  simp only [s]
  omega

/-- **a drain never folds (and a render never shows) a sample whose record() has not begun**: all schedules, every
    moment — folded + pending ≤ slots claimed by record() calls so far -/
theorem conc_count_le_begun (B : Nat) (recs : List (List Nat)) (drains : List Nat) (sched : List Nat) (v : Nat) :
    let s := run (Bucket.init B (progsOf recs drains)) sched
    (delivered s).count v + (inRunningClears s).count v + (visible s).count v ≤ cellsCount v s :=
  folded_visible_le_cells B (progsOf recs drains) sched v

theorem length_le_of_count_le : ∀ (a b : List Nat), (∀ v, a.count v ≤ b.count v) → a.length ≤ b.length ∧ a.sum ≤ b.sum := by
  intro a
  induction a with
  | nil => intro b _; simp
  | cons x xs ih =>
    intro b h
    have hx : x ∈ b := by
      have := h x
      simp only [List.count_cons_self] at this
      exact List.count_pos_iff.mp (by omega)
    have hb := List.perm_cons_erase hx
    have hrec := ih (b.erase x) (fun v => by
      have h1 := h v
      have h2 := hb.count_eq v
      simp only [List.count_cons] at h1 h2
      omega)
    have hl := hb.length_eq
    have hs := hb.sum_nat
    simp only [List.length_cons, List.sum_cons] at hl hs ⊢
    omega

/-- the (count, sum) form: at every moment of every run, distribution + pending never exceeds the recorded samples —
    `_count` never exceeds the number of record() calls in the programs, `_sum` never exceeds their sum -/
theorem conc_dist_never_exceeds (B : Nat) (recs : List (List Nat)) (drains : List Nat) (sched : List Nat) :
    let s := run (Bucket.init B (progsOf recs drains)) sched
    (distOf s).count + (pendingOf s).count ≤ (recorded recs).length
    ∧ (distOf s).sum + (pendingOf s).sum ≤ (recorded recs).sum := by
  intro s
  have h := length_le_of_count_le (delivered s ++ visible s) (recorded recs) (fun v => by
    have := conc_never_counted_twice B recs drains sched v
    simp only [List.count_append]
    simp only [s]
    omega)
  simp only [distOf, pendingOf, Dist.record, Dist.zero, List.length_append, List.sum_append] at h ⊢
  omega

/-- **conservation** (count form, per value): any recording and draining threads, any block size, EVERY schedule in
    which no record()'s slot claim lands on a block a drain has already detached (no K1 step), once all calls have
    returned: folded into the distribution + still pending = recorded. -/
theorem conc_hist_conserved_partial (B : Nat) (recs : List (List Nat)) (drains : List Nat) (sched : List Nat)
    (hk : C05.stragglerClaims B (progsOf recs drains) sched = 0)
    (hq : quiescent (run (Bucket.init B (progsOf recs drains)) sched) = true) (v : Nat) :
    let s := run (Bucket.init B (progsOf recs drains)) sched
    (delivered s).count v + (visible s).count v = (recorded recs).count v := by
  intro s
  have h := C05.conservation_except_K1 B (progsOf recs drains) sched hk hq v
  rw [count_push_progsOf] at h
  exact h.symm

/-- **conservation, as the rendered numbers**: same scope — distribution.count + pending.count = number of record()
    calls, distribution.sum + pending.sum = sum of the recorded samples (the concurrent form of `C07.hist_conserved`:
    the next drain pass folds exactly the pending ones in). -/
theorem conc_dist_conserved_partial (B : Nat) (recs : List (List Nat)) (drains : List Nat) (sched : List Nat)
    (hk : C05.stragglerClaims B (progsOf recs drains) sched = 0)
    (hq : quiescent (run (Bucket.init B (progsOf recs drains)) sched) = true) :
    let s := run (Bucket.init B (progsOf recs drains)) sched
    (distOf s).count + (pendingOf s).count = (recorded recs).length
    ∧ (distOf s).sum + (pendingOf s).sum = (recorded recs).sum := by
  intro s
  have hp : (delivered s ++ visible s).Perm (recorded recs) := by
    rw [List.perm_iff_count]
    intro v
    rw [List.count_append]
    exact conc_hist_conserved_partial B recs drains sched hk hq v
  have hl := hp.length_eq
  have hs := hp.sum_nat
  simp only [distOf, pendingOf, Dist.record, Dist.zero, List.length_append, List.sum_append] at hl hs ⊢
  omega

/-- **the final render is exact**: recording threads `recs`, draining threads `drains`, plus ONE more drain pass (thread
    `f`, the last one: the `render()` taken after everything) that has not started when all the other threads have
    finished (`pre`), and then runs (`fin`).  For every such schedule without a K1 step: when it has finished, the
    distribution is exactly the recorded samples — `_count` = number of record() calls, `_sum` = their sum, every sample
    counted exactly once — and nothing is left pending. -/
theorem conc_final_render_exact_partial (B : Nat) (recs : List (List Nat)) (drains : List Nat) (pre fin : List Nat)
    (hk : C05.stragglerClaims B (progsOf recs (drains ++ [1])) (pre ++ fin) = 0)
    (hothers : ∀ (i : Nat) (t : Thread), (run (Bucket.init B (progsOf recs (drains ++ [1]))) pre).threads[i]? = some t →
        i ≠ recs.length + drains.length → t.pc = .done)
    (hme : (run (Bucket.init B (progsOf recs (drains ++ [1]))) pre).threads[recs.length + drains.length]?
        = some (mkThread [.clear]))
    (hq : quiescent (run (Bucket.init B (progsOf recs (drains ++ [1]))) (pre ++ fin)) = true) :
    let s := run (Bucket.init B (progsOf recs (drains ++ [1]))) (pre ++ fin)
    distOf s = Dist.zero.record (recorded recs) ∧ visible s = [] ∧ (∀ v, (delivered s).count v = (recorded recs).count v) := by
  intro s
  have h1 := finalDrain_run _ fin _ (⟨hothers, mkThread [.clear], hme, rfl⟩ :
    FinalDrain (run (Bucket.init B (progsOf recs (drains ++ [1]))) pre) (recs.length + drains.length))
  rw [← run_append] at h1
  have hvis : visible s = [] := visible_of_tail_none _ (finalDrain_tail_none _ _ h1 hq)
  have hcount : ∀ v, (delivered s).count v = (recorded recs).count v := fun v => by
    have h : (delivered s).count v + (visible s).count v = (recorded recs).count v :=
      conc_hist_conserved_partial B recs (drains ++ [1]) (pre ++ fin) hk hq v
    rwa [hvis] at h
  exact ⟨Dist.record_perm _ (List.perm_iff_count.mpr hcount), hvis, hcount⟩

/-- **accounting at every moment** (schedules without a K1 step, NOT only at quiescence): every completed record()
    of `v` (published slot) is in exactly one of: folded by a finished drain pass, folded by a drain pass that is still
    walking its chain, pending in a block reachable from the tail (the next drain pass folds it in), or in a detached
    block that a running drain pass has not read yet (it reads it only after it saw the block quiesced). -/
theorem conc_accounting_partial (B : Nat) (recs : List (List Nat)) (drains : List Nat) (sched : List Nat)
    (hk : C05.stragglerClaims B (progsOf recs drains) sched = 0) (v : Nat) :
    let s := run (Bucket.init B (progsOf recs drains)) sched
    let own := (grun (Bucket.init B (progsOf recs drains)) own0 sched).2
    pubCount v s = (delivered s).count v + (inRunningClears s).count v + pubIn v isLive own s + pubIn v isDet own s :=
  C05.accounting_except_K1 B (progsOf recs drains) sched hk v

/-- the clause "every sample is counted exactly once however record() and the drains are interleaved" is FALSE of the
    code without the K1 hypothesis (known finding K-C07-K1, inherits K-C05-K1): recorder 1 loads the tail, the drain pass
    of thread 2 detaches the chain, waits for recorder 0 and folds its sample, then recorder 1 claims and publishes its
    slot in the detached block.  Both record() calls have returned; the final drain pass (thread 3), started after
    everything else has finished, finds nothing: the distribution shows count 1 (sum 1) for 2 recorded samples (sum 3),
    and nothing is pending — the sample is reported by no render, ever.  (Block size 2 keeps the kernel evaluation small;
    the harness replays the schedule on the real exporter with 64.) -/
theorem conc_hist_exact_fails :
    let progs := progsOf [[1], [2]] ([1] ++ [1])
    let pre := [0, 1, 2, 0, 0, 0, 0, 1, 2, 2, 2, 2, 2, 1, 1]
    let s := run (Bucket.init 2 progs) (pre ++ [3, 3])
    quiescent s = true ∧ completedPushes s = 2
    ∧ (run (Bucket.init 2 progs) pre).threads[3]? = some (mkThread [.clear])
    ∧ distOf s = { count := 1, sum := 1 } ∧ pendingOf s = { count := 0, sum := 0 }
    ∧ Dist.zero.record (recorded [[1], [2]]) = { count := 2, sum := 3 } := by decide +kernel

/-- the hypothesis of the `_partial` theorems is exactly what that witness violates: its schedule has ONE K1 step (recorder
    1's slot claim, taken after the drain's detach CAS), and none before it -/
theorem conc_K1_witness_has_K1_step :
    C05.stragglerClaims 2 (progsOf [[1], [2]] ([1] ++ [1])) ([0, 1, 2, 0, 0, 0, 0, 1, 2, 2, 2, 2, 2, 1, 1] ++ [3, 3]) = 1
    ∧ C05.stragglerClaims 2 (progsOf [[1], [2]] ([1] ++ [1])) [0, 1, 2, 0, 0, 0, 0, 1, 2, 2, 2, 2, 2] = 0 := by decide +kernel

/-- REPAIRED DEFECT (was known finding K-C07-K2), as a theorem about the LEGACY step (`Bucket.stepLegacy`, a `clear_with`
    that does not retry its detach when the tail moved under it): `clear_with` loaded the tail
    and detached with a compare-exchange; when a recording thread's block hand-over installed a new tail between the two, the
    compare-exchange failed and `clear_with` returned having drained NOTHING.  Witness (block size 1): record(1) has
    returned before the drain pass even starts; record(2) finds the block full; the drain pass loads the tail; record(2)
    installs the new block; the drain's CAS fails.  The pass folded nothing — a `render()` taken there showed `_count` 0
    although a record() had returned before it began — and both samples stayed pending for the next pass (nothing lost).
    The harness (harness/src/c07.rs, concurrent cases) drives the same interleaving on the real `PrometheusRecorder`
    with block size 64 and demands the full count. -/
theorem legacy_render_misses_completed_record :
    let progs := progsOf [[1], [2]] [1]
    let pre := [0, 0, 0, 0, 0]
    let rest := [1, 1, 1, 2, 2, 1, 2, 1, 1]
    completedPushes (runLegacy (Bucket.init 1 progs) pre) = 1
    ∧ (runLegacy (Bucket.init 1 progs) pre).threads[2]? = some (mkThread [.clear])
    ∧ quiescent (runLegacy (Bucket.init 1 progs) (pre ++ rest)) = true
    ∧ ((runLegacy (Bucket.init 1 progs) (pre ++ rest)).threads[2]?.map (·.results)) = some [.cleared []]
    ∧ distOf (runLegacy (Bucket.init 1 progs) (pre ++ rest)) = { count := 0, sum := 0 }
    ∧ pendingOf (runLegacy (Bucket.init 1 progs) (pre ++ rest)) = { count := 2, sum := 3 } := by decide +kernel

/-- the same programs and schedule on the step machine proper: after the failed CAS the drain pass is back at its tail load
    (nothing folded yet, the call has not returned); it loads the new tail, detaches, and folds BOTH samples — the render
    that follows shows `_count` 2, `_sum` 3, nothing pending.  No K1 step. -/
theorem conc_render_after_failed_detach_shows_all :
    let progs := progsOf [[1], [2]] [1]
    let pre := [0, 0, 0, 0, 0]
    let rest := [1, 1, 1, 2, 2, 1, 2, 1, 1]
    let fin := [2, 2, 2, 2, 2, 2, 2, 2, 2]
    completedPushes (run (Bucket.init 1 progs) pre) = 1
    ∧ (run (Bucket.init 1 progs) pre).threads[2]? = some (mkThread [.clear])
    ∧ ((run (Bucket.init 1 progs) (pre ++ rest)).threads[2]?.map (fun t => (t.pc, t.results))) = some (.cLoadTail, [])
    ∧ distOf (run (Bucket.init 1 progs) (pre ++ rest)) = { count := 0, sum := 0 }
    ∧ quiescent (run (Bucket.init 1 progs) (pre ++ rest ++ fin)) = true
    ∧ C05.stragglerClaims 1 progs (pre ++ rest ++ fin) = 0
    ∧ ((run (Bucket.init 1 progs) (pre ++ rest ++ fin)).threads[2]?.map (·.results)) = some [.cleared [2, 1]]
    ∧ distOf (run (Bucket.init 1 progs) (pre ++ rest ++ fin)) = { count := 2, sum := 3 }
    ∧ pendingOf (run (Bucket.init 1 progs) (pre ++ rest ++ fin)) = { count := 0, sum := 0 } := by decide +kernel

/-- **a render shows every sample recorded before it began — outside K1.**  Any recording threads, any draining threads,
    any block size, EVERY schedule `pre ++ mid` without a K1 step such that
    * after `pre` the draining thread `d` has not yet loaded the tail in its current drain pass (it is at `start` or at the
      tail load of a `clear_with`) and after `pre ++ mid` that pass has ended (`d` has more results than it had) — "the
      render's drain pass began after `pre` and is over", and
    * after `pre ++ mid` no thread is inside a `clear_with` walk (the moment a `render()` reads the distributions:
      it holds the read lock, every drain pass holds the write lock from before its `clear_with` to after it):
    every sample whose record() had returned when `pre` ended (published slot; `C05.completed_pushes_are_published`) has
    been folded into the distribution — value by value, at least as often as it had been recorded by then.  So the
    render shows it (`distOf` is what `_count` / `_sum` show), and by `conc_never_counted_twice` not more than once.
    No hypothesis about failed detaches is needed: a failed detach is retried, so a pass that has ended has either seen a
    null tail or nulled it itself (`C05.beforeDetach_run`).  What remains: no K1 step (known finding K-C07-K1), and the
    lock hypothesis (the lock itself is not modelled). -/
theorem conc_render_shows_completed_partial (B : Nat) (recs : List (List Nat)) (drains : List Nat) (pre mid : List Nat)
    (d : Nat) (t0 t1 : Thread)
    (hk : C05.stragglerClaims B (progsOf recs drains) (pre ++ mid) = 0)
    (h0 : (run (Bucket.init B (progsOf recs drains)) pre).threads[d]? = some t0)
    (hcall : t0.calls.head? = some .clear) (hpc : t0.pc = .start ∨ t0.pc = .cLoadTail)
    (h1 : (run (Bucket.init B (progsOf recs drains)) (pre ++ mid)).threads[d]? = some t1)
    (hret : t0.results.length < t1.results.length)
    (hidle : ∀ (i : Nat) (t : Thread),
      (run (Bucket.init B (progsOf recs drains)) (pre ++ mid)).threads[i]? = some t → claim t.pc = none)
    (v : Nat) :
    pubCount v (run (Bucket.init B (progsOf recs drains)) pre)
      ≤ (delivered (run (Bucket.init B (progsOf recs drains)) (pre ++ mid))).count v :=
  C05.delivered_once_clear_returned B (progsOf recs drains) pre mid d t0 t1 hk h0 hcall hpc h1 hret hidle v

/-- a successful detach CAS of a drain pass nulls the tail (the moment from which everything published before is owned
    by that pass) -/
theorem conc_detach_nulls_tail (s : Sys) (d : Nat) (t : Thread) (old : Nat)
    (ht : s.threads[d]? = some t) (hpc : t.pc = .cCas old) (hok : s.tail = some old) : (step s d).tail = none := by
  rcases C05.detach_cas_all_or_nothing s d t old ht hpc with h | h
  · exact h.2.1
  · exact absurd hok h.1

/-- the (count, sum) form: under the same hypotheses `_count` shown by the render is at least the number of record()
    calls that had returned before the drain pass began, and `_sum` at least their sum -/
theorem conc_render_count_ge_completed_partial (B : Nat) (recs : List (List Nat)) (drains : List Nat)
    (pre mid : List Nat) (d : Nat) (t0 t1 : Thread)
    (hk : C05.stragglerClaims B (progsOf recs drains) (pre ++ mid) = 0)
    (h0 : (run (Bucket.init B (progsOf recs drains)) pre).threads[d]? = some t0)
    (hcall : t0.calls.head? = some .clear) (hpc : t0.pc = .start ∨ t0.pc = .cLoadTail)
    (h1 : (run (Bucket.init B (progsOf recs drains)) (pre ++ mid)).threads[d]? = some t1)
    (hret : t0.results.length < t1.results.length)
    (hidle : ∀ (i : Nat) (t : Thread),
      (run (Bucket.init B (progsOf recs drains)) (pre ++ mid)).threads[i]? = some t → claim t.pc = none)
    (done : List Nat)
    (hdone : ∀ v, done.count v ≤ pubCount v (run (Bucket.init B (progsOf recs drains)) pre)) :
    done.length ≤ (distOf (run (Bucket.init B (progsOf recs drains)) (pre ++ mid))).count
    ∧ done.sum ≤ (distOf (run (Bucket.init B (progsOf recs drains)) (pre ++ mid))).sum := by
  have h := length_le_of_count_le done (delivered (run (Bucket.init B (progsOf recs drains)) (pre ++ mid)))
    (fun v => Nat.le_trans (hdone v)
      (conc_render_shows_completed_partial B recs drains pre mid d t0 t1 hk h0 hcall hpc h1 hret hidle v))
  simpa [distOf, Dist.record, Dist.zero] using h

/-- non-vacuity (block size 2), ON A FAILED DETACH: four record() calls have returned (two full blocks) when the drain
    pass of thread 2 begins; the pass loads the tail; record(5) of thread 1 hands the tail over; the pass's CAS fails, it
    retries, detaches and folds all five samples — every hypothesis of `conc_render_shows_completed_partial` holds -/
example :
    let recs := [[1, 2, 3, 4], [5]]
    let progs := progsOf recs [1]
    let pre := [0,0,0,0,0, 0,0,0, 0,0,0,0,0, 0,0,0]
    let mid := [2,2, 1,1,1,1,1,1, 2, 2,2,2,2,2,2,2,2,2,2,2,2,2,2]
    C05.stragglerClaims 2 progs (pre ++ mid) = 0
    ∧ ((run (Bucket.init 2 progs) pre).threads[2]?.map (fun t => (t.calls.head?, t.pc, t.results.length)))
        = some (some .clear, .start, 0)
    ∧ ((run (Bucket.init 2 progs) (pre ++ [2,2, 1,1,1,1,1,1, 2])).threads[2]?.map (fun t => (t.pc, t.results)))
        = some (.cLoadTail, [])
    ∧ ((run (Bucket.init 2 progs) (pre ++ mid)).threads[2]?.map (·.results.length)) = some 1
    ∧ ((run (Bucket.init 2 progs) (pre ++ mid)).threads.map (fun t => (claim t.pc).isSome)) = [false, false, false]
    ∧ completedPushes (run (Bucket.init 2 progs) pre) = 4
    ∧ distOf (run (Bucket.init 2 progs) (pre ++ mid)) = { count := 5, sum := 15 } := by decide +kernel

/-- non-vacuity (block size 2): all four record() calls have returned when the drain pass of thread 2 begins; record(4)
    of thread 1 handed the tail over BEFORE the drain's tail load, so the detach succeeds (tail null after `m1`); after
    the pass the distribution holds all four samples -/
example :
    let recs := [[1, 2, 3], [4]]
    let progs := progsOf recs [1]
    let pre := [0,0,0,0,0, 0,0,0, 1,1,1,1,1,1, 0,0,0]
    let m1 := [2, 2, 2]
    let m2 := [2, 2, 2, 2, 2, 2, 2]
    C05.stragglerClaims 2 progs (pre ++ m1 ++ m2) = 0
    ∧ (run (Bucket.init 2 progs) (pre ++ m1)).tail = none
    ∧ ((run (Bucket.init 2 progs) (pre ++ m1 ++ m2)).threads[2]?.map (·.results.length)) = some 1
    ∧ ((run (Bucket.init 2 progs) (pre ++ m1 ++ m2)).threads.map (fun t => (claim t.pc).isSome)) = [false, false, false]
    ∧ completedPushes (run (Bucket.init 2 progs) pre) = 4
    ∧ distOf (run (Bucket.init 2 progs) (pre ++ m1 ++ m2)) = { count := 4, sum := 10 } := by decide +kernel

/-- a schedule of scheduler grants is that very schedule of single steps (one grant = one model step: the detaching CAS
    of `clear_with` has its own yield point `bkt.clear.cas` in bucket.rs, between the tail load and the CAS): what the
    driver's `promconc run` evaluates is a `run` of the step machine, so every theorem above applies to it -/
theorem grants_are_steps (s : Sys) (sched : List Nat) : sched.foldl grant s = run s sched := rfl

/-- SOURCE FACT (regenerated on every run): the drain loop visits EVERY registered histogram in EVERY pass — its body has
    no `continue` / `break` / `return` and no `if` (no key is skipped on a remembered generation, an emptiness test, a
    try-lock …), it takes the lock, and calls `clear_with` exactly once: the model's "one drain pass = one `clear_with`
    per key".  (The `while … try_write` wait of the verification hook is the only loop inside.) -/
theorem src_drain_every_key :
    Generated.prom_drain_loop_exits = [] ∧ Generated.prom_drain_conditionals = 0
    ∧ Generated.prom_drain_for_loops = ["for (key, histogram) in histogram_handles"]
    ∧ Generated.prom_drain_steps = ["lock", "clear_with", "record_samples"] :=
  ⟨rfl, rfl, rfl, rfl⟩

/-- `conc_final_render_exact_partial` on a run with a hand-over (block size 2), two recorders, a drainer whose first
    detach CAS fails (it retries) and the final pass: all hypotheses hold, the distribution is exactly the 4 samples -/
example :
    let recs := [[1, 2, 3], [4]]
    let progs := progsOf recs ([1] ++ [1])
    let pre := [0,0,0,0,0, 0,0, 2,2, 1,1,1,1,1, 2, 2,2,2,2, 1, 2,2,2,2, 0, 2,2,2, 0,0,0,0]
    let fin := [3, 3, 3, 3, 3, 3, 3]
    let s := run (Bucket.init 2 progs) (pre ++ fin)
    C05.stragglerClaims 2 progs (pre ++ fin) = 0
    ∧ (run (Bucket.init 2 progs) pre).threads[3]? = some (mkThread [.clear])
    ∧ ((run (Bucket.init 2 progs) pre).threads.map (·.pc)) = [.done, .done, .done, .start]
    ∧ quiescent s = true
    ∧ (s.threads[2]?.map (·.results)) = some [.cleared [4, 1, 2]]
    ∧ distOf s = { count := 4, sum := 10 } ∧ pendingOf s = Dist.zero := by decide +kernel

/-- a run stopped in the middle (a drain pass has folded one block and waits on the next, one record() in flight):
    `conc_never_counted_twice` / `conc_accounting_partial` speak about such states -/
example :
    let recs := [[1, 2, 3], [4]]
    let progs := progsOf recs [2]
    let sched := [0,0,0,0,0, 0,0, 2,2, 1,1,1,1,1, 2, 2,2,2,2, 1, 2,2,2,2]
    let s := run (Bucket.init 2 progs) sched
    quiescent s = false ∧ delivered s = [] ∧ inRunningClears s = [4] ∧ visible s = []
    ∧ pubCount 1 s = 1 ∧ inFlight 2 s = 1 := by decide +kernel

end MetricsVerif.C07
