/-
C19, histogram clause under concurrency — "for histograms, exactly the values recorded since the previous snapshot, each
value appearing in exactly one snapshot", when `Histogram::record` / `record_many` calls and `Snapshotter::snapshot()`
calls RUN CONCURRENTLY on one `DebuggingRecorder`.

Model: `Model/DebuggingHist.lean` — one histogram of the recorder on the step machine of the lock-free bucket
(`Model/Bucket.lean`, one step = one shared-memory operation): `record(v)` = `push v`, `record_many(v, n)` = `n` pushes,
one `snapshot()` = ONE `clear_with` whose `cleared` result is what the snapshot shows for the key.  Any number of
recording threads, any number of snapshotting threads, any number of calls each, any block size, EVERY schedule.  This
refines the two steps that `Model/DebuggingConc.lean` (Props/C19Conc.lean) takes as atomic.  Built on C05's universal
theorems and their C07 forms (`Props/C05.lean`, `Props/C07Conc.lean`: the programs have the same shape, `progsOf_eq`).

* `shown_eq_delivered` — what the returned snapshots show, all together, is what the bucket's clears were handed.
* `conc_hist_never_in_two_snapshots` — ALL schedules, EVERY moment, per value: shown by returned snapshots + collected by
  snapshots still running + pending in the bucket ≤ recorded.  No value is ever shown twice (by two snapshots or by one),
  none is both shown and still pending, none is invented.  `conc_hist_value_in_one_snapshot`: a value recorded once is
  in at most one snapshot, counted over the individual snapshots.
* `conc_hist_partition_partial` — every schedule WITHOUT a K1 step, once all calls have returned: the snapshots together
  with what is still pending are a permutation of the recorded values — the values PARTITION across the snapshots (and
  the next one).  `conc_hist_final_snapshot_partial`: with one more snapshot taken after everything, the snapshots alone
  are a permutation of the recorded values and nothing is pending.
* `conc_hist_accounting_partial` — without a K1 step, at EVERY moment: every completed record() is in exactly one of:
  shown by a returned snapshot, collected by a running one, pending, in a detached block a running snapshot will read.
* `conc_snapshot_shows_completed_partial` — without a K1 step: a snapshot that BEGAN after a record() had returned and
  has itself returned: that value has been shown (by it or by a snapshot that returned before it).
* `conc_hist_exact_fails` — the full statement (without "no K1 step") is FALSE of the code (known finding K-C19-K1,
  inherits K-C05-K1): two record() calls return, the snapshots show one value, nothing is pending; the value whose claim
  was the K1 step is the lost one (`k1Vals = [2]`).
* `k1Vals_length` / `k1Vals_nil_of_noK1` / `k1ValsAcc_eq` — the ghost list of blamed values has exactly one element per
  K1 step (what the driver's `debug hconc` answers as `k1vals=` next to the count `k1=`).
* `record_many_is_n_records`, `src_hist_handle_path` — `record_many(v, n)` on the recorder's handle is `n` times
  `record(v)`, which is one `push` on the very bucket `snapshot` drains (source facts, regenerated on every run).
-/
import MetricsVerif.Model.DebuggingHist
import MetricsVerif.Props.C07Conc

namespace MetricsVerif.C19
open MetricsVerif.Bucket MetricsVerif.DebuggingHist

/-- the programs are those of `Model/PromConc` (recording threads push, the others run `clear_with`): C07's theorems
    about the bucket apply to the DebuggingRecorder's histogram as they stand -/
theorem progsOf_eq (recs : List (List Nat)) (snaps : List Nat) :
    DebuggingHist.progsOf recs snaps = PromConc.progsOf recs snaps := rfl

theorem recorded_eq (recs : List (List Nat)) : DebuggingHist.recorded recs = PromConc.recorded recs := rfl

theorem flatten_clearedOf (rs : List Res) : (rs.filterMap clearedOf).flatten = rs.flatMap clearedVals := by
  induction rs with
  | nil => rfl
  | cons r rs ih => cases r <;> simp [clearedOf, clearedVals, List.filterMap_cons, List.flatMap_cons, ih]

/-- **what the snapshots show is what the bucket handed out**: the values of all returned snapshots, thread by thread and
    snapshot by snapshot, are exactly the values handed to the callbacks of the finished `clear_with` calls -/
theorem shown_eq_delivered (s : Sys) : shown s = delivered s := by
  rw [delivered_eq]
  unfold shown snapshots
  induction s.threads with
  | nil => rfl
  | cons t ts ih => simp only [List.flatMap_cons, List.flatten_append, ih, snapsOfThread, flatten_clearedOf]

/-- **no value is ever shown twice, none is invented — in every interleaving, at every moment.**  Any recording threads
    `recs`, any snapshotting threads `snaps`, any block size, EVERY schedule, value by value: (occurrences shown by the
    snapshots that have returned) + (occurrences collected by snapshots still walking their chain) + (occurrences still
    pending in the bucket) ≤ (times the value was recorded). -/
theorem conc_hist_never_in_two_snapshots (B : Nat) (recs : List (List Nat)) (snaps : List Nat) (sched : List Nat) (v : Nat) :
    (shown (run (Bucket.init B (progsOf recs snaps)) sched)).count v
      + (inRunningClears (run (Bucket.init B (progsOf recs snaps)) sched)).count v
      + (pending (run (Bucket.init B (progsOf recs snaps)) sched)).count v ≤ (recorded recs).count v := by
  rw [shown_eq_delivered]
  exact C07.conc_never_counted_twice B recs snaps sched v

/-- counted over the INDIVIDUAL snapshots: a value recorded once is in at most one snapshot, at most once -/
theorem conc_hist_value_in_one_snapshot (B : Nat) (recs : List (List Nat)) (snaps : List Nat) (sched : List Nat) (v : Nat)
    (hone : (recorded recs).count v ≤ 1) :
    ((snapshots (run (Bucket.init B (progsOf recs snaps)) sched)).map (fun sn => sn.count v)).sum ≤ 1 := by
  have h := conc_hist_never_in_two_snapshots B recs snaps sched v
  unfold shown at h
  rw [List.count_flatten] at h
  have e : (fun sn : List Nat => sn.count v) = List.count v := rfl
  rw [e]
  omega

/-- a snapshot never shows a value whose record() has not at least claimed its slot -/
theorem conc_hist_shown_le_begun (B : Nat) (recs : List (List Nat)) (snaps : List Nat) (sched : List Nat) (v : Nat) :
    (shown (run (Bucket.init B (progsOf recs snaps)) sched)).count v
      + (inRunningClears (run (Bucket.init B (progsOf recs snaps)) sched)).count v
      + (pending (run (Bucket.init B (progsOf recs snaps)) sched)).count v
      ≤ cellsCount v (run (Bucket.init B (progsOf recs snaps)) sched) := by
  rw [shown_eq_delivered]
  exact C07.conc_count_le_begun B recs snaps sched v

/-- **partition** (per value): any recording and snapshotting threads, any block size, EVERY schedule in which no
    record()'s slot claim lands on a block a snapshot has already detached (no K1 step), once all calls have returned:
    shown by the snapshots + still pending = recorded. -/
theorem conc_hist_partition_count_partial (B : Nat) (recs : List (List Nat)) (snaps : List Nat) (sched : List Nat)
    (hk : C05.stragglerClaims B (progsOf recs snaps) sched = 0)
    (hq : quiescent (run (Bucket.init B (progsOf recs snaps)) sched) = true) (v : Nat) :
    (shown (run (Bucket.init B (progsOf recs snaps)) sched)).count v
      + (pending (run (Bucket.init B (progsOf recs snaps)) sched)).count v = (recorded recs).count v := by
  rw [shown_eq_delivered]
  exact C07.conc_hist_conserved_partial B recs snaps sched hk hq v

/-- **the values partition across the snapshots** (outside K1): same scope — all snapshots taken, one after the other,
    followed by what the next snapshot would show, are a permutation of the recorded values: every value appears in
    exactly one snapshot (or is still pending for the next one), none twice, none lost, none invented. -/
theorem conc_hist_partition_partial (B : Nat) (recs : List (List Nat)) (snaps : List Nat) (sched : List Nat)
    (hk : C05.stragglerClaims B (progsOf recs snaps) sched = 0)
    (hq : quiescent (run (Bucket.init B (progsOf recs snaps)) sched) = true) :
    ((snapshots (run (Bucket.init B (progsOf recs snaps)) sched)).flatten
      ++ pending (run (Bucket.init B (progsOf recs snaps)) sched)).Perm (recorded recs) := by
  rw [List.perm_iff_count]
  intro v
  rw [List.count_append]
  exact conc_hist_partition_count_partial B recs snaps sched hk hq v

/-- **with a final snapshot the snapshots alone hold everything**: recording threads `recs`, snapshotting threads `snaps`,
    plus ONE more snapshot (thread `f`, the last one) that has not started when all the other threads have finished
    (`pre`), and then runs (`fin`).  For every such schedule without a K1 step: the snapshots are a permutation of the
    recorded values and nothing is left pending. -/
theorem conc_hist_final_snapshot_partial (B : Nat) (recs : List (List Nat)) (snaps : List Nat) (pre fin : List Nat)
    (hk : C05.stragglerClaims B (progsOf recs (snaps ++ [1])) (pre ++ fin) = 0)
    (hothers : ∀ (i : Nat) (t : Thread), (run (Bucket.init B (progsOf recs (snaps ++ [1]))) pre).threads[i]? = some t →
        i ≠ recs.length + snaps.length → t.pc = .done)
    (hme : (run (Bucket.init B (progsOf recs (snaps ++ [1]))) pre).threads[recs.length + snaps.length]?
        = some (mkThread [.clear]))
    (hq : quiescent (run (Bucket.init B (progsOf recs (snaps ++ [1]))) (pre ++ fin)) = true) :
    ((snapshots (run (Bucket.init B (progsOf recs (snaps ++ [1]))) (pre ++ fin))).flatten).Perm (recorded recs)
      ∧ pending (run (Bucket.init B (progsOf recs (snaps ++ [1]))) (pre ++ fin)) = [] := by
  have h := C07.conc_final_render_exact_partial B recs snaps pre fin hk hothers hme hq
  refine ⟨?_, h.2.1⟩
  rw [List.perm_iff_count]
  intro v
  have := h.2.2 v
  rw [← shown_eq_delivered] at this
  exact this

/-- **accounting at every moment** (schedules without a K1 step, NOT only at quiescence): every completed record() of `v`
    (published slot) is in exactly one of: shown by a returned snapshot, collected by a snapshot that is still walking its
    chain, pending in a block reachable from the tail, or in a detached block that a running snapshot has not read yet. -/
theorem conc_hist_accounting_partial (B : Nat) (recs : List (List Nat)) (snaps : List Nat) (sched : List Nat)
    (hk : C05.stragglerClaims B (progsOf recs snaps) sched = 0) (v : Nat) :
    pubCount v (run (Bucket.init B (progsOf recs snaps)) sched)
      = (shown (run (Bucket.init B (progsOf recs snaps)) sched)).count v
        + (inRunningClears (run (Bucket.init B (progsOf recs snaps)) sched)).count v
        + pubIn v isLive (grun (Bucket.init B (progsOf recs snaps)) own0 sched).2 (run (Bucket.init B (progsOf recs snaps)) sched)
        + pubIn v isDet (grun (Bucket.init B (progsOf recs snaps)) own0 sched).2 (run (Bucket.init B (progsOf recs snaps)) sched) := by
  rw [shown_eq_delivered]
  exact C05.accounting_except_K1 B (progsOf recs snaps) sched hk v

/-- **a snapshot shows (or a previous one has shown) every value recorded before it began — outside K1.**  EVERY schedule
    `pre ++ mid` without a K1 step such that after `pre` the snapshotting thread `d` has not yet loaded the tail in its
    current snapshot and after `pre ++ mid` that snapshot has returned, and no thread is inside a `clear_with` walk at that
    moment: every value whose record() had returned when `pre` ended is among the values shown by the returned snapshots,
    at least as often as it had been recorded by then (and by `conc_hist_never_in_two_snapshots` not more often than
    recorded). -/
theorem conc_snapshot_shows_completed_partial (B : Nat) (recs : List (List Nat)) (snaps : List Nat) (pre mid : List Nat)
    (d : Nat) (t0 t1 : Thread)
    (hk : C05.stragglerClaims B (progsOf recs snaps) (pre ++ mid) = 0)
    (h0 : (run (Bucket.init B (progsOf recs snaps)) pre).threads[d]? = some t0)
    (hcall : t0.calls.head? = some .clear) (hpc : t0.pc = .start ∨ t0.pc = .cLoadTail)
    (h1 : (run (Bucket.init B (progsOf recs snaps)) (pre ++ mid)).threads[d]? = some t1)
    (hret : t0.results.length < t1.results.length)
    (hidle : ∀ (i : Nat) (t : Thread),
      (run (Bucket.init B (progsOf recs snaps)) (pre ++ mid)).threads[i]? = some t → claim t.pc = none)
    (v : Nat) :
    pubCount v (run (Bucket.init B (progsOf recs snaps)) pre)
      ≤ (shown (run (Bucket.init B (progsOf recs snaps)) (pre ++ mid))).count v := by
  rw [shown_eq_delivered]
  exact C05.delivered_once_clear_returned B (progsOf recs snaps) pre mid d t0 t1 hk h0 hcall hpc h1 hret hidle v

/-- one blamed value per K1 step -/
theorem k1Vals_length (sched : List Nat) : ∀ (s : Sys) (own : Nat → Owner),
    (k1Vals s own sched).length = k1Count s own sched := by
  induction sched with
  | nil => intro s own; rfl
  | cons t ts ih =>
    intro s own
    simp only [k1Vals, k1Count, List.length_append, ih]
    cases k1Step s own t <;> simp

/-- a run without a K1 step blames no value -/
theorem k1Vals_nil_of_noK1 (B : Nat) (progs : List (List Call)) (sched : List Nat)
    (hk : C05.stragglerClaims B progs sched = 0) : k1Vals (Bucket.init B progs) own0 sched = [] := by
  apply List.eq_nil_of_length_eq_zero
  rw [k1Vals_length]
  exact hk

/-- the driver's accumulator form is `k1Vals` -/
theorem k1ValsAcc_eq (sched : List Nat) : ∀ (s : Sys) (own : Nat → Owner) (acc : List Nat),
    k1ValsAcc s own acc sched = acc.reverse ++ k1Vals s own sched := by
  induction sched with
  | nil => intro s own acc; simp [k1ValsAcc, k1Vals]
  | cons t ts ih =>
    intro s own acc
    simp only [k1ValsAcc, k1Vals, ih]
    cases k1Step s own t <;> simp

/-- the clause "each value appears in exactly one snapshot however record() and snapshot() are interleaved" is FALSE of
    the code without the K1 hypothesis (known finding K-C19-K1, inherits K-C05-K1): recorder 1 loads the tail, the
    snapshot of thread 2 detaches the chain, waits for recorder 0 and shows its value, then recorder 1 claims and publishes
    its slot in the detached block.  Both record() calls have returned; the final snapshot (thread 3), started after
    everything else has finished, shows nothing: 2 values recorded, the snapshots show `[[1], []]`, nothing is pending —
    value 2 is in no snapshot, ever.  The schedule has exactly ONE K1 step and the value it blames is the lost one.
    (Block size 2 keeps the kernel evaluation small; the harness replays the schedule on the real recorder with 64.) -/
theorem conc_hist_exact_fails :
    let progs := progsOf [[1], [2]] ([1] ++ [1])
    let pre := [0, 1, 2, 0, 0, 0, 0, 1, 2, 2, 2, 2, 2, 1, 1]
    let s := run (Bucket.init 2 progs) (pre ++ [3, 3])
    quiescent s = true ∧ completedPushes s = 2
    ∧ (run (Bucket.init 2 progs) pre).threads[3]? = some (mkThread [.clear])
    ∧ snapshots s = [[1], []] ∧ pending s = []
    ∧ recorded [[1], [2]] = [1, 2]
    ∧ C05.stragglerClaims 2 progs (pre ++ [3, 3]) = 1
    ∧ k1Vals (Bucket.init 2 progs) own0 (pre ++ [3, 3]) = [2] := by decide +kernel

/-- `record_many(v, n)` records `n` times `v`: the thread's program is `n` pushes of `v`, and `v` is recorded `n` more
    times than without the call -/
theorem record_many_is_n_records (v n : Nat) (before after : List Nat) :
    recCalls (before ++ recordMany v n ++ after) = recCalls before ++ List.replicate n (.push v) ++ recCalls after
    ∧ (recorded [before ++ recordMany v n ++ after]).count v = (recorded [before ++ after]).count v + n := by
  constructor
  · simp [recCalls, recordMany, List.map_append, List.map_replicate]
  · simp [recorded, recordMany, List.count_append, List.count_replicate_self]
    omega

/-- SOURCE FACT (regenerated on every run): the handle `register_histogram` returns is `Histogram::from_arc` of the
    registry's own cell, the cell is an `Arc<AtomicBucket<f64>>` made empty; metrics-util/src/storage/mod.rs implements
    `HistogramFn for AtomicBucket<f64>` with `record` only, as one `push(value)`; so `record_many` on this handle is the
    trait's default: `count` times `record(value)` (the model's `recordMany`).  A `record_many` written there (batched,
    capped at the block size, skipping a sample) breaks this obligation.  metrics-util/src/handles.rs holds a second copy
    of that impl but is no module of the crate (`lib.rs` declares no `mod handles`): pinned by the module list. -/
theorem src_hist_handle_path :
    Generated.debug_register_histogram_handle = "|h|Histogram::from_arc(h.clone())"
    ∧ Generated.debug_atomic_storage_histogram_type = "Arc<AtomicBucket<f64>>"
    ∧ Generated.debug_atomic_storage_histogram_new = "{Arc::new(AtomicBucket::new())}"
    ∧ Generated.debug_storage_mod_impls
        = ["HistogramFnforAtomicBucket<f64>", "HistogramFnforself::reservoir::AtomicSamplingReservoir"]
    ∧ Generated.debug_util_lib_mods
        = ["debugging", "quantile", "registry", "storage", "common", "key", "kind", "recoverable", "layers", "test_util"]
    ∧ Generated.debug_bucket_histogram_fn_methods = ["record"]
    ∧ Generated.debug_bucket_histogram_fn_record = "{self.push(value);}"
    ∧ Generated.debug_histogram_fn_record_many_default = "{for_in0..count{self.record(value);}}" :=
  ⟨rfl, rfl, rfl, rfl, rfl, rfl, rfl, rfl⟩

/-- `conc_hist_partition_partial` / `conc_hist_final_snapshot_partial` on a run with a hand-over (block size 2), two
    recorders (one through `record_many`), a snapshotter whose first detach CAS fails (it retries) and the final snapshot:
    all hypotheses hold; the snapshots are `[[4, 1, 1]]` and `[[3]]`, together the 4 recorded values -/
example :
    let recs := [recordMany 1 2 ++ [3], [4]]
    let progs := progsOf recs ([1] ++ [1])
    let pre := [0,0,0,0,0, 0,0, 2,2, 1,1,1,1,1, 2, 2,2,2,2, 1, 2,2,2,2, 0, 2,2,2, 0,0,0,0]
    let fin := [3, 3, 3, 3, 3, 3, 3]
    let s := run (Bucket.init 2 progs) (pre ++ fin)
    C05.stragglerClaims 2 progs (pre ++ fin) = 0
    ∧ (run (Bucket.init 2 progs) pre).threads[3]? = some (mkThread [.clear])
    ∧ ((run (Bucket.init 2 progs) pre).threads.map (·.pc)) = [.done, .done, .done, .start]
    ∧ quiescent s = true
    ∧ snapshots s = [[4, 1, 1], [3]] ∧ pending s = []
    ∧ k1Vals (Bucket.init 2 progs) own0 (pre ++ fin) = [] := by decide +kernel

/-- a run stopped in the middle (a snapshot has collected one block and waits on the next, one record() in flight):
    `conc_hist_never_in_two_snapshots` / `conc_hist_accounting_partial` speak about such states -/
example :
    let recs := [[1, 2, 3], [4]]
    let progs := progsOf recs [2]
    let sched := [0,0,0,0,0, 0,0, 2,2, 1,1,1,1,1, 2, 2,2,2,2, 1, 2,2,2,2]
    let s := run (Bucket.init 2 progs) sched
    quiescent s = false ∧ snapshots s = [] ∧ inRunningClears s = [4] ∧ pending s = []
    ∧ pubCount 1 s = 1 ∧ inFlight 2 s = 1 := by decide +kernel

end MetricsVerif.C19
