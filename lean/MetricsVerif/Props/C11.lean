/-
C11 — the TCP exporter streams whole frames to every connected client, whatever others do.

Theorems about the model `Model/Tcp.lean` of `run_transport` / `drive_connection`
(`metrics-exporter-tcp/src/lib.rs`) with its three repairs (`Fixes` all `true`), for ALL
sequences of events `wake` / `accept` / `writable` and ALL write results the sockets may answer
(`ok n`, `ok 0`, `wouldBlock`, `interrupted`, `err`), for `buffer_size` `None` and every `Some n`.
Unbounded: induction over the event list (`run_inv`) and over the write results (the arms of `drive`).

The model is tied to the code by trace validation (harness/src/c11.rs): the hook's event trace of real exporter
sessions, with the kernel's actual write results, is replayed through this model and compared step by step.
Eventual delivery (that a WRITABLE event does arrive) is the kernel's and mio's business and only exercised.
-/
import MetricsVerif.Proofs.Tcp
import MetricsVerif.Proofs.TcpProd
import MetricsVerif.Generated.SourceFacts

namespace MetricsVerif.C11
open MetricsVerif.Tcp

/-- per client: framing (`FramedAny`, and `FramedW` while connected), order/at-most-once (`Ordered`),
    nothing lost while nothing was discarded (`NoLoss`), the metadata enqueued at connect first (`MetaFirst`) -/
def ClientInv (cl : Client) : Prop :=
  FramedAny cl ∧ Ordered cl ∧ NoLoss cl ∧ MetaFirst cl ∧ (cl.alive = true → FramedW cl)

/-- `client_count` counts the connected clients and `should_send` says whether there is one -/
def Gate (s : State) : Prop :=
  s.clientCount = aliveCount s.clients ∧ s.shouldSend = decide (0 < s.clientCount)

def StateInv (s : State) : Prop :=
  s.fixes = {} ∧ Gate s ∧ ∀ p ∈ s.clients, ClientInv p.2

/-- `drive` keeps the per-client invariant of a connected client, which stays connected only if not `done` -/
theorem drive_inv (fx : Fixes) (hfx : fx.block = true) (rs : List WriteResult) (cl : Client) (h : ClientInv cl)
    (ha : cl.alive = true) (a : Bool) (hdone : a = true → (drive fx cl rs).done = false) :
    ClientInv { (drive fx cl rs).cl with alive := a } :=
  have d := drive_framed fx hfx rs cl (h.2.2.2.2 ha)
  have m := drive_moved fx cl rs
  ⟨d.2, m.ordered h.2.1, m.noLoss h.2.2.1, m.metaFirst h.2.2.2.1, fun hal => d.1 (hdone hal)⟩

theorem enqueue_inv (lim : Nat) (batch : List Frame) (cl : Client) (h : ClientInv cl) :
    ClientInv (enqueue lim batch cl) :=
  ⟨h.1, enqueue_ordered lim batch cl h.2.1, enqueue_noLoss lim batch cl h.2.2.1,
    enqueue_metaFirst lim batch cl h.2.2.2.1, h.2.2.2.2⟩

theorem wakeClient_inv (fx : Fixes) (hfx : fx.block = true) (lim : Nat) (batch : List Frame) (cl : Client)
    (rs : List WriteResult) (h : ClientInv cl) : ClientInv (wakeClient fx lim batch cl rs).cl := by
  unfold wakeClient
  split
  · exact h
  · rename_i hal
    have ha : cl.alive = true := by simpa using hal
    dsimp only
    split
    · exact drive_inv fx hfx rs cl h ha false (fun hf => nomatch hf)
    · rename_i hd
      -- the first drive kept the client: what is enqueued for and driven again is a connected client
      have h1 : ClientInv (drive fx cl rs).cl :=
        drive_inv fx hfx rs cl h ha (drive fx cl rs).cl.alive (fun _ => by simpa using hd)
      exact drive_inv fx hfx _ _ (enqueue_inv lim batch _ h1) ((drive_alive fx hfx rs cl).trans ha) _
        (fun hf => by simpa using hf)

theorem writableClient_inv (fx : Fixes) (hfx : fx.block = true) (c : Nat) (rs : List WriteResult) (k : Nat)
    (cl : Client) (h : ClientInv cl) : ClientInv (writableClient fx c rs k cl).cl := by
  unfold writableClient
  split
  · rename_i hc
    exact drive_inv fx hfx rs cl h (by simpa using (Bool.and_eq_true _ _ ▸ hc).2) _ (fun hf => by simpa using hf)
  · exact h

theorem wakeClient_stepOk (fx : Fixes) (lim : Nat) (batch : List Frame)
    (g : Nat → List WriteResult) : StepOk (fun k cl => wakeClient fx lim batch cl (g k)) := by
  intro k cl
  simp only [wakeClient]
  cases ha : cl.alive with
  | false => simp [ha]
  | true =>
    cases hd : (drive fx cl (g k)).done with
    | true => simp
    | false =>
      simp only [Bool.not_true, Bool.false_eq_true, if_false]
      cases (drive fx (enqueue lim batch (drive fx cl (g k)).cl) (drive fx cl (g k)).rest).done <;> simp

theorem writableClient_stepOk (fx : Fixes) (c : Nat) (rs : List WriteResult) :
    StepOk (writableClient fx c rs) := by
  intro k cl
  simp only [writableClient]
  split
  · rename_i hc
    have ha : cl.alive = true := by simp at hc; exact hc.2
    cases (drive fx cl rs).done <;> simp [ha]
  · cases cl.alive <;> simp

theorem aliveCount_append_alive (cs : List (Nat × Client)) (t : Nat) (cl : Client) (h : cl.alive = true) :
    aliveCount (cs ++ [(t, cl)]) = aliveCount cs + 1 := by
  simp [aliveCount, List.filter_append, h]

theorem step_fixes (s : State) (e : Event) : (step s e).fixes = s.fixes := by
  cases e with
  | wake m f r => simp only [step, wakeFull]; split <;> rfl
  | accept p => rfl
  | writable c r => rfl

/-- counting the flagged removals out of a consistent gate leaves a consistent gate -/
theorem gate_after (f : Nat → Client → ClientStep) (hf : StepOk f) (cs : List (Nat × Client)) (n : Nat)
    (hc : n = aliveCount cs) :
    (decN (removedCount (stepClients f cs)) (n, decide (0 < n))).1 = aliveCount (newClients (stepClients f cs)) ∧
    (decN (removedCount (stepClients f cs)) (n, decide (0 < n))).2
      = decide (0 < (decN (removedCount (stepClients f cs)) (n, decide (0 < n))).1) := by
  have hk := alive_removed f hf cs
  rw [decN_spec _ _ _ (hc ▸ hk ▸ Nat.le_add_left _ _) rfl]
  exact ⟨by rw [hc, ← hk]; exact Nat.add_sub_cancel .., rfl⟩

theorem step_gate (s : State) (e : Event) (hfx : s.fixes = {}) (h : Gate s) : Gate (step s e) := by
  obtain ⟨hc, hs⟩ := h
  cases e with
  | wake metas frames rs =>
    simp only [step, wakeFull]
    split
    · exact ⟨hc, hs⟩
    · rw [hs, hfx]
      exact gate_after _ (wakeClient_stepOk {} s.limit (frames.take s.limit) fun k => (lookupKey k rs).getD [])
        s.clients _ hc
  | accept perm =>
    exact ⟨by show s.clientCount + 1 = _; rw [hc]; exact (aliveCount_append_alive _ _ _ rfl).symm,
      (decide_eq_true (Nat.succ_pos _)).symm⟩
  | writable c rs =>
    simp only [step, writableFull]
    rw [hs]
    exact gate_after _ (writableClient_stepOk s.fixes c rs) s.clients _ hc

/-- a property of single clients that both per-client handlers keep and a freshly accepted client has is kept
    by every event: no event makes one client's state depend on another's -/
theorem step_clients (P : Client → Prop) (s : State) (e : Event)
    (hwake : ∀ lim batch cl rs, P cl → P (wakeClient s.fixes lim batch cl rs).cl)
    (hwritable : ∀ c rs k cl, P cl → P (writableClient s.fixes c rs k cl).cl)
    (hnew : ∀ md, P { msgs := md, sent := md, atConnect := md })
    (h : ∀ p ∈ s.clients, P p.2) : ∀ p ∈ (step s e).clients, P p.2 := by
  cases e with
  | wake metas frames rs =>
    simp only [step, wakeFull]
    split
    · exact h
    · intro p hp
      obtain ⟨q, hq, rfl⟩ := mem_newClients hp
      exact hwake _ _ _ _ (h q hq)
  | accept perm =>
    intro p hp
    rcases List.mem_append.1 hp with hp | hp
    · exact h p hp
    · cases List.mem_singleton.1 hp; exact hnew _
  | writable c rs =>
    intro p hp
    obtain ⟨q, hq, rfl⟩ := mem_newClients hp
    exact hwritable _ _ _ _ (h q hq)

theorem fresh_inv (md : List Frame) : ClientInv { msgs := md, sent := md, atConnect := md } :=
  ⟨⟨[], rfl, Or.inl rfl⟩, ⟨[], rfl, List.Sublist.refl _⟩, fun _ => rfl, List.prefix_refl _,
    fun _ => ⟨rfl, Or.inl rfl⟩⟩

theorem step_inv (s : State) (e : Event) (h : StateInv s) : StateInv (step s e) := by
  obtain ⟨hfx, hg, hcl⟩ := h
  have hb : s.fixes.block = true := by rw [hfx]
  exact ⟨by rw [step_fixes, hfx], step_gate s e hfx hg,
    step_clients ClientInv s e (fun _ _ _ _ => wakeClient_inv _ hb _ _ _ _)
      (fun _ _ _ _ => writableClient_inv _ hb _ _ _ _) fresh_inv hcl⟩

theorem init_eq (fx : Fixes) (bs : Option Nat) (s : State) (h : initTransport fx bs = some s) :
    s = { fixes := fx, bufferSize := bs } := by
  simp only [initTransport, Option.ite_none_right_eq_some, Option.some.injEq] at h
  exact h.2.symm

theorem init_inv (bs : Option Nat) (s : State) (h : initTransport {} bs = some s) : StateInv s := by
  rw [init_eq _ _ _ h]
  exact ⟨rfl, ⟨rfl, rfl⟩, fun p hp => by cases hp⟩

theorem run_inv (s : State) (evs : List Event) (h : StateInv s) : StateInv (run s evs) := by
  induction evs generalizing s with
  | nil => exact h
  | cons e es ih => exact ih _ (step_inv s e h)

/-- **starts_for_all_configs.** The transport thread survives its initialisation for "no limit" and for
    every explicit limit whose queue `VecDeque::with_capacity` can allocate (n · 32 bytes ≤ isize::MAX; for
    larger `n` `crossbeam_channel::bounded(n)` already fails in `TcpBuilder::build` on the caller's thread). -/
theorem starts_for_all_configs (bs : Option Nat) (h : bs = none ∨ ∃ n, bs = some n ∧ n * bytesSize ≤ isizeMax) :
    (initTransport {} bs).isSome = true := by
  rcases h with rfl | ⟨n, rfl, hn⟩
  · rfl
  · simp [initTransport, withCapacityOk, hn]

/-- **gate.** In every reachable state `client_count` is the number of clients in the `clients` map and
    `should_send` is true exactly when there is one. -/
theorem gate (bs : Option Nat) (s : State) (evs : List Event) (h : initTransport {} bs = some s) :
    (run s evs).clientCount = aliveCount (run s evs).clients ∧
    (run s evs).shouldSend = decide (0 < aliveCount (run s evs).clients) := by
  obtain ⟨_, ⟨hc, hs⟩, _⟩ := run_inv s evs (init_inv bs s h)
  exact ⟨hc, by rw [hs, hc]⟩

/-- … so whatever other clients do (connect, stall, disconnect, reset), emitters keep sending while some
    client is connected: the gate is open whenever a client is in the map. -/
theorem gate_open_while_connected (bs : Option Nat) (s : State) (evs : List Event)
    (h : initTransport {} bs = some s) (p : Nat × Client) (hp : p ∈ (run s evs).clients)
    (ha : p.2.alive = true) : (run s evs).shouldSend = true := by
  rw [(gate bs s evs h).2]
  have hm : p ∈ (run s evs).clients.filter (fun p => p.2.alive) := List.mem_filter.mpr ⟨hp, ha⟩
  exact decide_eq_true (List.length_pos_of_mem hm)

/-- **framing.** For a connected client, the bytes its socket has accepted followed by the leftover parked
    in `wbuf` are exactly the concatenation of the frames started so far — whole frames, nothing else; and
    the leftover is empty or the tail of the last started frame (the only incomplete frame). -/
theorem framing (bs : Option Nat) (s : State) (evs : List Event) (h : initTransport {} bs = some s)
    (p : Nat × Client) (hp : p ∈ (run s evs).clients) (ha : p.2.alive = true) :
    p.2.received ++ p.2.wbuf.getD [] = flat p.2.started ∧
    (p.2.wbuf.getD [] = [] ∨ ∃ pre f q, p.2.started = pre ++ [f] ∧ q ++ p.2.wbuf.getD [] = f.bytes) :=
  ((run_inv s evs (init_inv bs s h)).2.2 p hp).2.2.2.2 ha

/-- … in particular with nothing parked the socket has received whole frames only. -/
theorem framing_whole_when_idle (bs : Option Nat) (s : State) (evs : List Event)
    (h : initTransport {} bs = some s) (p : Nat × Client) (hp : p ∈ (run s evs).clients)
    (ha : p.2.alive = true) (hw : p.2.wbuf = none) : p.2.received = flat p.2.started := by
  have := (framing bs s evs h p hp ha).1
  simpa [hw] using this

/-- **framing, any client** (also one that was removed): what its socket accepted is a concatenation of whole
    frames except that the last started frame may be cut short — never torn in the middle of the stream. -/
theorem framing_any (bs : Option Nat) (s : State) (evs : List Event) (h : initTransport {} bs = some s)
    (p : Nat × Client) (hp : p ∈ (run s evs).clients) :
    ∃ rem, p.2.received ++ rem = flat p.2.started ∧
      (rem = [] ∨ ∃ pre f q, p.2.started = pre ++ [f] ∧ q ++ rem = f.bytes) :=
  ((run_inv s evs (init_inv bs s h)).2.2 p hp).1

/-- **order, at most once.** The frames started for a client are, in enqueue order and each enqueued
    position at most once, among the frames enqueued for it, and the queue is exactly the rest: nothing is
    interleaved, reordered or duplicated; frames can only be missing (discarded from the queue). -/
theorem order_once (bs : Option Nat) (s : State) (evs : List Event) (h : initTransport {} bs = some s)
    (p : Nat × Client) (hp : p ∈ (run s evs).clients) :
    ∃ pre, p.2.sent = pre ++ p.2.msgs ∧ p.2.started.Sublist pre :=
  ((run_inv s evs (init_inv bs s h)).2.2 p hp).2.1

/-- … so if the enqueued frames are pairwise distinct (they are: every metric frame carries its own
    timestamp / is a distinct emission), no frame is started twice. -/
theorem started_nodup (bs : Option Nat) (s : State) (evs : List Event) (h : initTransport {} bs = some s)
    (p : Nat × Client) (hp : p ∈ (run s evs).clients) (hd : (p.2.sent.map Frame.id).Nodup) :
    (p.2.started.map Frame.id).Nodup := by
  obtain ⟨pre, hs, hsub⟩ := order_once bs s evs h p hp
  rw [hs, List.map_append] at hd
  exact ((List.nodup_append.mp hd).1).sublist (hsub.map _)

/-- **metadata first.** Everything enqueued for a client starts with the metadata frames it was given when
    its connection was accepted; together with `order_once` (the stream follows the enqueue order) no metric
    precedes them in its stream. -/
theorem metadata_first (bs : Option Nat) (s : State) (evs : List Event) (h : initTransport {} bs = some s)
    (p : Nat × Client) (hp : p ∈ (run s evs).clients) : p.2.atConnect <+: p.2.sent :=
  ((run_inv s evs (init_inv bs s h)).2.2 p hp).2.2.2.1

/-- … and those are all the metadata known at that moment: the accepted client (token `s.nextToken`) starts
    with `atConnect = sent = msgs`, which contains the current frame of every described name whenever the
    iteration order `perm` enumerates the known keys. -/
theorem accept_enqueues_known_metadata (s : State) (perm : List Nat) :
    ∃ cl, (accept s perm).clients = s.clients ++ [(s.nextToken, cl)] ∧ cl.alive = true ∧
      cl.atConnect = cl.msgs ∧ cl.sent = cl.msgs ∧ cl.received = [] ∧ cl.wbuf = none ∧
      ∀ k f, k ∈ perm → lookupKey k s.metadata = some f → f ∈ cl.msgs := by
  refine ⟨_, rfl, rfl, rfl, rfl, rfl, rfl, ?_⟩
  intro k f hk hf
  exact List.mem_filterMap.mpr ⟨k, hk, hf⟩

/-- **no_loss_for_reader.** For a connected client for which nothing was ever discarded (its queue stayed
    within `buffer_size`), every byte of every frame enqueued for it — the metadata at connect, then every
    fanned-out metric — has been accepted by its socket, is parked in `wbuf`, or is still queued, in order. -/
theorem no_loss_for_reader (bs : Option Nat) (s : State) (evs : List Event) (h : initTransport {} bs = some s)
    (p : Nat × Client) (hp : p ∈ (run s evs).clients) (ha : p.2.alive = true) (hd : p.2.dropped = 0) :
    p.2.received ++ p.2.wbuf.getD [] ++ flat p.2.msgs = flat p.2.sent := by
  obtain ⟨_, _, hN, _, hW⟩ := (run_inv s evs (init_inv bs s h)).2.2 p hp
  rw [hN hd, flat_append, (hW ha).1]

/-- **a reading client receives everything.** If such a client's socket then takes every buffer whole (a
    client that reads), one `drive_connection` call leaves nothing parked or queued and its socket has
    received exactly the concatenation of ALL frames enqueued for it since it connected. -/
theorem reader_receives_everything (bs : Option Nat) (s : State) (evs : List Event)
    (h : initTransport {} bs = some s) (p : Nat × Client) (hp : p ∈ (run s evs).clients)
    (ha : p.2.alive = true) (hd : p.2.dropped = 0) (N : Nat) (hN : 0 < N) (rs : List WriteResult)
    (hrs : ∀ r ∈ rs, r = .ok N) (hwb : ∀ b, p.2.wbuf = some b → b.length ≤ N)
    (hmb : ∀ f ∈ p.2.msgs, f.bytes.length ≤ N)
    (hlen : (if p.2.wbuf.isSome then 1 else 0) + p.2.msgs.length ≤ rs.length) :
    (drive {} p.2 rs).done = false ∧ (drive {} p.2 rs).cl.wbuf = none ∧ (drive {} p.2 rs).cl.msgs = [] ∧
    (drive {} p.2 rs).cl.received = flat p.2.sent := by
  obtain ⟨h1, h2, h3, h4⟩ := drive_full_accept {} N hN rs p.2 hrs hwb hmb hlen
  exact ⟨h1, h2, h3, by rw [h4, no_loss_for_reader bs s evs h p hp ha hd]⟩

/-- the rate condition: a batch that fits into the client's queue discards nothing -/
theorem within_buffer_no_drop (lim : Nat) (batch : List Frame) (cl : Client)
    (h : cl.msgs.length + batch.length ≤ lim) :
    (enqueue lim batch cl).dropped = cl.dropped ∧ (enqueue lim batch cl).msgs = cl.msgs ++ batch := by
  have hb : batch.length ≤ lim := Nat.le_trans (Nat.le_add_left _ _) h
  simp only [enqueue, toDrain_fits lim cl.msgs.length batch.length h, Nat.zero_min, List.drop_zero,
    List.take_of_length_le hb, Nat.sub_eq_zero_of_le hb, Nat.add_zero, and_self]

/-- **drop_only_whole_oldest.** Making room touches neither the partially written frame (`wbuf`) nor what
    was received or started: only whole, not-yet-started frames leave, from the front of the queue (oldest
    first), no more of them than the queue holds, and the new batch goes in whole behind the survivors. -/
theorem drop_only_whole_oldest (lim : Nat) (batch : List Frame) (cl : Client) (hb : batch.length ≤ lim) :
    (enqueue lim batch cl).wbuf = cl.wbuf ∧ (enqueue lim batch cl).received = cl.received ∧
    (enqueue lim batch cl).started = cl.started ∧
    toDrain lim cl.msgs.length batch.length ≤ cl.msgs.length ∧
    (enqueue lim batch cl).msgs = cl.msgs.drop (toDrain lim cl.msgs.length batch.length) ++ batch :=
  ⟨rfl, rfl, rfl, toDrain_le _ _ _ hb, congrArg (_ ++ ·) (List.take_of_length_le hb)⟩

/-- … and no more are discarded than needed: afterwards the queue holds `min limit (old + batch)` frames. -/
theorem drop_no_more_than_needed (lim : Nat) (batch : List Frame) (cl : Client) (hb : batch.length ≤ lim)
    (hm : cl.msgs.length ≤ lim) :
    (enqueue lim batch cl).msgs.length = min lim (cl.msgs.length + batch.length) := by
  rw [(drop_only_whole_oldest lim batch cl hb).2.2.2.2, List.length_append, List.length_drop]
  by_cases h : cl.msgs.length + batch.length ≤ lim
  · rw [toDrain_fits _ _ _ h, Nat.sub_zero, Nat.min_eq_right h]
  · obtain ⟨a, rfl⟩ := Nat.exists_eq_add_of_le hm
    rw [toDrain_eq, Nat.min_eq_left (Nat.le_of_lt (Nat.lt_of_not_le h)), Nat.add_sub_cancel_left]
    omega

/-- the batch the fan-out hands to `enqueue` never exceeds the limit (the read loop stops there) -/
theorem wake_batch_le (s : State) (frames : List Frame) : (frames.take s.limit).length ≤ s.limit := by
  simp [List.length_take]; omega

/-- **only a slow client has messages discarded.** The fan-out removes frames from a client's queue
    (`to_drain > 0`) only if the `drive_connection` call just before it -- in this very fan-out -- came back
    with the socket refusing: a parked buffer in `wbuf` and at least one `write` attempted.  So a client whose
    socket takes what it is offered (a freshly accepted one with its metadata still queued, one whose backlog
    the socket would take now) never loses a frame, whatever its queue length compared with `buffer_size`. -/
theorem drop_only_after_refusal (fx : Fixes) (hfx : fx.block = true) (lim : Nat) (batch : List Frame)
    (cl : Client) (rs : List WriteResult) (hb : batch.length ≤ lim) (hd : (drive fx cl rs).done = false)
    (hk : 0 < toDrain lim (drive fx cl rs).cl.msgs.length batch.length) :
    (drive fx cl rs).cl.wbuf.isSome = true ∧ (drive fx cl rs).attempts ≠ [] := by
  refine drive_queue_left_parked fx hfx rs cl hd ?_
  intro hm
  have := toDrain_le lim (drive fx cl rs).cl.msgs.length batch.length hb
  rw [hm] at this hk
  simp only [List.length_nil] at this hk
  omega

/-- … the same in terms of what the trace shows for one client of one fan-out (`ClientLog`): a positive drop
    count comes with a first drive that ended parked (`wbuf` = `Some`) after at least one `write`. -/
theorem wake_drop_only_for_slow_client (fx : Fixes) (hfx : fx.block = true) (lim : Nat) (batch : List Frame)
    (cl : Client) (rs : List WriteResult) (hb : batch.length ≤ lim) (lg : ClientLog) (k e : Nat) (p2 : Phase)
    (h : (wakeClient fx lim batch cl rs).log = some lg) (h2 : lg.second = some (k, e, p2)) (hk : 0 < k) :
    lg.p1.wbuf.isSome = true ∧ lg.p1.attempts ≠ [] := by
  unfold wakeClient at h
  split at h
  · cases h
  · dsimp only at h
    split at h
    · cases h; cases h2
    · rename_i hd
      obtain rfl := Option.some.inj h
      obtain rfl := (Prod.mk.inj (Option.some.inj h2)).1
      have := drop_only_after_refusal fx hfx lim batch cl rs hb (Bool.eq_false_iff.2 hd) hk
      exact ⟨Option.isSome_map.trans this.1, this.2⟩

/-- **a healthy client keeps its metadata.** A freshly accepted client (nothing parked, its metadata still
    queued because its first WRITABLE event has not been handled) that is reached by a fan-out in that state and
    whose socket takes every buffer whole: nothing is discarded (the drop count is 0) however many metadata
    frames are queued compared with `buffer_size`, and the first drive has already written them all. -/
theorem fresh_client_keeps_metadata (N : Nat) (hN : 0 < N) (lim : Nat) (batch : List Frame) (md : List Frame)
    (rs : List WriteResult) (hrs : ∀ r ∈ rs, r = .ok N) (hmb : ∀ f ∈ md, f.bytes.length ≤ N)
    (hlen : md.length ≤ rs.length) :
    let cl : Client := { msgs := md, sent := md, atConnect := md }
    (drive {} cl rs).done = false ∧ (drive {} cl rs).cl.received = flat md ∧
    toDrain lim (drive {} cl rs).cl.msgs.length batch.length = batch.length - lim := by
  intro cl
  obtain ⟨h1, _, h3, h4⟩ := drive_full_accept {} N hN rs cl hrs (fun _ h => nomatch h) hmb
    (by show 0 + md.length ≤ _; rw [Nat.zero_add]; exact hlen)
  exact ⟨h1, h4, by rw [h3, toDrain_eq]; rfl⟩

/-- **no_tear_on_wouldblock.** `WouldBlock` (before any byte, or after a partial write): nothing is lost —
    the buffer taken from `wbuf`/`msgs` goes back into `wbuf` and is the very next thing written. -/
theorem no_tear_on_wouldblock (cl cl' : Client) (buf : List UInt8) (rs : List WriteResult)
    (h : takeBuf cl = some (buf, cl')) :
    drive {} cl (.wouldBlock :: rs) = ⟨{ cl' with wbuf := some buf }, false, rs, [buf.length], false⟩ ∧
    ∃ c'', takeBuf { cl' with wbuf := some buf } = some (buf, c'') := by
  refine ⟨by simp [drive, h, onBlock], ?_⟩
  exact ⟨{ cl' with wbuf := none }, by simp [takeBuf]⟩

/-- a short write keeps exactly the unwritten tail and accounts the written head as received -/
theorem partial_write_keeps_tail (cl cl' : Client) (buf : List UInt8) (n : Nat) (rs : List WriteResult)
    (h : takeBuf cl = some (buf, cl')) (h0 : 0 < n) (hn : n < buf.length) :
    drive {} cl (.ok n :: rs) =
      ⟨{ cl' with wbuf := some (buf.drop n), received := cl'.received ++ buf.take n }, false, rs, [buf.length], false⟩ := by
  have : n ≠ 0 := by omega
  simp [drive, h, this, hn]

/-- `Interrupted`: the same buffer is written again -/
theorem interrupted_retries_same_buffer (cl cl' : Client) (buf : List UInt8) (rs : List WriteResult)
    (h : takeBuf cl = some (buf, cl')) :
    drive {} cl (.interrupted :: rs) = (drive {} { cl' with wbuf := some buf } rs).push buf.length := by
  simp [drive, h, onBlock]

/-- **other clients cannot interfere.** What an event does to client `c` depends on `c`'s own state and
    `c`'s own write results only: a writable event of another client leaves it untouched, … -/
theorem writable_other_client_untouched (s : State) (c c' : Nat) (rs : List WriteResult) (h : c' ≠ c) :
    lookupKey c (step s (.writable c' rs)).clients = lookupKey c s.clients := by
  simp only [step, writableFull]
  rw [lookup_newClients]
  cases lookupKey c s.clients with
  | none => rfl
  | some cl =>
    have : ¬ (c = c') := fun e => h e.symm
    simp [writableClient, this]

/-- … and the fan-out treats it as if it were alone. -/
theorem wake_client_alone (s : State) (c : Nat) (metas : List (Nat × Frame)) (frames : List Frame)
    (rs : List (Nat × List WriteResult)) (hne : (frames.take s.limit).isEmpty = false) :
    lookupKey c (step s (.wake metas frames rs)).clients =
      (lookupKey c s.clients).map (fun cl =>
        (wakeClient s.fixes s.limit (frames.take s.limit) cl ((lookupKey c rs).getD [])).cl) := by
  simp only [step, wakeFull, hne, Bool.false_eq_true, if_false]
  rw [lookup_newClients]

/-! ### quiescence: what is left parked when the emitters go quiet

The sockets are registered edge-triggered.  When the transport thread is back in `poll` and no further emission
follows, a frame that is parked (`wbuf`) or queued (`msgs`) for a client is sent only when the kernel reports a
WRITABLE edge for that client, and the kernel owes such an edge only after it REFUSED a write (`WouldBlock`, or
a short write: the send buffer was full).  So the exporter may leave something parked only behind a refused
write; after `Interrupted`, which says nothing about the socket, it has to retry by itself.  (That the owed edge
does arrive is the kernel's and mio's business: exercised by the harness's quiet oracle on real sockets.) -/

/-- **parked_only_after_refusal.** Whatever the socket answers (every list of write results, every client
    state): if `drive_connection` returns `false` with a buffer parked in `wbuf`, the LAST `write` it made was
    refused by the socket -- `WouldBlock` or a short write of that very buffer -- never `Interrupted`, never a
    write taken whole.  (`starved` = the model was given fewer results than `write` calls; the driver rejects
    such a replay as `bad-op`.) -/
theorem parked_only_after_refusal (fx : Fixes) (rs : List WriteResult) (cl : Client)
    (hd : (drive fx cl rs).done = false) (hw : (drive fx cl rs).cl.wbuf.isSome = true) :
    (drive fx cl rs).starved = true ∨
    ∃ pre r as a, rs = pre ++ r :: (drive fx cl rs).rest ∧ (drive fx cl rs).attempts = as ++ [a] ∧ Refused r a :=
  drive_parks_only_on_refusal fx rs cl hd hw

/-- **interrupted_is_transparent.** `Interrupted` changes nothing but the number of `write` calls: the same
    buffer is offered again at once and the call ends exactly where it would have ended without the
    interruption -- for EVERY continuation of write results.  In particular an interrupted write of the last
    frame before a silence leaves nothing parked that the socket would have taken. -/
theorem interrupted_is_transparent (fx : Fixes) (hfx : fx.block = true) (cl cl' : Client) (buf : List UInt8)
    (rs : List WriteResult) (h : takeBuf cl = some (buf, cl')) :
    drive fx cl (.interrupted :: rs) = (drive fx cl rs).push buf.length := by
  have h2 := takeBuf_putBack h
  simp only [drive, h, onBlock, hfx, if_true]
  rw [drive_congr_some fx h2 h rs]

/-- whatever the client was before: `QueueBehindParked` is re-established by every drive, not carried through it -/
theorem drive_qbp (fx : Fixes) (hfx : fx.block = true) (rs : List WriteResult) (cl : Client) :
    QueueBehindParked { (drive fx cl rs).cl with alive := !(drive fx cl rs).done } :=
  fun hal hm => Or.inl (drive_queue_left_parked fx hfx rs cl (by simpa using hal) hm).1

theorem wakeClient_qbp (fx : Fixes) (hfx : fx.block = true) (lim : Nat) (batch : List Frame) (cl : Client)
    (rs : List WriteResult) (h : QueueBehindParked cl) : QueueBehindParked (wakeClient fx lim batch cl rs).cl := by
  unfold wakeClient
  split
  · exact h
  · dsimp only
    split
    · exact fun hal => nomatch hal
    · exact drive_qbp fx hfx _ _

theorem writableClient_qbp (fx : Fixes) (hfx : fx.block = true) (c : Nat) (rs : List WriteResult) (k : Nat)
    (cl : Client) (h : QueueBehindParked cl) : QueueBehindParked (writableClient fx c rs k cl).cl := by
  unfold writableClient
  split
  · exact drive_qbp fx hfx rs cl
  · exact h

theorem run_qbp (s : State) (evs : List Event) (hfx : s.fixes.block = true)
    (h : ∀ p ∈ s.clients, QueueBehindParked p.2) : ∀ p ∈ (run s evs).clients, QueueBehindParked p.2 := by
  induction evs generalizing s with
  | nil => exact h
  | cons e es ih =>
    exact ih _ (by rw [step_fixes]; exact hfx)
      (step_clients QueueBehindParked s e (fun _ _ _ _ => wakeClient_qbp _ hfx _ _ _ _)
        (fun _ _ _ _ => writableClient_qbp _ hfx _ _ _ _) (fun _ _ _ => Or.inr rfl) h)

/-- **quiet_queue_only_behind_parked_buffer.** After EVERY sequence of events, for every connected client:
    frames are still queued only behind a parked write buffer (which by `parked_only_after_refusal` a refusing
    socket left there, so a WRITABLE edge is owed), or the client has just been accepted and never been driven
    (its registration edge is owed).  The loop never goes back to `poll` leaving a queue that the socket was not
    asked to take. -/
theorem quiet_queue_only_behind_parked_buffer (bs : Option Nat) (s : State) (evs : List Event)
    (h : initTransport {} bs = some s) (p : Nat × Client) (hp : p ∈ (run s evs).clients)
    (ha : p.2.alive = true) (hm : p.2.msgs ≠ []) : p.2.wbuf.isSome = true ∨ p.2.started = [] := by
  have hs := init_eq _ _ _ h
  subst hs
  exact run_qbp _ evs rfl (fun p hp => by cases hp) p hp ha hm

/-- **quiet_unparked_client_has_everything.** After every sequence of events: a connected client that has been
    driven at least once, has nothing parked in `wbuf` and never had a frame discarded has been handed EVERY
    frame enqueued for it, whole and in order -- nothing waits for a later fan-out.  Together with
    `parked_only_after_refusal`: when the emitters go quiet, every reading client either holds everything or is
    owed a WRITABLE edge by the kernel. -/
theorem quiet_unparked_client_has_everything (bs : Option Nat) (s : State) (evs : List Event)
    (h : initTransport {} bs = some s) (p : Nat × Client) (hp : p ∈ (run s evs).clients)
    (ha : p.2.alive = true) (hw : p.2.wbuf = none) (hst : p.2.started ≠ []) (hd : p.2.dropped = 0) :
    p.2.msgs = [] ∧ p.2.received = flat p.2.sent := by
  have hm : p.2.msgs = [] := by
    apply Classical.byContradiction
    intro hne
    rcases quiet_queue_only_behind_parked_buffer bs s evs h p hp ha hne with h1 | h1
    · rw [hw] at h1; cases h1
    · exact hst h1
  refine ⟨hm, ?_⟩
  have := no_loss_for_reader bs s evs h p hp ha hd
  simpa [hw, hm, flat] using this

/-- an interrupted write is retried at once, not parked (`seeded/C11-8` parks it), on the model: one client, the
    write of the last frame is interrupted once, then the socket takes it -- everything is received, nothing parked;
    and when instead the socket REFUSES (`WouldBlock`) the frame is parked, which is the only way to get there -/
example : ∃ s, initTransport {} (some 16) = some s ∧
    (run s [.accept [], .wake [] [⟨0, [3, 10, 20, 30]⟩] [(2, [.ok 4])],
      .wake [] [⟨1, [2, 40, 50]⟩] [(2, [.interrupted, .ok 3])]]).clients.map
        (fun p => (p.2.received, p.2.wbuf, p.2.msgs.length)) = [([3, 10, 20, 30, 2, 40, 50], none, 0)] ∧
    (run s [.accept [], .wake [] [⟨0, [3, 10, 20, 30]⟩] [(2, [.ok 4])],
      .wake [] [⟨1, [2, 40, 50]⟩] [(2, [.interrupted, .wouldBlock])]]).clients.map
        (fun p => (p.2.received, p.2.wbuf, p.2.msgs.length)) = [([3, 10, 20, 30], some [2, 40, 50], 0)] :=
  ⟨_, rfl, by decide +kernel, by decide +kernel⟩

/-- before fix 1: `buffer_size(None)` → `VecDeque::with_capacity(usize::MAX)` panics; the exporter never serves -/
theorem legacy_no_limit_does_not_start : initTransport { cap := false } none = none := by decide +kernel

private def fA : Frame := ⟨0, [3, 10, 20, 30]⟩
private def fB : Frame := ⟨1, [2, 40, 50]⟩

/-- before fix 2: two clients, one found dead during a fan-out → `client_count = 0`, gate closed for the
    survivor (after the repair: 1 and open) -/
theorem legacy_double_decrement_closes_gate :
    let evs := [Event.accept [], Event.accept [], Event.wake [] [fA] [(2, [.err]), (3, [.ok 4])]]
    let old := run { fixes := { dec := false }, bufferSize := some 8 } evs
    let new := run { bufferSize := some 8 } evs
    (old.clientCount, old.shouldSend, aliveCount old.clients) = (0, false, 1) ∧
    (new.clientCount, new.shouldSend, aliveCount new.clients) = (1, true, 1) := by decide +kernel

/-- before fix 3: a short write followed by `WouldBlock` loses the tail of the frame — the next frame
    follows a torn one (after the repair the stream is `fA ++ fB`) -/
theorem legacy_wouldblock_tears_stream :
    let evs := [Event.accept [], Event.wake [] [fA] [(2, [.ok 1])], Event.wake [] [fB] [(2, [.wouldBlock, .ok 3])],
      Event.writable 2 [.ok 9]]
    let old := run { fixes := { block := false }, bufferSize := some 8 } evs
    let new := run { bufferSize := some 8 } evs
    (old.clients.map (·.2.received)) = [[3, 2, 40, 50]] ∧
    (new.clients.map (·.2.received)) = [[3, 10, 20, 30, 2, 40, 50]] := by decide +kernel

/-- a run with two clients, metadata at connect, a short write, `WouldBlock`, `Interrupted`, a reset client
    and a full queue: the hypotheses of the theorems above are met by a non-trivial state -/
private def demoEvs : List Event :=
  [ .wake [(0, ⟨100, [1, 7]⟩)] [] [],
    .accept [0], .accept [0],
    .writable 2 [.ok 2],
    .wake [] [fA, fB] [(2, [.ok 2, .wouldBlock]), (3, [.ok 1])],
    .writable 2 [.interrupted, .ok 2, .ok 3],
    .wake [] [fB] [(2, []), (3, [.err])],
    .writable 2 [.ok 3] ]

example : ∃ s, initTransport {} (some 2) = some s ∧
    (run s demoEvs).clientCount = 1 ∧ (run s demoEvs).shouldSend = true ∧
    (run s demoEvs).clients.map (fun p => (p.1, p.2.alive, p.2.received, p.2.dropped)) =
      [(2, true, [1, 7, 3, 10, 20, 30, 2, 40, 50, 2, 40, 50], 0), (3, false, [1], 0)] :=
  ⟨_, rfl, by decide +kernel⟩

/-- "no limit" starts and serves -/
example : ∃ s, initTransport {} none = some s ∧
    (run s [.accept [], .wake [] [fA] [(2, [.ok 4])]]).clients.map (·.2.received) = [[3, 10, 20, 30]] :=
  ⟨_, rfl, by decide +kernel⟩

/-- a slow client with `buffer_size = 1`: older whole frames are discarded, the started one is finished -/
example : ∃ s, initTransport {} (some 1) = some s ∧
    (run s [.accept [], .wake [] [fA] [(2, [.ok 1])], .wake [] [fB] [(2, [.wouldBlock, .wouldBlock])],
      .wake [] [fA] [(2, [.wouldBlock, .wouldBlock])], .writable 2 [.ok 3, .ok 4]]).clients.map
        (fun p => (p.2.received, p.2.dropped)) = [([3, 10, 20, 30, 3, 10, 20, 30], 1)] :=
  ⟨_, rfl, by decide +kernel⟩

/-- a client accepted in the same poll round as a fan-out (`buffer_size = 2`, three metadata frames still
    queued, batch of two): the first drive writes the metadata, nothing is discarded, metadata then metrics -/
example : ∃ s, initTransport {} (some 2) = some s ∧
    (run s [.wake [(0, fA), (1, fB), (2, ⟨7, [1, 9]⟩)] [] [], .accept [0, 1, 2],
      .wake [] [⟨8, [1, 8]⟩, ⟨9, [1, 7]⟩] [(2, [.ok 4, .ok 3, .ok 2, .ok 2, .ok 2])]]).clients.map
        (fun p => (p.2.received, p.2.dropped)) = [([3, 10, 20, 30, 2, 40, 50, 1, 9, 1, 8, 1, 7], 0)] :=
  ⟨_, rfl, by decide +kernel⟩

/-- … whereas a client whose socket refuses in that fan-out (a parked buffer) does lose its oldest queued frames -/
example : ∃ s, initTransport {} (some 2) = some s ∧
    (run s [.wake [(0, fA), (1, fB), (2, ⟨7, [1, 9]⟩)] [] [], .accept [0, 1, 2],
      .wake [] [⟨8, [1, 8]⟩, ⟨9, [1, 7]⟩] [(2, [.ok 4, .wouldBlock, .wouldBlock])]]).clients.map
        (fun p => (p.2.received, p.2.wbuf, p.2.msgs.map (·.id), p.2.dropped)) =
      [([3, 10, 20, 30], some [2, 40, 50], [8, 9], 1)] :=
  ⟨_, rfl, by decide +kernel⟩

/-! ### the producer side: emitters, channel, waker, read loop (`Model/TcpProd.lean`)

Clause "every metric emitted at a rate within the configured buffer is delivered …": what links an emission
(`Handle::increment` → `State::push_metric`) to a batch of the fan-out.  All theorems are for ALL schedules of
ANY number of emitting threads against the transport thread, at the granularity of one shared-memory operation
(gate load / `try_send` / `wake` / poll return / one `try_recv`), by induction over the schedule
(`TcpProd.run_inv`). -/

/-- the system as the code has it: `push_metric` sends, then wakes -/
abbrev prodInit (cap : Option Nat) (gate : Bool) (progs : List (List Nat)) : TcpProd.Sys :=
  TcpProd.init .sendThenWake cap gate progs

/-- **no lost wake-up.** In every reachable state a non-empty channel is covered: a wake-up is pending, or the
    transport thread is still inside its read loop (it will look at the channel again before it polls), or
    some emitter has enqueued and is about to call `wake()`. -/
theorem producer_no_lost_wakeup (cap : Option Nat) (gate : Bool) (progs : List (List Nat))
    (sched : List TcpProd.Tid) :
    let s := TcpProd.run (prodInit cap gate progs) sched
    s.chan ≠ [] → s.wakePending = true ∨ s.tpc = .loop ∨ ∃ i, (s.ems i).pc = .wake :=
  (TcpProd.run_inv _ sched (TcpProd.init_inv cap gate progs)).covered

/-- … hence the system is never stuck with an event in the channel: some thread can move. -/
theorem producer_never_stuck (cap : Option Nat) (gate : Bool) (progs : List (List Nat))
    (sched : List TcpProd.Tid) :
    (TcpProd.run (prodInit cap gate progs) sched).chan ≠ [] →
      ∃ tid, TcpProd.enabled (TcpProd.run (prodInit cap gate progs) sched) tid = true := by
  intro hne
  rcases producer_no_lost_wakeup cap gate progs sched hne with hw | hl | ⟨i, hi⟩
  · exact ⟨.t, by simp [TcpProd.enabled, hw]⟩
  · exact ⟨.t, by simp [TcpProd.enabled, hl]⟩
  · exact ⟨.em i, by simp [TcpProd.enabled, hi]⟩

/-- **channel to batch: nothing lost, FIFO.** What the channel accepted is, in order, what was handed to the
    fan-out, then what the read loop holds, then what is still queued. -/
theorem accepted_is_delivered_buffered_queued (cap : Option Nat) (gate : Bool) (progs : List (List Nat))
    (sched : List TcpProd.Tid) :
    let s := TcpProd.run (prodInit cap gate progs) sched
    s.accepted = s.delivered ++ s.buffered ++ s.chan :=
  (TcpProd.run_inv _ sched (TcpProd.init_inv cap gate progs)).conserved

/-- **every accepted emission reaches a batch.** When nothing can move any more — every emitter has returned,
    the transport thread is blocked in `poll` and no wake-up is pending — the channel and the read loop are
    empty and everything the channel ever accepted has been handed to the fan-out, in channel order. -/
theorem quiescent_all_delivered (cap : Option Nat) (gate : Bool) (progs : List (List Nat))
    (sched : List TcpProd.Tid) :
    let s := TcpProd.run (prodInit cap gate progs) sched
    (∀ i, (s.ems i).pc = .done) → s.tpc = .idle → s.wakePending = false →
    s.chan = [] ∧ s.buffered = [] ∧ s.delivered = s.accepted := by
  intro s hdone hidle hwp
  have hinv := TcpProd.run_inv _ sched (TcpProd.init_inv cap gate progs)
  have hch : s.chan = [] := by
    apply Classical.byContradiction
    intro hne
    rcases hinv.covered hne with hw | hl | ⟨i, hi⟩
    · rw [hwp] at hw; cases hw
    · rw [hidle] at hl; cases hl
    · rw [hdone i] at hi; cases hi
  have hb : s.buffered = [] := hinv.idleEmpty hidle
  refine ⟨hch, hb, ?_⟩
  have hc : s.accepted = s.delivered ++ s.buffered ++ s.chan := hinv.conserved
  rw [hc, hb, hch]; simp

/-- **within the buffer = accepted.** `try_send` takes the metric whenever the channel holds fewer than
    `buffer_size` events (always, without a limit): an emission is only ever dropped on the producer side when
    the channel is full, which is the documented back-pressure rule. -/
theorem send_accepted_within_buffer (s : TcpProd.Sys) (id : Nat)
    (h : s.cap = none ∨ ∃ n, s.cap = some n ∧ s.chan.length < n) :
    (s.trySend id).chan = s.chan ++ [id] ∧ (s.trySend id).accepted = s.accepted ++ [id] := by
  rw [TcpProd.trySend_of_room (TcpProd.room_of h)]
  exact ⟨rfl, rfl⟩

/-- a closed gate (no client connected) means the emitter neither enqueues nor wakes: its call returns -/
theorem closed_gate_emits_nothing (s : TcpProd.Sys) (i : Nat) (hg : s.gate = false) :
    (TcpProd.emGate s i).chan = s.chan ∧ (TcpProd.emGate s i).wakePending = s.wakePending ∧
    (TcpProd.emGate s i).ems i = (s.ems i).next := by
  simp [TcpProd.emGate, hg, TcpProd.Sys.setEm]

/-- **the full clause "serves for every buffer configuration" is false of the code: `Some(0)`.**
    With `buffer_size(Some(0))` (zero-capacity channel, zero batch limit) no emission is ever accepted and no
    batch is ever non-empty, for every schedule, every number of emitters and an open gate … -/
theorem zero_buffer_never_delivers (shape : TcpProd.Shape) (gate : Bool) (progs : List (List Nat))
    (sched : List TcpProd.Tid) :
    (TcpProd.run (TcpProd.init shape (some 0) gate progs) sched).accepted = [] ∧
    (TcpProd.run (TcpProd.init shape (some 0) gate progs) sched).delivered = [] := by
  have h := TcpProd.run_zero (TcpProd.init shape (some 0) gate progs) sched ⟨rfl, rfl, rfl, rfl, rfl⟩
  exact ⟨h.2.2.1, h.2.2.2.2⟩

/-- … and from its first wake-up on the transport thread never blocks again: each pass through the `WAKER`
    branch re-arms the waker (`buffered_pmsgs.len() >= 0`), a busy loop. -/
theorem zero_buffer_spins (shape : TcpProd.Shape) (gate : Bool) (progs : List (List Nat))
    (pre post : List TcpProd.Tid)
    (h : TcpProd.Spinning (TcpProd.run (TcpProd.init shape (some 0) gate progs) pre)) :
    TcpProd.Spinning (TcpProd.run (TcpProd.run (TcpProd.init shape (some 0) gate progs) pre) post) := by
  have hz := TcpProd.run_zero (TcpProd.init shape (some 0) gate progs) pre ⟨rfl, rfl, rfl, rfl, rfl⟩
  generalize TcpProd.run (TcpProd.init shape (some 0) gate progs) pre = s at h hz
  induction post generalizing s with
  | nil => exact h
  | cons t' ts ih => exact ih _ (TcpProd.step_spinning s t' hz h) (TcpProd.step_zero s t' hz)

/-- concrete witness: one emitter, open gate, `Some(0)`: after the emission and any number of transport
    passes nothing was delivered and the transport is still runnable -/
theorem zero_buffer_witness :
    let s := TcpProd.run (TcpProd.init .sendThenWake (some 0) true [[7]])
      [.em 0, .em 0, .em 0, .t, .t, .t, .t]
    s.delivered = [] ∧ s.accepted = [] ∧ (s.ems 0).pc = .done ∧ TcpProd.enabled s .t = true := by decide +kernel

/-- the provable part of "starts and serves for every buffer configuration": for `None` and every
    `Some(n)`, `n ≥ 1`, an emission made while the channel has room is accepted, and by
    `quiescent_all_delivered` reaches a batch. -/
theorem serves_for_all_configs_partial (s : TcpProd.Sys) (id : Nat)
    (h : s.cap = none ∨ ∃ n, s.cap = some (n + 1)) (hempty : s.chan = []) :
    id ∈ (s.trySend id).accepted := by
  have := (send_accepted_within_buffer s id (by
    rcases h with h | ⟨n, h⟩
    · exact Or.inl h
    · exact Or.inr ⟨n + 1, h, by rw [hempty]; simp⟩)).2
  rw [this]; simp

/-- **every emission within the configured buffer is accepted, at any depth.** Starting from a channel that holds
    `q` events, `k` emissions in a row (the transport thread not running at all in between) are ALL taken by the
    channel as long as `q + k ≤ buffer_size` (always, without a limit), in order. -/
theorem within_buffer_all_accepted (ids : List Nat) (s : TcpProd.Sys)
    (h : s.cap = none ∨ ∃ n, s.cap = some n ∧ s.chan.length + ids.length ≤ n) :
    (TcpProd.sendAll s ids).chan = s.chan ++ ids ∧ (TcpProd.sendAll s ids).accepted = s.accepted ++ ids := by
  rw [TcpProd.sendAll_of_room ids s h]
  exact ⟨rfl, rfl⟩

/-- … and an emission that meets a channel holding `buffer_size` events changes nothing (dropped, the documented
    back-pressure rule): the bound of `within_buffer_all_accepted` is exact. -/
theorem full_channel_drops (s : TcpProd.Sys) (n id : Nat) (hc : s.cap = some n) (hf : n ≤ s.chan.length) :
    s.trySend id = s := by
  have : s.room = false := by rw [TcpProd.Sys.room, hc]; exact decide_eq_false (Nat.not_lt.2 hf)
  exact if_neg (by rw [this]; exact Bool.false_ne_true)

/-- `k` iterations of the read loop take exactly the `k` oldest events, as long as the channel has them and the
    batch stays within `buffer_limit` -/
theorem read_loop_takes (k : Nat) (s : TcpProd.Sys) (hloop : s.tpc = .loop) (hk : k ≤ s.chan.length)
    (hl : s.buffered.length + k ≤ s.limit) :
    (TcpProd.tSteps k s).chan = s.chan.drop k ∧ (TcpProd.tSteps k s).buffered = s.buffered ++ s.chan.take k ∧
    (TcpProd.tSteps k s).tpc = .loop ∧ (TcpProd.tSteps k s).cap = s.cap ∧
    (TcpProd.tSteps k s).delivered = s.delivered ∧ (TcpProd.tSteps k s).wakePending = s.wakePending := by
  rw [TcpProd.tSteps_loop k s hloop hk hl]
  exact ⟨rfl, rfl, hloop, rfl, rfl, rfl⟩

/-- **one wake-up ingests min(queue, buffer_limit) events, whatever the depth.** Entering the read loop with an
    empty batch and `q` events in the channel, the transport fans out exactly the `min q buffer_limit` oldest
    events as ONE batch, leaves the others in the channel, and re-arms its own waker exactly when it stopped at
    the limit (`q ≥ buffer_limit`). No smaller hidden limit cuts a batch; no event within the limit waits for a
    later wake-up. -/
theorem read_loop_batch (s : TcpProd.Sys) (hloop : s.tpc = .loop) (hb : s.buffered = []) :
    let k := min s.chan.length s.limit
    (TcpProd.tSteps (k + 1) s).delivered = s.delivered ++ s.chan.take k ∧
    (TcpProd.tSteps (k + 1) s).chan = s.chan.drop k ∧
    (TcpProd.tSteps (k + 1) s).tpc = .idle ∧
    (TcpProd.tSteps (k + 1) s).buffered = [] ∧
    (TcpProd.tSteps (k + 1) s).wakePending = (s.wakePending || decide (s.limit ≤ s.chan.length)) := by
  intro k
  have hk : k ≤ s.limit := Nat.min_le_right _ _
  -- `k` iterations fill the batch with the `k` oldest events; what the next one does depends on which bound `k` is
  rw [TcpProd.tSteps_succ, TcpProd.tSteps_loop k s hloop (Nat.min_le_left _ _) (by rw [hb]; exact (Nat.zero_add k).symm ▸ hk),
    hb, List.nil_append]
  simp only [TcpProd.tStep, hloop]
  have hlen : (s.chan.take k).length = k := List.length_take_of_le (Nat.min_le_left _ _)
  by_cases hfull : s.limit ≤ s.chan.length
  · rw [TcpProd.tLoop_full (by show s.limit ≤ (s.chan.take k).length; rw [hlen]; exact Nat.le_of_eq (Nat.min_eq_right hfull).symm),
      decide_eq_true hfull, Bool.or_true]
    exact ⟨rfl, rfl, rfl, rfl, rfl⟩
  · have hkl : k = s.chan.length := Nat.min_eq_left (Nat.le_of_lt (Nat.lt_of_not_le hfull))
    rw [TcpProd.tLoop_empty (by show (s.chan.take k).length < s.limit; rw [hlen, hkl]; exact Nat.lt_of_not_le hfull)
        (by show s.chan.drop k = []; rw [hkl]; exact List.drop_length),
      decide_eq_false hfull, Bool.or_false]
    exact ⟨rfl, rfl, rfl, rfl, rfl⟩

/-- the number the fan-out uses for each client's queue, the number the read loop stops at and the capacity of
    the channel are ONE configuration value: the transport model's `limit`, the producer model's `limit` / `cap`
    and `plumb` agree for every `buffer_size`; the builder's default is 1024 for all three, and the exporter
    starts with it. -/
theorem capacity_plumbing (bs : Option Nat) (s : State) (h : initTransport {} bs = some s)
    (shape : TcpProd.Shape) (gate : Bool) (progs : List (List Nat)) :
    s.limit = (plumb bs).clientLimit ∧ s.limit = (plumb bs).batchLimit ∧
    (TcpProd.init shape bs gate progs).limit = (plumb bs).batchLimit ∧
    (TcpProd.init shape bs gate progs).cap = (plumb bs).chanCap := by
  have e := init_eq {} bs s h
  subst e
  exact ⟨rfl, rfl, rfl, rfl⟩

theorem default_config_is_1024 :
    plumb defaultBufferSize = ⟨some 1024, 1024, 1024⟩ ∧ (initTransport {} defaultBufferSize).isSome = true := by
  decide +kernel

/-- non-vacuity: five queued events, `buffer_size` 3: one wake-up fans out `[1, 2, 3]`, leaves `[4, 5]` and re-arms
    the waker; a sixth emission into a full channel of 3 is dropped, three into an empty one are all taken -/
example :
    (TcpProd.tSteps 4 { cap := some 3, tpc := .loop, chan := [1, 2, 3, 4, 5] }).delivered = [1, 2, 3] ∧
    (TcpProd.tSteps 4 { cap := some 3, tpc := .loop, chan := [1, 2, 3, 4, 5] }).chan = [4, 5] ∧
    (TcpProd.tSteps 4 { cap := some 3, tpc := .loop, chan := [1, 2, 3, 4, 5] }).wakePending = true ∧
    (TcpProd.sendAll { cap := some 3 } [7, 8, 9, 10]).chan = [7, 8, 9] := by decide +kernel

/-! #### the two other orders of the producer's operations lose wake-ups (witnesses; NOT the code) -/

/-- `let w = tx.is_empty(); try_send(..); if w { wake() }` (wake only if the channel was empty, `seeded/C11-2`):
    emitter 1 samples a non-empty channel, the transport drains it and goes back to `poll`, emitter 1 enqueues
    without waking: metric 2 sits in the channel and nothing can move. -/
theorem wake_if_was_empty_loses_wakeup :
    let s := TcpProd.run (TcpProd.init .wakeIfWasEmpty (some 1024) true [[1], [2]])
      [.em 0, .em 0, .em 0, .t, .em 1, .t, .t, .em 1]
    s.chan = [2] ∧ s.delivered = [1] ∧ (s.ems 0).pc = .done ∧ (s.ems 1).pc = .done ∧
    s.tpc = .idle ∧ s.wakePending = false := by decide +kernel

/-- `wake(); try_send(..)`: the transport handles the wake-up before the event is enqueued -/
theorem wake_before_send_loses_wakeup :
    let s := TcpProd.run (TcpProd.init .wakeThenSend (some 1024) true [[1]])
      [.em 0, .em 0, .t, .t, .em 0]
    s.chan = [1] ∧ s.delivered = [] ∧ (s.ems 0).pc = .done ∧ s.tpc = .idle ∧ s.wakePending = false := by
  decide +kernel

/-- non-vacuity: two emitters and the transport interleaved, everything delivered in channel order -/
example :
    let s := TcpProd.run (prodInit (some 2) true [[1, 3], [2]])
      [.em 0, .em 1, .em 1, .em 0, .em 1, .t, .t, .em 0, .em 0, .em 0, .em 0, .t, .t, .t, .t, .t, .t]
    s.delivered = [2, 1, 3] ∧ s.chan = [] ∧ s.wakePending = false ∧ s.tpc = .idle := by decide +kernel

/-! ### source facts (tools/extract.py → Generated/SourceFacts.lean): what a run cannot observe -/

/-- `State::push_metric` is `if should_send() { try_send(..); wake() }`: the model's shape is the code's -/
theorem src_push_metric_shape :
    TcpProd.shapeOf Generated.tcp_push_metric_calls Generated.tcp_push_metric_ifs = some .sendThenWake :=
  rfl

/-- `State::register_metric` (describe_*) enqueues and wakes unconditionally -/
theorem src_register_metric_wakes :
    Generated.tcp_register_metric_calls = ["try_send", "wake"] ∧ Generated.tcp_register_metric_ifs = 0 :=
  ⟨rfl, rfl⟩

/-- `register_*` never consult the gate and `Handle::new` stores nothing but key and state: a handle that
    outlives a gate transition keeps working (the gate is read per emission, in `push_metric`) -/
theorem src_handles_ignore_gate :
    Generated.tcp_register_handle_calls =
      [("register_counter", "from_arc Handle::new"), ("register_gauge", "from_arc Handle::new"),
       ("register_histogram", "from_arc Handle::new")] ∧
    Generated.tcp_handle_new_body = "{ Handle { key, state } }" :=
  ⟨rfl, rfl⟩

/-- orderings of the gate: load Acquire; fetch_add AcqRel then store(true) Release; fetch_sub AcqRel then
    store(false) Release when the old count was 1 -/
theorem src_gate_orderings :
    Generated.tcp_gate_orderings = ["Acquire", "AcqRel", "Release", "AcqRel", "Release"] ∧
    Generated.tcp_decrement_test = "count == 1" :=
  ⟨rfl, rfl⟩

/-- the write path compiled WITHOUT the verification cfg is a single `conn.write(buf)` (the hook's `verif::write`
    stands for exactly this call), and `drive_connection` writes only through it -/
theorem src_production_write_is_single_write :
    Generated.tcp_write_to_client_prod = "{ conn.write(buf) }" ∧
    Generated.tcp_drive_write_calls = ["write_to_client"] :=
  ⟨rfl, rfl⟩

/-- the per-client branch of the event loop acts on WRITABLE only: it never reads from a client and does not
    look at read-closed / error readiness (a half-closed or talking client keeps being served) -/
theorem src_client_branch_writes_only :
    Generated.tcp_client_event_calls = ["is_writable", "drive_connection", "decrement_clients"] ∧
    Generated.tcp_client_interest = "Interest::READABLE.add(Interest::WRITABLE)" :=
  ⟨rfl, rfl⟩

/-- the accept loop takes a fresh token inside the loop for every connection and only leaves on WouldBlock
    (`break`); EINTR asks again (`continue`) and any other accept error leaves the accept loop only (`break`, since fix), never the transport thread -/
theorem src_accept_loop :
    Generated.tcp_accept_loop_tokens =
      ["loop", "accept", "next", "register", "register", "increment_clients", "insert", "break", "continue", "break"] :=
  rfl

/-- the fan-out loop is `drive; if done { push; continue }; available = limit - len (or 0); to_drain =
    batch.saturating_sub(available); drain(0..to_drain); extend(batch.take(limit)); drive; if done { push }`:
    the drive BEFORE the drop-oldest computation is unconditional (the model's `wakeClient`), so
    `drop_only_after_refusal` speaks about the code -/
theorem src_fanout_shape :
    Generated.tcp_fanout_tokens =
      ["drive_connection", "if", "push", "continue", "if", "else", "saturating_sub", "drain", "extend",
       "drive_connection", "if", "push"] ∧
    Generated.tcp_fanout_available = "if msgs.len() < buffer_limit { buffer_limit - msgs.len() } else { 0 }" ∧
    Generated.tcp_fanout_to_drain = "buffered_pmsgs.len().saturating_sub(available)" ∧
    Generated.tcp_fanout_drain_extend =
      ["msgs.drain(0..to_drain)", "msgs.extend(buffered_pmsgs.iter().take(buffer_limit).cloned())"] :=
  ⟨rfl, rfl, rfl, rfl⟩

/-- the arms of `drive_connection`'s `match write_to_client(..)` are the model's `drive`: `Ok(0)` and other errors
    remove the client; a short write parks the remainder and returns; `WouldBlock` parks the buffer and returns;
    `Interrupted` puts the buffer back and goes round the loop AGAIN (`continue`, the model's recursive call:
    `interrupted_is_transparent`) -- it does not return with the frame parked, for which no WRITABLE edge would
    ever be reported; and the two predicates test exactly the two error kinds -/
theorem src_drive_arms :
    Generated.tcp_drive_arms =
      [("Ok(0)", "return true"), ("Ok(n) if n < buf.len()", "replace(remaining) return false"),
       ("Ok(_)", "continue"), ("Err(ref e) if would_block(e)", "replace(buf) return false"),
       ("Err(ref e) if interrupted(e)", "replace(buf) continue"), ("Err(e)", "return true")] ∧
    Generated.tcp_would_block_body = "{ err.kind() == io::ErrorKind::WouldBlock }" ∧
    Generated.tcp_interrupted_body = "{ err.kind() == io::ErrorKind::Interrupted }" :=
  ⟨rfl, rfl, rfl⟩

/-- **capacity plumbing**: the builder's default is `Some(1024)` and `Default` forwards to `new()`;
    `buffer_size(..)` stores its argument; `build` hands the SAME value to the channel (`bounded(size)` /
    `unbounded()`) and to `run_transport`; there `buffer_limit = buffer_size.unwrap_or(usize::MAX)` is bound once
    and neither name is ever assigned again; the read loop stops at `buffered_pmsgs.len() >= buffer_limit`, wakes
    itself and breaks, otherwise `try_recv`s, breaks on empty, returns on disconnect.  These are `Tcp.plumb`,
    `Tcp.defaultBufferSize` and `TcpProd.tLoop` (deep race cases reach the numbers at run time). -/
theorem src_capacity_plumbing :
    Generated.tcp_builder_new_buffer = "Some(1024)" ∧
    Generated.tcp_builder_default_body = "{ TcpBuilder::new() }" ∧
    Generated.tcp_builder_buffer_size_stmts = ["self.buffer_size = size"] ∧
    Generated.tcp_build_buffer_binding = ["self.buffer_size"] ∧
    Generated.tcp_build_channel_arms = [("None", "unbounded()"), ("Some(size)", "bounded(size)")] ∧
    Generated.tcp_build_spawn_call = "run_transport(poll, listener, rx, state, buffer_size)" ∧
    Generated.tcp_transport_limit_bindings = ["let buffer_limit = buffer_size.unwrap_or(std::usize::MAX)"] ∧
    Generated.tcp_transport_limit_assigns = 0 ∧
    Generated.tcp_transport_prealloc = "buffer_size.map_or_else(VecDeque::new, VecDeque::with_capacity)" ∧
    Generated.tcp_read_loop_guard = "buffered_pmsgs.len() >= buffer_limit" ∧
    Generated.tcp_read_loop_tokens =
      ["if", "wake", "break", "try_recv", "if", "is_empty", "break", "return", "push_back"] :=
  ⟨rfl, rfl, rfl, rfl, rfl, rfl, rfl, rfl, rfl, rfl, rfl⟩

/-- `Handle` implements exactly the required methods of the three handle traits, each one a single
    `push_metric` with its own operation; the provided method `HistogramFn::record_many` is NOT overridden, so it
    is the trait's loop of `record` calls: `n` emissions, `n` frames (the harness calls it; a one-frame-per-batch
    override would change this fact and lose `n - 1` frames at run time) -/
theorem src_handle_methods :
    Generated.tcp_handle_methods =
      [("CounterFn::increment", "{ self.state.push_metric(&self.key, MetricOperation::IncrementCounter(value)) }"),
       ("CounterFn::absolute", "{ self.state.push_metric(&self.key, MetricOperation::SetCounter(value)) }"),
       ("GaugeFn::increment", "{ self.state.push_metric(&self.key, MetricOperation::IncrementGauge(value)) }"),
       ("GaugeFn::decrement", "{ self.state.push_metric(&self.key, MetricOperation::DecrementGauge(value)) }"),
       ("GaugeFn::set", "{ self.state.push_metric(&self.key, MetricOperation::SetGauge(value)) }"),
       ("HistogramFn::record", "{ self.state.push_metric(&self.key, MetricOperation::RecordHistogram(value)) }")] :=
  rfl

/-- the removal loop that ends the `WAKER` branch counts a client out only if it is still in the table
    (`if let Some(..) = clients.get_mut(&token)`), removes it and decrements once: the model's `removedCount` /
    `decN` of `wakeFull` (a token pushed twice by the two drives of one fan-out is counted once) -/
theorem src_removal_loop :
    Generated.tcp_removal_loop_tokens = ["if", "get_mut", "remove", "decrement_clients"] :=
  rfl

/-- every metric frame gets its own `SystemTime::now()` -/
theorem src_timestamp_per_metric :
    Generated.tcp_metric_timestamp_calls = ["now", "encode_length_delimited"] :=
  rfl

end MetricsVerif.C11
