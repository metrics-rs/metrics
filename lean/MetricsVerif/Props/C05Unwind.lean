import MetricsVerif.Model.BucketUnwind
import MetricsVerif.Proofs.BucketClients
/-
C05, clause "every value pushed is handed to exactly one clearing read, or else stays visible … no value is lost" —
when the callback of a clearing read UNWINDS.

The full clause is FALSE of the code for such callbacks: `unwinding_callback_loses_rest_of_chain` (a witness, replayed on
the real `AtomicBucket` by the harness stream "unwind": same results, same visible set, same orphaned values;
known finding K-C05-unwind).  What does hold, for every state and every thread (`…_partial`): the unwind changes no shared
state — nothing becomes visible twice, nothing visible disappears —, the call's result is exactly what its callbacks had
been handed, and the values left behind are exactly the rest of the detached chain behind the block whose callback unwound.
-/
namespace MetricsVerif.C05
open MetricsVerif MetricsVerif.Bucket

/-- An unwinding callback changes NO shared state of the bucket: not the tail (nothing is re-attached), not a block (nothing
    is retired, nothing marked), not the block size.  Only the unwinding thread changes. -/
theorem unwind_changes_no_shared_state (s : Sys) (tid : Nat) :
    (unwindStep s tid).blocks = s.blocks ∧ (unwindStep s tid).tail = s.tail ∧ (unwindStep s tid).B = s.B := by
  unfold unwindStep
  cases s.threads[tid]? <;> simp

/-- `…_partial`, visibility: what a snapshot would see is the same before and after the unwind — the values still in the
    bucket stay visible, and NONE of the detached ones comes back (the code has no "restore on unwind"). -/
theorem unwind_visible_unchanged_partial (s : Sys) (tid : Nat) : visible (unwindStep s tid) = visible s := by
  have h := unwind_changes_no_shared_state s tid
  exact visible_congr h.1 h.2.1

/-- `…_partial`, delivery: the unwound call's result is exactly what its callbacks had been handed — every block up to and
    including the one whose callback unwound, nothing else; the thread goes on with its next call. -/
theorem unwind_result_is_what_callbacks_saw_partial (t : Thread) (blk : Nat) (h : t.pc = .cNext blk) :
    (unwindThread t).results = t.results ++ [.cleared t.acc]
    ∧ (unwindThread t).calls = t.calls.tail ∧ (unwindThread t).pc = startPC t.calls.tail := by
  simp [unwindThread, h, Thread.advance]

/-- The unwinding call returns exactly what the NORMAL end of a walk returns (`cNext` on a block without successor): the
    code treats the unwind as if the chain had ended at the block whose callback unwound — the rest is simply dropped. -/
theorem unwind_is_walk_cut_short (s : Sys) (t : Thread) (blk : Nat) (h : t.pc = .cNext blk)
    (hn : (getBlock s blk).next = none) : (stepThread s t).2 = unwindThread t := by
  simp [stepThread, unwindThread, h, hn]

/-- No callback running, nothing to unwind: `unwindStep` is the identity on threads that are not right behind a
    `clear_with` callback. -/
theorem unwind_only_behind_a_clear_callback (t : Thread) (h : ∀ blk, t.pc ≠ .cNext blk) : unwindThread t = t := by
  unfold unwindThread
  cases hp : t.pc <;> simp_all

/-- WITNESS (block size 2 keeps the kernel evaluation small; the harness replays the shape with 64): five pushes have
    COMPLETED — blocks [1,2], [3,4], [5] —, then a `clear_with` detaches the chain and its callback unwinds on the first
    (newest) block.  Afterwards: the call has been handed [5]; the bucket is empty for every later reader (the thread's own
    snapshot and its second clear get nothing); the four values of the two older blocks are neither delivered nor visible —
    lost, although no pusher raced with the clear (no K1 step: every push had completed before the clear began). -/
theorem unwinding_callback_loses_rest_of_chain :
    let s0 := init 2 [[.push 1, .push 2, .push 3, .push 4, .push 5], [.clear, .data, .clear]]
    let sched : List (Nat × Bool) :=
      (List.replicate 21 (0, false)) ++ [(1, false), (1, false), (1, false), (1, false), (1, true)]
        ++ List.replicate 3 (1, false)
    let s := runMarked s0 sched
    quiescent s = true
    ∧ completedPushes s = 5
    ∧ delivered s = [5]
    ∧ visible s = []
    ∧ (s.threads.map (·.results))[1]? = some [.cleared [5], .snapshot [], .cleared []]
    ∧ orphansOfRun s0 sched = [3, 4, 1, 2] := by decide +kernel

/-- The conservation clause of C05 — every completed push is delivered to a clearing read or visible — does NOT extend to
    clearing reads whose callback unwinds, even without any concurrency between pushers and the clear. -/
theorem conservation_fails_with_unwinding_callback :
    ∃ (B : Nat) (progs : List (List Call)) (sched : List (Nat × Bool)),
      quiescent (runMarked (init B progs) sched) = true
      ∧ (delivered (runMarked (init B progs) sched)).length + (visible (runMarked (init B progs) sched)).length
          < completedPushes (runMarked (init B progs) sched) :=
  ⟨2, [[.push 1, .push 2, .push 3, .push 4, .push 5], [.clear, .data, .clear]],
   (List.replicate 21 (0, false)) ++ [(1, false), (1, false), (1, false), (1, false), (1, true)]
        ++ List.replicate 3 (1, false), by decide +kernel⟩

/-- Without marked grants `runMarked` IS `run`: every theorem of Props/C05.lean about `run` speaks about the unmarked
    schedules of this machine. -/
theorem runMarked_unmarked (s : Sys) (sched : List Nat) : runMarked s (sched.map (·, false)) = run s sched := by
  induction sched generalizing s with
  | nil => simp [runMarked, run]
  | cons a r ih => simp [runMarked, run, List.foldl] at *; exact ih (step s a)

end MetricsVerif.C05
