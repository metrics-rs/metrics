/-
Helper lemmas for C18 (Model/Allowlist.lean): the interval test of `contains` is a comparison of quotients by
the block size; quotients by nested block sizes; `peerMatches` and `checkAllowed` without their `match`es.
-/
import MetricsVerif.Model.Allowlist

namespace MetricsVerif.Allowlist

theorem Net.size_pos (n : Net) : 0 < n.size := Nat.two_pow_pos _

/-- `q·H ≤ a ≤ q·H + (H − 1)` says exactly that `a` has quotient `q` by `H` -/
theorem block_iff {H : Nat} (hH : 0 < H) (a q : Nat) :
    (q * H ≤ a ∧ a ≤ q * H + (H - 1)) ↔ a / H = q := by
  rw [Nat.div_eq_iff hH, Nat.add_sub_assoc hH]

/-- `contains` as a proposition, as the code performs it -/
theorem contains_iff_interval (n : Net) (a : Addr) :
    contains n a = true ↔ n.fam = a.fam ∧ n.network ≤ a.bits ∧ a.bits ≤ n.broadcast := by
  simp only [contains, Bool.and_eq_true, beq_iff_eq, decide_eq_true_eq]

/-- same family, and the address has the same quotient by the block size as the entry's written address -/
theorem contains_eq_true_iff (n : Net) (a : Addr) :
    contains n a = true ↔ n.fam = a.fam ∧ a.bits / n.size = n.bits / n.size := by
  rw [contains_iff_interval, Net.broadcast, Net.network, block_iff n.size_pos]

theorem contains_eq_false_iff (n : Net) (a : Addr) :
    contains n a = false ↔ ¬ (n.fam = a.fam ∧ a.bits / n.size = n.bits / n.size) := by
  rw [← contains_eq_true_iff, Bool.not_eq_true]

theorem div_two_pow_of_le {j k : Nat} (h : j ≤ k) (x : Nat) : x / 2 ^ k = x / 2 ^ j / 2 ^ (k - j) := by
  rw [Nat.div_div_eq_div_mul, ← Nat.pow_add, Nat.add_sub_cancel' h]

/-- `m·k + x` with `x < k` splits back into `m` and `x` (an address and the prefix put in front of it) -/
theorem mul_add_div_mod {k x : Nat} (m : Nat) (hx : x < k) : (m * k + x) / k = m ∧ (m * k + x) % k = x := by
  rw [Nat.add_comm, Nat.add_mul_div_right _ _ (Nat.zero_lt_of_lt hx), Nat.add_mul_mod_self_right,
    Nat.div_eq_of_lt hx, Nat.mod_eq_of_lt hx, Nat.zero_add]
  exact ⟨rfl, rfl⟩

theorem peerMatches_eq_true_iff (n : Net) (p : Addr) :
    peerMatches n p = true ↔ contains n p = true ∨ ∃ p4, v4Mapped p = some p4 ∧ contains n p4 = true := by
  unfold peerMatches
  cases v4Mapped p <;> simp

theorem peerMatches_of_unmapped {p : Addr} (h : v4Mapped p = none) (n : Net) :
    peerMatches n p = contains n p := by
  rw [peerMatches, h, Bool.or_false]

theorem peerMatches_of_mapped {p p4 : Addr} (h : v4Mapped p = some p4) (n : Net) :
    peerMatches n p = (contains n p || contains n p4) := by
  rw [peerMatches, h]

theorem checkAllowed_some_iff (nets : List Net) (p : Addr) :
    checkAllowed (some nets) p = true ↔ ∃ n, n ∈ nets ∧ peerMatches n p = true :=
  List.any_eq_true

theorem checkAllowed_eq_false {nets : List Net} {p : Addr} (h : ∀ n, n ∈ nets → peerMatches n p = false) :
    checkAllowed (some nets) p = false :=
  List.any_eq_false.2 fun n hn => by rw [h n hn]; exact Bool.false_ne_true

end MetricsVerif.Allowlist
