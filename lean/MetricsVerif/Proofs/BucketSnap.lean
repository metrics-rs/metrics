/-
C05: what one step of the bucket machine (`Proofs/Bucket.lean`: `Eff`) means for any one block (`BlkStep`) and for
the links between blocks.  The later layers argue from these facts instead of unfolding `stepThread`:
`Block::data` only grows, as a prefix; published values are never un-published; claim counters only grow; links of
existing blocks never change; a quiesced block's `data()` is all of its claimed slots; and the two facts about
threads that every layer needs (a thread without `clear` in its program never stands in `clear_with`; a finished
thread has no calls left).  `stepThread` at the pcs of `data_with`, `clear_with` and `is_empty` is also given as
equations, for the proofs that follow one reader through its call.
-/
import MetricsVerif.Proofs.BucketClear

namespace MetricsVerif.Bucket

section
variable {s : Sys} {t : Thread}

theorem stepThread_at_start (h : t.pc = .start) : stepThread s t = (s, { t with pc := startPC t.calls }) := by
  unfold stepThread; rw [h]

theorem stepThread_at_done (h : t.pc = .done) : stepThread s t = (s, t) := by
  unfold stepThread; rw [h]

theorem stepThread_at_dLoadTail (h : t.pc = .dLoadTail) :
    stepThread s t = (s, match s.tail with
      | none => t.advance (.snapshot t.acc)
      | some b => { t with pc := .dQuiesced b }) := by
  unfold stepThread; rw [h]; cases s.tail <;> rfl

theorem stepThread_at_dWait {blk : Nat} (h : t.pc = .dQuiesced blk ∨ t.pc = .dWait blk) :
    stepThread s t = (s, { t with pc := if (getBlock s blk).quiesced s.B then .dRead blk else .dWait blk }) := by
  unfold stepThread; rcases h with h | h <;> rw [h]

theorem stepThread_at_dRead {blk : Nat} (h : t.pc = .dRead blk) :
    stepThread s t = (s, { t with acc := t.acc ++ (getBlock s blk).data, pc := .dNext blk }) := by
  unfold stepThread; rw [h]

theorem stepThread_at_dNext {blk : Nat} (h : t.pc = .dNext blk) :
    stepThread s t = (s, match (getBlock s blk).next with
      | none => t.advance (.snapshot t.acc)
      | some n => { t with pc := .dQuiesced n }) := by
  unfold stepThread; rw [h]; simp only; cases (getBlock s blk).next <;> rfl

theorem stepThread_at_cLoadTail (h : t.pc = .cLoadTail) :
    stepThread s t = (s, match s.tail with
      | none => t.advance (.cleared [])
      | some b => { t with pc := .cCas b }) := by
  unfold stepThread; rw [h]; cases s.tail <;> rfl

theorem stepThread_at_cCas {old : Nat} (h : t.pc = .cCas old) :
    stepThread s t = if s.tail = some old then ({ s with tail := none }, { t with pc := .cQuiesced old })
      else (s, { t with pc := .cLoadTail }) := by
  unfold stepThread; rw [h]

theorem stepThread_at_cWait {blk : Nat} (h : t.pc = .cQuiesced blk ∨ t.pc = .cWait blk) :
    stepThread s t = (s, { t with pc := if (getBlock s blk).quiesced s.B then .cRead blk else .cWait blk }) := by
  unfold stepThread; rcases h with h | h <;> rw [h]

theorem stepThread_at_cRead {blk : Nat} (h : t.pc = .cRead blk) :
    stepThread s t = (s, { t with acc := t.acc ++ (getBlock s blk).data, pc := .cNext blk }) := by
  unfold stepThread; rw [h]

theorem stepThread_at_cNext {blk : Nat} (h : t.pc = .cNext blk) :
    stepThread s t = (s, match (getBlock s blk).next with
      | none => t.advance (.cleared t.acc)
      | some n => { t with pc := .cQuiesced n }) := by
  unfold stepThread; rw [h]; simp only; cases (getBlock s blk).next <;> rfl

theorem stepThread_at_eLoadTail (h : t.pc = .eLoadTail) :
    stepThread s t = (s, match s.tail with
      | none => t.advance (.empty true)
      | some b => { t with pc := .eLen b }) := by
  unfold stepThread; rw [h]; cases s.tail <;> rfl

theorem stepThread_at_eLen {blk : Nat} (h : t.pc = .eLen blk) :
    stepThread s t = (s, t.advance (.empty ((getBlock s blk).write == 0 &&
      match (getBlock s blk).next with | none => true | some n => (getBlock s n).write == 0))) := by
  unfold stepThread; rw [h]; rfl

end

theorem step_getBlock (s : Sys) (tid : Nat) (t : Thread) (hg : s.threads[tid]? = some t) (k : Nat) :
    getBlock (step s tid) k = getBlock (stepThread s t).1 k := by
  rw [step_eq s tid t hg]; rfl

theorem step_B (s : Sys) (tid : Nat) : (step s tid).B = s.B := by
  cases hg : s.threads[tid]? with
  | none => rw [step_none hg]
  | some t => rw [step_eq s tid t hg]

theorem run_append (a b : List Nat) (s : Sys) : run s (a ++ b) = run (run s a) b := by
  simp [run, List.foldl_append]

/-- a schedule in which thread `i` has moved contains a first step of `i`, and `i` is untouched before it -/
theorem first_step_split (i : Nat) (sched : List Nat) : ∀ s, (run s sched).threads[i]? ≠ s.threads[i]? →
    ∃ a b, sched = a ++ i :: b ∧ (run s a).threads[i]? = s.threads[i]? := by
  induction sched with
  | nil => intro s h; exact absurd rfl h
  | cons x xs ih =>
    intro s h
    by_cases hx : x = i
    · exact ⟨[], xs, by rw [hx]; rfl, rfl⟩
    · obtain ⟨a, b, e, ha⟩ := ih (step s x) (by rw [step_other s hx]; exact h)
      exact ⟨x :: a, b, by rw [e]; rfl, by rw [← step_other s hx]; exact ha⟩

/-! ### what one step can do to any one block (cells AND claim counter) -/

/-- block `b` becomes `b'` in one step: nothing happens to its cells (the claim counter stays, or a claim on the full block
    bumps it), or a slot is claimed (counter below `B`; a written cell is appended; `claimHere` says that the stepping
    thread is a pusher at its claim on this block), or one cell is published -/
def BlkStep (B : Nat) (b b' : Block) (claimHere : Prop) : Prop :=
  (b'.cells = b.cells ∧ (b'.write = b.write ∨ (B ≤ b.write ∧ b'.write = b.write + 1)))
  ∨ (claimHere ∧ b.write < B ∧ b'.write = b.write + 1 ∧ ∃ v, b'.cells = b.cells ++ [Cell.written v])
  ∨ (b'.write = b.write ∧ ∃ i, b'.cells = publishCell b.cells i)

theorem BlkStep.same {B : Nat} {b b' : Block} {P : Prop} (h1 : b'.cells = b.cells) (h2 : b'.write = b.write) :
    BlkStep B b b' P := Or.inl ⟨h1, Or.inl h2⟩

theorem blkStep_setBlock (s : Sys) (blk : Nat) (b' : Block) (k : Nat) (P : Prop)
    (h : blk = k → BlkStep s.B (getBlock s blk) b' P) :
    BlkStep s.B (getBlock s k) (getBlock (setBlock s blk b') k) P := by
  rw [getBlock_setBlock]
  split
  · rename_i hc; obtain ⟨rfl, _⟩ := hc; exact h rfl
  · exact BlkStep.same rfl rfl

theorem blkStep_append (s : Sys) (nb : Block) (tl : Option Nat) (k : Nat) (P : Prop)
    (h : nb.cells = [] ∧ nb.write = 0) :
    BlkStep s.B (getBlock s k) (getBlock { s with blocks := s.blocks ++ [nb], tail := tl } k) P := by
  rw [getBlock_append]
  by_cases h1 : k < s.blocks.length
  · simp only [h1, if_true]; exact BlkStep.same rfl rfl
  · have hk : getBlock s k = newBlock := getBlock_of_ge s k (by omega)
    simp only [h1, if_false, hk]
    split
    · exact BlkStep.same (by rw [h.1]; rfl) (by rw [h.2]; rfl)
    · exact BlkStep.same rfl rfl

theorem Eff.blk {s s' : Sys} {t t' : Thread} (h : Eff s t s' t') (k : Nat) :
    BlkStep s.B (getBlock s k) (getBlock s' k) (∃ r, t.pc = .pClaim k r) := by
  cases h with
  | idle | hop | ret | read | detach => exact .same rfl rfl
  | append => exact blkStep_append s _ _ k _ ⟨rfl, rfl⟩
  | claimOk blk r hp hlt =>
    exact blkStep_setBlock _ _ _ _ _ (fun e => Or.inr (Or.inl ⟨⟨r, e ▸ hp⟩, hlt, rfl, _, rfl⟩))
  | claimFull blk r _ _ hlt => exact blkStep_setBlock _ _ _ _ _ (fun _ => Or.inl ⟨rfl, Or.inr ⟨by omega, rfl⟩⟩)
  | publish blk idx => exact blkStep_setBlock _ _ _ _ _ (fun _ => Or.inr (Or.inr ⟨rfl, idx, rfl⟩))

/-- one step of the system, seen from block `k`: unless the stepping thread claims a free slot of `k`, the cells of
    `k` keep their values and the claim counter moves only when the block is already full -/
theorem step_blk (s : Sys) (tid k : Nat) :
    BlkStep s.B (getBlock s k) (getBlock (step s tid) k)
      (∃ t r, s.threads[tid]? = some t ∧ t.pc = .pClaim k r) := by
  cases hg : s.threads[tid]? with
  | none => rw [step_none hg]; exact BlkStep.same rfl rfl
  | some t =>
    rw [step_getBlock s tid t hg]
    rcases (stepThread_eff s t).blk k with h | ⟨⟨r, hr⟩, h⟩ | h
    · exact Or.inl h
    · exact Or.inr (Or.inl ⟨⟨t, r, rfl, hr⟩, h⟩)
    · exact Or.inr (Or.inr h)

theorem BlkStep.cnt_eq {B : Nat} {b b' : Block} {P : Prop} (h : BlkStep B b b' P) (hn : ¬ (P ∧ b.write < B)) (v : Nat) :
    cnt v b' = cnt v b := by
  rcases h with ⟨h, _⟩ | ⟨hp, hw, _⟩ | ⟨_, i, h⟩
  · unfold cnt; rw [h]
  · exact absurd ⟨hp, hw⟩ hn
  · unfold cnt; rw [h, publishCell_vals]

theorem BlkStep.write_le {B : Nat} {b b' : Block} {P : Prop} (h : BlkStep B b b' P) : b.write ≤ b'.write := by
  rcases h with ⟨_, h | ⟨_, h⟩⟩ | ⟨_, _, h, _⟩ | ⟨h, _⟩ <;> omega

theorem takeWhile_prefix_append {α : Type} (p : α → Bool) (l m : List α) :
    l.takeWhile p <+: (l ++ m).takeWhile p := by
  induction l with
  | nil => exact List.nil_prefix
  | cons x xs ih =>
    simp only [List.cons_append, List.takeWhile_cons]
    split
    · exact (List.prefix_cons_inj x).mpr ih
    · exact List.nil_prefix

theorem takeWhile_prefix_publish (cs : List Cell) (i : Nat) :
    cs.takeWhile Cell.isPub <+: (publishCell cs i).takeWhile Cell.isPub := by
  induction cs generalizing i with
  | nil => exact List.nil_prefix
  | cons c cs ih =>
    cases i with
    | zero =>
      cases c with
      | written w => simp only [List.takeWhile_cons, Cell.isPub]; exact List.nil_prefix
      | published w => exact List.prefix_refl _
    | succ n =>
      simp only [publishCell, List.takeWhile_cons]
      split
      · exact (List.prefix_cons_inj c).mpr (ih n)
      · exact List.nil_prefix

theorem BlkStep.quiesced {B : Nat} {b b' : Block} {P : Prop} (h : BlkStep B b b' P) (hn : ¬ (P ∧ b.write < B))
    (hl : b.cells.length = min b.write B) (hq : b.quiesced B = true) : b'.quiesced B = true := by
  simp only [Block.quiesced, Block.len, Bool.or_eq_true, beq_iff_eq] at hq ⊢
  rcases h with ⟨hc, hw⟩ | ⟨hp, hw, _⟩ | ⟨hw, i, hc⟩
  · rw [hc]
    rcases hw with hw | ⟨h1, hw⟩
    · rw [hw]; exact hq
    · rw [hw]; omega
  · exact absurd ⟨hp, hw⟩ hn
  · rw [hc, hw]
    have h1 := (takeWhile_prefix_publish b.cells i).length_le
    have h2 := (List.takeWhile_sublist Cell.isPub (l := publishCell b.cells i)).length_le
    rw [publishCell_length] at h2
    omega

/-! ### published values and `data()` only grow -/

def Cell.pubVal : Cell → Option Nat
  | .published v => some v
  | .written _ => none

/-- the values whose publish step has run, in slot order -/
def pubVals (cs : List Cell) : List Nat := cs.filterMap Cell.pubVal

/-- how many slots hold a PUBLISHED `v` -/
def pubc (v : Nat) (cs : List Cell) : Nat := (pubVals cs).count v

theorem pubc_publishCell (v : Nat) (cs : List Cell) (i : Nat) : pubc v cs ≤ pubc v (publishCell cs i) := by
  induction cs generalizing i with
  | nil => exact Nat.le_refl _
  | cons c cs ih =>
    cases i with
    | zero =>
      cases c with
      | written w =>
        simp only [publishCell, pubc, pubVals, List.filterMap_cons, Cell.pubVal, Cell.val]
        exact List.count_le_count_cons ..
      | published w => exact Nat.le_refl _
    | succ n =>
      have := ih n
      cases c with
      | written w => simpa only [publishCell, pubc, pubVals, List.filterMap_cons, Cell.pubVal] using this
      | published w =>
        simp only [publishCell, pubc, pubVals, List.filterMap_cons, Cell.pubVal, List.count_cons] at this ⊢
        exact Nat.add_le_add_right this _

theorem BlkStep.pubc_le {B : Nat} {b b' : Block} {P : Prop} (h : BlkStep B b b' P) (v : Nat) :
    pubc v b.cells ≤ pubc v b'.cells := by
  rcases h with ⟨h, _⟩ | ⟨_, _, _, w, h⟩ | ⟨_, i, h⟩
  · rw [h]; exact Nat.le_refl _
  · rw [h]; simp [pubc, pubVals, List.filterMap_append]
  · rw [h]; exact pubc_publishCell v _ i

theorem pubc_le_vals (v : Nat) (cs : List Cell) : pubc v cs ≤ (cs.map Cell.val).count v := by
  induction cs with
  | nil => exact Nat.le_refl _
  | cons c cs ih =>
    cases c with
    | written w =>
      simp only [pubc, pubVals, List.filterMap_cons, Cell.pubVal, List.map_cons, Cell.val] at ih ⊢
      exact Nat.le_trans ih (List.count_le_count_cons ..)
    | published w =>
      simp only [pubc, pubVals, List.filterMap_cons, Cell.pubVal, List.map_cons, Cell.val, List.count_cons] at ih ⊢
      exact Nat.add_le_add_right ih _

theorem pubc_step_mono (v : Nat) (s : Sys) (tid k : Nat) :
    pubc v (getBlock s k).cells ≤ pubc v (getBlock (step s tid) k).cells := (step_blk s tid k).pubc_le v

theorem pubc_run_mono (v : Nat) (sched : List Nat) : ∀ (s : Sys) (k : Nat),
    pubc v (getBlock s k).cells ≤ pubc v (getBlock (run s sched) k).cells := by
  induction sched with
  | nil => intro s k; exact Nat.le_refl _
  | cons t ts ih => intro s k; exact Nat.le_trans (pubc_step_mono v s t k) (ih (step s t) k)

theorem BlkStep.data_prefix {B : Nat} {b b' : Block} {P : Prop} (h : BlkStep B b b' P) : b.data <+: b'.data := by
  unfold Block.data
  rcases h with ⟨h, _⟩ | ⟨_, _, _, w, h⟩ | ⟨_, i, h⟩
  · rw [h]; exact List.prefix_refl _
  · rw [h]; exact (takeWhile_prefix_append _ _ _).map _
  · rw [h]; exact (takeWhile_prefix_publish _ _).map _

/-- one step of any thread: what `Block::data` returns for any block only grows, as a prefix -/
theorem step_data_prefix (s : Sys) (tid k : Nat) : (getBlock s k).data <+: (getBlock (step s tid) k).data :=
  (step_blk s tid k).data_prefix

theorem run_data_prefix (sched : List Nat) : ∀ (s : Sys) (k : Nat), (getBlock s k).data <+: (getBlock (run s sched) k).data := by
  induction sched with
  | nil => intro s k; exact List.prefix_refl _
  | cons t ts ih => intro s k; exact List.IsPrefix.trans (step_data_prefix s t k) (ih (step s t) k)

theorem step_data_count_le (s : Sys) (tid k v : Nat) :
    (getBlock s k).data.count v ≤ (getBlock (step s tid) k).data.count v :=
  (step_data_prefix s tid k).sublist.count_le v

theorem step_write (s : Sys) (tid k : Nat) : (getBlock s k).write ≤ (getBlock (step s tid) k).write :=
  (step_blk s tid k).write_le

/-- `Block::is_quiesced` ⇒ every claimed slot is in `Block::data` -/
theorem quiesced_all_pub (B : Nat) (b : Block) (hl : b.cells.length = min b.write B) (hq : b.quiesced B = true) :
    b.cells.takeWhile Cell.isPub = b.cells := by
  have hpre := List.takeWhile_append_dropWhile (p := Cell.isPub) (l := b.cells)
  have hlen : (b.cells.takeWhile Cell.isPub).length + (b.cells.dropWhile Cell.isPub).length = b.cells.length := by
    rw [← List.length_append, hpre]
  simp only [Block.quiesced, Block.len, Bool.or_eq_true, beq_iff_eq] at hq
  have hd : (b.cells.dropWhile Cell.isPub).length = 0 := by
    rcases hq with h | h <;> omega
  have hnil : b.cells.dropWhile Cell.isPub = [] := List.eq_nil_of_length_eq_zero hd
  rw [hnil, List.append_nil] at hpre
  exact hpre

theorem quiesced_data_all (B : Nat) (b : Block) (hl : b.cells.length = min b.write B) (hq : b.quiesced B = true) :
    b.data = b.cells.map Cell.val := by
  unfold Block.data; rw [quiesced_all_pub B b hl hq]

/-! ### links of existing blocks never change, blocks are never removed -/

theorem Eff.links {s s' : Sys} {t t' : Thread} (h : Eff s t s' t') :
    s.blocks.length ≤ s'.blocks.length ∧ ∀ k, k < s.blocks.length → nextAt s'.blocks k = nextAt s.blocks k := by
  have g := h.geff
  generalize s'.blocks = bs' at g ⊢
  generalize s'.tail = tl' at g
  cases g with
  | quiet _ _ hsim => exact ⟨Nat.le_of_eq hsim.1.symm, fun k _ => hsim.2.1 k⟩
  | append => exact ⟨by simp, fun k hk => nextAt_append_lt _ _ _ hk⟩
  | detach | read | nextNone | nextSome => exact ⟨Nat.le_refl _, fun _ _ => rfl⟩

theorem step_len (s : Sys) (tid : Nat) : s.blocks.length ≤ (step s tid).blocks.length := by
  cases hg : s.threads[tid]? with
  | none => rw [step_none hg]; exact Nat.le_refl _
  | some t => rw [step_eq s tid t hg]; exact (stepThread_eff s t).links.1

theorem step_nextAt (s : Sys) (tid k : Nat) (hk : k < s.blocks.length) :
    nextAt (step s tid).blocks k = nextAt s.blocks k := by
  cases hg : s.threads[tid]? with
  | none => rw [step_none hg]
  | some t => rw [step_eq s tid t hg]; exact (stepThread_eff s t).links.2 k hk

theorem nextAt_ge {bs : List Block} {k : Nat} (h : bs.length ≤ k) : nextAt bs k = none := by
  unfold nextAt; rw [List.getElem?_eq_none h]; rfl

/-- a step creates a link only in the won hand-over CAS, and the link goes to the block that CAS replaced -/
theorem Eff.new_link {s s' : Sys} {t t' : Thread} (h : Eff s t s' t') (k j : Nat) (hk : s.blocks.length ≤ k)
    (hn : nextAt s'.blocks k = some (some j)) : t.pc = .pCasNew j := by
  -- only an appended block lies at or above the old length
  by_cases hlen : s'.blocks.length = s.blocks.length
  · rw [nextAt_ge (hlen ▸ hk)] at hn; cases hn
  · cases h with
    | append r hpc =>
      have hlt := nextAt_some_lt hn
      rw [List.length_append, List.length_singleton] at hlt
      obtain rfl : k = s.blocks.length := by omega
      rw [nextAt_append_len] at hn
      have ht : s.tail = some j := Option.some.inj hn
      rcases hpc with ⟨_, h0⟩ | ⟨old, hp, h0⟩
      · rw [h0] at ht; cases ht
      · rw [h0] at ht; cases ht; exact hp
    | idle | hop | ret | read | detach => exact absurd rfl hlen
    | claimOk | claimFull | publish => exact absurd (setAt_length _ _ _) hlen

def isClearPC : PC → Bool
  | .cLoadTail | .cCas _ | .cQuiesced _ | .cWait _ | .cRead _ | .cNext _ => true
  | _ => false

theorem isClearPC_eq (pc : PC) : isClearPC pc = (pc.kind == some .clear) := by cases pc <;> rfl

def NoClrT (t : Thread) : Prop := Call.clear ∉ t.calls ∧ isClearPC t.pc = false

theorem startPC_noclear (calls : List Call) (h : Call.clear ∉ calls) : isClearPC (startPC calls) = false := by
  cases calls with
  | nil => rfl
  | cons c r => cases c <;> simp_all [startPC, pcOfCall, isClearPC]

theorem NoClrT.advance {t : Thread} (h : NoClrT t) (r : Res) : NoClrT (t.advance r) := by
  have hc : Call.clear ∉ t.calls.tail := fun hm => h.1 (List.mem_of_mem_tail hm)
  exact ⟨hc, startPC_noclear _ hc⟩

theorem TEff.noclr {t t' : Thread} (he : TEff t t') (h : NoClrT t) : NoClrT t' := by
  cases he with
  | start _ => exact ⟨h.1, startPC_noclear _ h.1⟩
  | done _ => exact h
  | goto pc' _ k h1 h2 =>
    have := h.2
    rw [isClearPC_eq, h1] at this
    exact ⟨h.1, by rw [isClearPC_eq, h2]; exact this⟩
  | ret r _ => exact h.advance r

theorem noclr_step (s : Sys) (t : Thread) (h : NoClrT t) : NoClrT (stepThread s t).2 := (stepThread_teff s t).noclr h

/-- no thread has a `clear` among its remaining calls, or stands in one -/
def NoClrS (s : Sys) : Prop := ∀ i, ThreadAt NoClrT s i

theorem noclrS_step (s : Sys) (tid : Nat) (h : NoClrS s) : NoClrS (step s tid) :=
  fun i => threadAt_step noclr_step s tid i (h i)

theorem init_noclrS (B : Nat) (progs : List (List Call)) (hnc : ∀ p ∈ progs, Call.clear ∉ p) : NoClrS (init B progs) :=
  fun i => threadAt_init B progs i (fun p hp => ⟨hnc p (List.mem_of_getElem? hp), rfl⟩)

/-! ### a finished thread has no calls left -/

def DoneNil (t : Thread) : Prop := t.pc = .done → t.calls = []

theorem startPC_done (calls : List Call) (h : startPC calls = .done) : calls = [] := by
  cases calls with
  | nil => rfl
  | cons c r => cases c <;> simp [startPC, pcOfCall] at h

theorem donenil_step (s : Sys) (t : Thread) (h : DoneNil t) : DoneNil (stepThread s t).2 := by
  have he := stepThread_teff s t
  generalize (stepThread s t).2 = t' at he ⊢
  cases he with
  | start _ => exact fun e => startPC_done _ e
  | done _ => exact h
  | goto pc' _ k _ h2 => exact fun e => by rw [show pc' = PC.done from e] at h2; cases h2
  | ret r _ => exact fun e => startPC_done _ e

/-- at quiescence every thread has run its whole program -/
theorem calls_nil_of_quiescent (B : Nat) (progs : List (List Call)) (sched : List Nat)
    (hq : quiescent (run (init B progs) sched) = true) :
    ∀ t ∈ (run (init B progs) sched).threads, t.pc = .done ∧ t.calls = [] := by
  have hq := quiescent_done hq
  intro t ht
  obtain ⟨i, hi⟩ := List.getElem?_of_mem ht
  have := threadAt_run donenil_step i sched _ (threadAt_init B progs i (fun p _ e => by cases e)) t hi
  exact ⟨hq t ht, this (hq t ht)⟩

/-- published `v`s in blocks `k, k+1, …` -/
def needFrom (v : Nat) (bs0 : List Block) (k : Nat) : Nat := ((bs0.drop k).map (fun b => pubc v b.cells)).sum

/-- number of slots whose publish step has run and that hold `v` -/
def pubCount (v : Nat) (s : Sys) : Nat := needFrom v s.blocks 0

theorem needFrom_ge (v : Nat) (bs0 : List Block) (k : Nat) (h : bs0.length ≤ k) : needFrom v bs0 k = 0 := by
  unfold needFrom; rw [List.drop_eq_nil_of_le h]; rfl

theorem needFrom_succ (v : Nat) (bs0 : List Block) (k : Nat) :
    needFrom v bs0 k = pubc v (blk0 bs0 k).cells + needFrom v bs0 (k + 1) := by
  by_cases h : k < bs0.length
  · unfold needFrom blk0
    rw [List.drop_eq_getElem_cons h, List.map_cons, List.sum_cons, List.getElem?_eq_getElem h]
    rfl
  · have h' : bs0.length ≤ k := by omega
    rw [needFrom_ge v bs0 k h', needFrom_ge v bs0 (k + 1) (by omega)]
    unfold blk0
    rw [List.getElem?_eq_none h']
    rfl

theorem needFrom_mono (v : Nat) (bs bs' : List Block)
    (h : ∀ j, pubc v (blk0 bs j).cells ≤ pubc v (blk0 bs' j).cells) : ∀ (n k : Nat), bs.length ≤ k + n →
    needFrom v bs k ≤ needFrom v bs' k := by
  intro n
  induction n with
  | zero => intro k hk; rw [needFrom_ge v bs k hk]; exact Nat.zero_le _
  | succ n ih =>
    intro k hk
    rw [needFrom_succ v bs, needFrom_succ v bs']
    exact Nat.add_le_add (h k) (ih (k + 1) (by omega))

theorem needFrom_pos (v : Nat) (bs0 : List Block) : ∀ (n k : Nat), bs0.length ≤ k + n → 1 ≤ needFrom v bs0 k →
    ∃ j, k ≤ j ∧ j < bs0.length ∧ 1 ≤ pubc v (blk0 bs0 j).cells := by
  intro n
  induction n with
  | zero => intro k hk h; rw [needFrom_ge v bs0 k (by omega)] at h; omega
  | succ n ih =>
    intro k hk h
    rw [needFrom_succ] at h
    by_cases h1 : 1 ≤ pubc v (blk0 bs0 k).cells
    · refine ⟨k, Nat.le_refl _, ?_, h1⟩
      rcases Nat.lt_or_ge k bs0.length with hlt | hge
      · exact hlt
      · unfold blk0 at h1; rw [List.getElem?_eq_none hge] at h1; simp [newBlock, pubc, pubVals] at h1
    · obtain ⟨j, hj1, hj2⟩ := ih (k + 1) (by omega) (by omega)
      exact ⟨j, by omega, hj2⟩

theorem pubCount_run_mono (v : Nat) (sched : List Nat) (s : Sys) : pubCount v s ≤ pubCount v (run s sched) :=
  needFrom_mono v _ _ (fun j => pubc_run_mono v sched s j) s.blocks.length 0 (by omega)

end MetricsVerif.Bucket
