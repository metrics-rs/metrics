/-
Lemmas about `Model/DistBuilder.lean` for C15: the derived order of `Matcher` is a strict order, the insertion sort of
`DistributionBuilder::new` (`sortMatchers`) permutes and sorts, and the first match of a sorted list is a least match.
-/
import MetricsVerif.Model.DistBuilder
import MetricsVerif.Proofs.PromWhole

namespace MetricsVerif.DistBuilder
open MetricsVerif.Prom MetricsVerif.PromFmt

/-! ### lexicographic orders

Both `strLt` (code point, then the rest of the string) and the derived `Ord` of `Matcher` (variant, then the pattern)
compare a number first and fall back to a second comparison on a tie. -/

theorem lex_irrefl {x : Nat} {p : Prop} (hp : ¬ p) : ¬ (x < x ∨ (x = x ∧ p)) :=
  fun h => h.elim (Nat.lt_irrefl x) fun h => hp h.2

theorem lex_trans {x y z : Nat} {p q r : Prop} (h1 : x < y ∨ (x = y ∧ p)) (h2 : y < z ∨ (y = z ∧ q)) (hr : p → q → r) :
    x < z ∨ (x = z ∧ r) := by
  rcases h1 with h1 | ⟨e1, h1⟩
  · exact .inl (by omega)
  · rcases h2 with h2 | ⟨e2, h2⟩
    · exact .inl (by omega)
    · exact .inr ⟨e1.trans e2, hr h1 h2⟩

theorem strLt_cons (x y : Char) (a b : Str) :
    strLt (x :: a) (y :: b) = true ↔ x.toNat < y.toNat ∨ (x.toNat = y.toNat ∧ strLt a b = true) := by
  rw [strLt]
  split
  · simp [*]
  · split
    · exact ⟨fun h => (by cases h), fun h => h.elim (fun h => by omega) (fun h => by omega)⟩
    · exact ⟨fun h => .inr ⟨by omega, h⟩, fun h => h.elim (fun h => by omega) (·.2)⟩

theorem strLt_irrefl : ∀ a : Str, strLt a a = false
  | [] => rfl
  | x :: a => by
    have := strLt_irrefl a
    exact Bool.eq_false_iff.mpr fun h => lex_irrefl (by simp [this]) ((strLt_cons x x a a).mp h)

theorem strLt_trans : ∀ (a b c : Str), strLt a b = true → strLt b c = true → strLt a c = true
  | [], [], _, h, _ => by cases h
  | [], _ :: _, [], _, h => by cases h
  | [], _ :: _, _ :: _, _, _ => rfl
  | _ :: _, [], _, h, _ => by cases h
  | _ :: _, _ :: _, [], _, h => by cases h
  | x :: a, y :: b, z :: c, h1, h2 =>
    (strLt_cons x z a c).mpr (lex_trans ((strLt_cons x y a b).mp h1) ((strLt_cons y z b c).mp h2) (strLt_trans a b c))

theorem lt_iff (a b : Matcher) :
    Matcher.lt a b = true ↔ a.rank < b.rank ∨ (a.rank = b.rank ∧ strLt a.str b.str = true) := by
  simp only [Matcher.lt, Bool.or_eq_true, decide_eq_true_eq, Bool.and_eq_true, beq_iff_eq]

theorem lt_irrefl (a : Matcher) : Matcher.lt a a = false :=
  Bool.eq_false_iff.mpr fun h => lex_irrefl (by simp [strLt_irrefl]) ((lt_iff a a).mp h)

theorem lt_trans {a b c : Matcher} (h1 : Matcher.lt a b = true) (h2 : Matcher.lt b c = true) :
    Matcher.lt a c = true :=
  (lt_iff a c).mpr (lex_trans ((lt_iff a b).mp h1) ((lt_iff b c).mp h2) (strLt_trans _ _ _))

theorem lt_asymm {a b : Matcher} (h : Matcher.lt a b = true) : Matcher.lt b a = false :=
  Bool.eq_false_iff.mpr fun h' => by have := lt_trans h h'; rw [lt_irrefl] at this; cases this

/-- Full before Prefix before Suffix: "not greater" implies "rank not greater" -/
theorem rank_le_of_not_lt {a b : Matcher} (h : Matcher.lt b a = false) : a.rank ≤ b.rank :=
  Nat.le_of_not_lt fun hlt => by rw [(lt_iff b a).mpr (.inl hlt)] at h; cases h

/-- sorted by the derived order: nothing later is smaller than anything earlier -/
def Sorted (l : List (Matcher × List Int)) : Prop := l.Pairwise (fun a b => Matcher.lt b.1 a.1 = false)

theorem insertMatcher_perm (x : Matcher × List Int) : ∀ l, (insertMatcher x l).Perm (x :: l)
  | [] => List.Perm.refl _
  | y :: l => by
    rw [insertMatcher]
    split
    · exact List.Perm.refl _
    · exact ((insertMatcher_perm x l).cons y).trans (List.Perm.swap x y l)

/-- the sort neither drops nor invents nor repeats an override -/
theorem sortMatchers_perm : ∀ l, (sortMatchers l).Perm l
  | [] => List.Perm.refl _
  | x :: l => (insertMatcher_perm x _).trans ((sortMatchers_perm l).cons x)

theorem mem_sortMatchers (y : Matcher × List Int) (l : List (Matcher × List Int)) : y ∈ sortMatchers l ↔ y ∈ l :=
  (sortMatchers_perm l).mem_iff

theorem sortMatchers_length (l : List (Matcher × List Int)) : (sortMatchers l).length = l.length :=
  (sortMatchers_perm l).length_eq

theorem insertMatcher_sorted (x : Matcher × List Int) : ∀ l, Sorted l → Sorted (insertMatcher x l)
  | [], _ => List.pairwise_singleton _ _
  | y :: ys, hs => by
    have hs' := List.pairwise_cons.mp hs
    rw [insertMatcher]
    split
    · rename_i hxy
      refine List.pairwise_cons.mpr ⟨fun z hz => ?_, hs⟩
      rcases List.mem_cons.mp hz with rfl | hz
      · exact lt_asymm hxy
      · exact Bool.eq_false_iff.mpr fun hzx => by have := lt_trans hzx hxy; rw [hs'.1 z hz] at this; cases this
    · rename_i hxy
      refine List.pairwise_cons.mpr ⟨fun z hz => ?_, insertMatcher_sorted x ys hs'.2⟩
      rcases List.mem_cons.mp ((insertMatcher_perm x ys).mem_iff.mp hz) with rfl | hz
      · exact Bool.eq_false_iff.mpr hxy
      · exact hs'.1 z hz

theorem sortMatchers_sorted : ∀ l, Sorted (sortMatchers l)
  | [] => List.Pairwise.nil
  | x :: l => insertMatcher_sorted x _ (sortMatchers_sorted l)

/-- in a list whose later elements are all `R`-related to the earlier ones, every match is the first match or
    `R`-related to it -/
theorem find_pairwise {α : Type} {R : α → α → Prop} {l : List α} (hl : l.Pairwise R) {p : α → Bool} {a : α}
    (h : l.find? p = some a) : ∀ b ∈ l, p b = true → b = a ∨ R a b := by
  obtain ⟨_, l1, l2, rfl, hl1⟩ := List.find?_eq_some_iff_append.mp h
  intro b hb hp
  rcases List.mem_append.mp hb with hb | hb
  · have := hl1 b hb
    rw [hp] at this; cases this
  · rcases List.mem_cons.mp hb with rfl | hb
    · exact .inl rfl
    · exact .inr ((List.pairwise_cons.mp (List.pairwise_append.mp hl).2.1).1 b hb)

theorem find_sorted_least (p : Matcher × List Int → Bool) (l : List (Matcher × List Int)) (hs : Sorted l)
    (mb : Matcher × List Int) (h : l.find? p = some mb) :
    mb ∈ l ∧ p mb = true ∧ ∀ mb' ∈ l, p mb' = true → Matcher.lt mb'.1 mb.1 = false :=
  ⟨List.mem_of_find?_eq_some h, List.find?_some h, fun mb' hm hp =>
    (find_pairwise hs h mb' hm hp).elim (fun e => e ▸ lt_irrefl _) id⟩

theorem find_none_iff (p : Matcher × List Int → Bool) (l : List (Matcher × List Int)) :
    l.find? p = none ↔ ∀ mb ∈ l, p mb = false := by
  simp [List.find?_eq_none]

theorem overridesOf_sanitised (calls : List (Matcher × List Int)) :
    ∀ x ∈ overridesOf calls, ∃ c ∈ calls, x.1 = c.1.sanitized :=
  foldl_inv (fun ovs => ∀ x ∈ ovs, ∃ c ∈ calls, x.1 = c.1.sanitized) (· ∈ calls) _ calls
    (fun ovs c h hc => upsert_inv (fun k _ => ∃ c ∈ calls, k = c.1.sanitized) ovs _ [] _ h ⟨c, hc, rfl⟩ fun _ h => h)
    [] (fun _ h => by cases h) fun _ h => h

end MetricsVerif.DistBuilder
