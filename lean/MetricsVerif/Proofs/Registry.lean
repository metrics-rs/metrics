/-
For C06: the registry invariant `Inv`, kept by an insertion and by anything that only removes entries (`Sub`), and
the effect of every operation on what a lookup finds (`readSection`); `Props/C06.lean` assembles the refinement
from these.  Then the two step machines: a step of the plain one is silent or one sequential operation
(`stepThread_spec`), so a run is the sequential run of its log (`run_seq`, `LogInv`); a token of the lock-aware one
falls under one of five cases (`lstepThread_cases`).
-/
import MetricsVerif.Model.Registry
import MetricsVerif.Proofs.ListAt

namespace MetricsVerif.Registry

variable {K : Type}

/-- what C03 establishes for `metrics::Key`: `==` is an equivalence and equal keys hash alike -/
structure KeyLaws (ko : KeyOps K) : Prop where
  refl : ∀ a, ko.eqv a a = true
  symm : ∀ a b, ko.eqv a b = true → ko.eqv b a = true
  trans : ∀ a b c, ko.eqv a b = true → ko.eqv b c = true → ko.eqv a c = true
  hash_coh : ∀ a b, ko.eqv a b = true → ko.hash a = ko.hash b

theorem KeyLaws.symm_false {ko : KeyOps K} (L : KeyLaws ko) {a b : K} (h : ko.eqv a b = false) : ko.eqv b a = false := by
  cases h' : ko.eqv b a with
  | false => rfl
  | true => rw [L.symm _ _ h'] at h; cases h

theorem get_set (r : Reg K) (kd kd' : Kind) (v : List (Shard K)) :
    (r.set kd v).get kd' = if kd' = kd then v else r.get kd' := by
  cases kd <;> cases kd' <;> rfl

@[simp] theorem set_mask (r : Reg K) (kd : Kind) (v : List (Shard K)) : (r.set kd v).mask = r.mask := by
  cases kd <;> rfl
@[simp] theorem set_next (r : Reg K) (kd : Kind) (v : List (Shard K)) : (r.set kd v).next = r.next := by
  cases kd <;> rfl
@[simp] theorem bump_get (r : Reg K) (kd : Kind) : r.bump.get kd = r.get kd := by cases kd <;> rfl
@[simp] theorem bump_mask (r : Reg K) : r.bump.mask = r.mask := rfl
@[simp] theorem bump_next (r : Reg K) : r.bump.next = r.next + 1 := rfl

theorem setShard_eq (r : Reg K) (kd : Kind) (h : Nat) (sh : Shard K) :
    r.setShard kd h sh = r.setIdx kd (shardOf r h) sh := rfl

@[simp] theorem setIdx_mask (r : Reg K) (kd : Kind) (idx : Nat) (sh : Shard K) : (r.setIdx kd idx sh).mask = r.mask :=
  set_mask ..
@[simp] theorem setIdx_next (r : Reg K) (kd : Kind) (idx : Nat) (sh : Shard K) : (r.setIdx kd idx sh).next = r.next :=
  set_next ..
@[simp] theorem setShard_mask (r : Reg K) (kd : Kind) (h : Nat) (sh : Shard K) : (r.setShard kd h sh).mask = r.mask :=
  set_mask ..
@[simp] theorem setShard_next (r : Reg K) (kd : Kind) (h : Nat) (sh : Shard K) : (r.setShard kd h sh).next = r.next :=
  set_next ..

theorem length_setIdx (r : Reg K) (kd kd' : Kind) (idx : Nat) (sh : Shard K) :
    ((r.setIdx kd idx sh).get kd').length = (r.get kd').length := by
  rw [Reg.setIdx, get_set]
  split
  · next hk => rw [hk, setAt_length]
  · rfl

theorem getElem?_setIdx (r : Reg K) (kd kd' : Kind) (idx i : Nat) (sh : Shard K) :
    ((r.setIdx kd idx sh).get kd')[i]?
      = if kd' = kd ∧ idx = i ∧ i < (r.get kd).length then some sh else (r.get kd')[i]? := by
  rw [Reg.setIdx, get_set]
  by_cases hk : kd' = kd
  · subst hk; simp only [if_true, true_and, getElem?_setAt]
  · simp only [hk, if_false, false_and]

theorem shardOf_le (r : Reg K) (h : Nat) : shardOf r h ≤ r.mask := Nat.and_le_right

/-- entry `e` sits in shard `i` of kind `kd` -/
def At (r : Reg K) (kd : Kind) (i : Nat) (e : Entry K) : Prop := ∃ sh, (r.get kd)[i]? = some sh ∧ e ∈ sh

structure Inv (ko : KeyOps K) (r : Reg K) : Prop where
  len : ∀ kd, (r.get kd).length = r.mask + 1
  placed : ∀ kd (i : Nat) e, At r kd i e → e.hash = ko.hash e.key ∧ e.hash &&& r.mask = i
  uniq : ∀ kd (i : Nat) (sh : Shard K), (r.get kd)[i]? = some sh → List.Pairwise (fun a b => ko.eqv a.key b.key = false) sh
  /-- storages in the map were made by the factory -/
  fresh : ∀ kd (i : Nat) e, At r kd i e → e.id < r.next
  idinj : ∀ kd (i : Nat) e kd' (i' : Nat) e', At r kd i e → At r kd' i' e' → e.id = e'.id → kd = kd' ∧ ko.eqv e.key e'.key = true

theorem at_bump (r : Reg K) (kd : Kind) (i : Nat) (e : Entry K) : At r.bump kd i e ↔ At r kd i e := by
  simp only [At, bump_get]

/-- an index out of range reads as the empty shard, so no length is needed here -/
theorem at_of_mem_getD {r : Reg K} {kd : Kind} {i : Nat} {e : Entry K} (he : e ∈ (r.get kd).getD i []) :
    At r kd i e := by
  rw [List.getD_eq_getElem?_getD] at he
  cases h : (r.get kd)[i]? with
  | none => rw [h] at he; cases he
  | some sh => rw [h] at he; exact ⟨sh, h, he⟩

theorem at_shard {r : Reg K} {kd : Kind} {h : Nat} {e : Entry K} (he : e ∈ r.shard kd h) :
    At r kd (shardOf r h) e := at_of_mem_getD he

theorem at_setIdx {r : Reg K} {kd kd' : Kind} {idx i : Nat} {sh' : Shard K} {e : Entry K}
    (hat : At (r.setIdx kd idx sh') kd' i e) :
    (kd' = kd ∧ i = idx ∧ e ∈ sh') ∨ (At r kd' i e ∧ ¬ (kd' = kd ∧ i = idx)) := by
  obtain ⟨sh, h1, h2⟩ := hat
  rw [getElem?_setIdx] at h1
  split at h1
  · next hc => cases h1; exact Or.inl ⟨hc.1, hc.2.1.symm, h2⟩
  · next hc =>
    refine Or.inr ⟨⟨sh, h1, h2⟩, fun c => hc ⟨c.1, c.2.symm, ?_⟩⟩
    rw [← c.1]; exact (List.getElem?_eq_some_iff.mp h1).1

theorem shard_eq (r : Reg K) (kd : Kind) (h : Nat) (hlen : (r.get kd).length = r.mask + 1) :
    (r.get kd)[shardOf r h]? = some (r.shard kd h) := by
  have hlt : shardOf r h < (r.get kd).length := by have := shardOf_le r h; omega
  simp only [Reg.shard, List.getD_eq_getElem?_getD, List.getElem?_eq_getElem hlt, Option.getD_some]

theorem new_get (count : Nat) (kd : Kind) : (Reg.new count : Reg K).get kd = List.replicate count [] := by
  cases kd <;> rfl

theorem new_shard_nil {count : Nat} {kd : Kind} {i : Nat} {sh : Shard K}
    (h : ((Reg.new count : Reg K).get kd)[i]? = some sh) : sh = [] := by
  rw [new_get] at h
  exact (List.mem_replicate.mp (List.mem_of_getElem? h)).2

theorem not_at_new (count : Nat) (kd : Kind) (i : Nat) (e : Entry K) : ¬ At (Reg.new count : Reg K) kd i e := by
  intro ⟨sh, h1, h2⟩
  rw [new_shard_nil h1] at h2; cases h2

theorem readSection_new (ko : KeyOps K) (count : Nat) (kd : Kind) (k : K) :
    readSection ko (Reg.new count : Reg K) kd k = none := by
  have : (Reg.new count : Reg K).shard kd (ko.hash k) = [] := by
    simp only [Reg.shard, new_get, List.getD_eq_getElem?_getD, List.getElem?_replicate]
    split <;> rfl
  simp only [readSection, this, lookup, List.find?_nil, Option.map_none]

theorem new_len (count : Nat) (hc : 0 < count) (kd : Kind) :
    ((Reg.new count : Reg K).get kd).length = (Reg.new count : Reg K).mask + 1 := by
  rw [new_get, List.length_replicate]; show count = count - 1 + 1; omega

theorem new_inv (ko : KeyOps K) (count : Nat) (hc : 0 < count) : Inv ko (Reg.new count : Reg K) where
  len := new_len count hc
  placed kd i e h := absurd h (not_at_new count kd i e)
  uniq _ _ _ h := new_shard_nil h ▸ List.Pairwise.nil
  fresh kd i e h := absurd h (not_at_new count kd i e)
  idinj kd i e _ _ _ h := absurd h (not_at_new count kd i e)

theorem shard_setShard (r : Reg K) (kd kd' : Kind) (h h' : Nat) (sh : Shard K)
    (hlen : (r.get kd).length = r.mask + 1) :
    (r.setShard kd h sh).shard kd' h' = if kd' = kd ∧ shardOf r h' = shardOf r h then sh else r.shard kd' h' := by
  have hlt : shardOf r h' < (r.get kd).length := by have := shardOf_le r h'; omega
  have hs : shardOf (r.setIdx kd (shardOf r h) sh) h' = shardOf r h' := by simp only [shardOf, setIdx_mask]
  rw [setShard_eq, Reg.shard, hs, List.getD_eq_getElem?_getD, getElem?_setIdx]
  by_cases hc : kd' = kd ∧ shardOf r h' = shardOf r h
  · rw [if_pos hc, if_pos ⟨hc.1, hc.2.symm, hlt⟩]; rfl
  · rw [if_neg hc, if_neg (fun c => hc ⟨c.1, c.2.1.symm⟩)]; rfl

@[simp] theorem bump_shard (r : Reg K) (kd : Kind) (h : Nat) : r.bump.shard kd h = r.shard kd h := by
  simp only [Reg.shard, bump_get, shardOf, bump_mask]

theorem shard_congr (r : Reg K) (kd : Kind) {h h' : Nat} (hs : shardOf r h' = shardOf r h) :
    r.shard kd h' = r.shard kd h := by simp only [Reg.shard, hs]

theorem hit_congr {ko : KeyOps K} (L : KeyLaws ko) {k k' : K} (h : ko.eqv k k' = true) (hh : Nat) :
    hit ko hh k' = hit ko hh k := by
  funext e
  simp only [hit]
  cases hk : ko.eqv k e.key with
  | true => rw [L.trans _ _ _ (L.symm _ _ h) hk]
  | false =>
    cases hk' : ko.eqv k' e.key with
    | false => rfl
    | true => rw [L.trans _ _ _ h hk'] at hk; cases hk

theorem readSection_congr {ko : KeyOps K} (L : KeyLaws ko) (r : Reg K) (kd : Kind) {k k' : K}
    (h : ko.eqv k k' = true) : readSection ko r kd k' = readSection ko r kd k := by
  unfold readSection lookup
  rw [← L.hash_coh _ _ h, hit_congr L h]

theorem hit_iff {ko : KeyOps K} {h : Nat} {k : K} {e : Entry K} :
    hit ko h k e = true ↔ e.hash = h ∧ ko.eqv k e.key = true := by
  simp only [hit, Bool.and_eq_true, beq_iff_eq]

theorem hit_eqv {ko : KeyOps K} (L : KeyLaws ko) {h h' : Nat} {k k' : K} {e : Entry K}
    (h1 : hit ko h k e = true) (h2 : hit ko h' k' e = true) : ko.eqv k k' = true :=
  L.trans _ _ _ (hit_iff.mp h1).2 (L.symm _ _ (hit_iff.mp h2).2)

theorem hit_unique {ko : KeyOps K} (L : KeyLaws ko) (h : Nat) (k : K) {sh : Shard K}
    (hp : sh.Pairwise (fun a b => ko.eqv a.key b.key = false)) :
    sh.Pairwise (fun a b => hit ko h k a = true → hit ko h k b = false) := by
  refine hp.imp (fun {a b} hab ha => ?_)
  cases hb : hit ko h k b with
  | false => rfl
  | true =>
    rw [L.trans _ _ _ (L.symm _ _ (hit_iff.mp ha).2) (hit_iff.mp hb).2] at hab; cases hab

section find
variable {α : Type} {p : α → Bool} {l : List α}

theorem find?_eraseP_disjoint (p q : α → Bool) (l : List α) (hd : ∀ e, q e = true → p e = false) :
    (l.eraseP q).find? p = l.find? p := by
  induction l with
  | nil => rfl
  | cons x xs ih =>
    by_cases hq : q x = true
    · rw [List.eraseP_cons_of_pos hq, List.find?_cons, hd x hq]
    · rw [List.eraseP_cons_of_neg hq, List.find?_cons, List.find?_cons, ih]

theorem find?_tail_none {x : α} {xs : List α} (hp : (x :: xs).Pairwise (fun a b => p a = true → p b = false))
    (hx : p x = true) : xs.find? p = none :=
  List.find?_eq_none.mpr fun y hy hy' => by
    rw [(List.pairwise_cons.mp hp).1 y hy hx] at hy'; cases hy'

theorem find?_unique {x : α} (hp : l.Pairwise (fun a b => p a = true → p b = false)) (hx : x ∈ l) (hpx : p x = true) :
    l.find? p = some x := by
  induction l with
  | nil => cases hx
  | cons y ys ih =>
    rcases List.mem_cons.mp hx with rfl | hx
    · exact List.find?_cons_of_pos hpx
    · rw [List.find?_cons_of_neg (fun hy => by rw [(List.pairwise_cons.mp hp).1 x hx hy] at hpx; cases hpx)]
      exact ih (List.pairwise_cons.mp hp).2 hx

theorem find?_eraseP_self_none (hp : l.Pairwise (fun a b => p a = true → p b = false)) :
    (l.eraseP p).find? p = none := by
  induction l with
  | nil => rfl
  | cons x xs ih =>
    by_cases hx : p x = true
    · rw [List.eraseP_cons_of_pos hx]; exact find?_tail_none hp hx
    · rw [List.eraseP_cons_of_neg hx, List.find?_cons_of_neg hx]; exact ih (List.pairwise_cons.mp hp).2

theorem find?_filter_uniq (hp : l.Pairwise (fun a b => p a = true → p b = false)) (g : α → Bool) :
    (l.filter g).find? p = (l.find? p).filter g := by
  induction l with
  | nil => rfl
  | cons x xs ih =>
    have ih := ih (List.pairwise_cons.mp hp).2
    by_cases hx : p x = true
    · rw [List.find?_cons_of_pos hx]
      by_cases hg : g x = true
      · rw [List.filter_cons_of_pos hg, List.find?_cons_of_pos hx, Option.filter_some, if_pos hg]
      · rw [List.filter_cons_of_neg hg, ih, find?_tail_none hp hx, Option.filter_some, if_neg hg]; rfl
    · rw [List.find?_cons_of_neg hx, ← ih]
      by_cases hg : g x = true
      · rw [List.filter_cons_of_pos hg, List.find?_cons_of_neg hx]
      · rw [List.filter_cons_of_neg hg]

end find

theorem readSection_none_iff (ko : KeyOps K) (r : Reg K) (kd : Kind) (k : K) :
    readSection ko r kd k = none ↔ lookup ko (r.shard kd (ko.hash k)) (ko.hash k) k = none := by
  simp only [readSection, Option.map_eq_none_iff]

theorem same_shard {ko : KeyOps K} (L : KeyLaws ko) (r : Reg K) {k k' : K} (h : ko.eqv k k' = true) :
    shardOf r (ko.hash k') = shardOf r (ko.hash k) := by rw [L.hash_coh _ _ h]

theorem getOrCreate_eq_write (ko : KeyOps K) (r : Reg K) (kd : Kind) (k : K) :
    getOrCreate ko r kd k = writeSection ko r kd k := by
  unfold getOrCreate writeSection readSection
  simp only
  cases lookup ko (r.shard kd (ko.hash k)) (ko.hash k) k <;> rfl

theorem write_present (ko : KeyOps K) (r : Reg K) (kd : Kind) (k : K) (i : Nat)
    (h : readSection ko r kd k = some i) : writeSection ko r kd k = (r, i) := by
  unfold readSection at h
  unfold writeSection
  simp only
  cases hl : lookup ko (r.shard kd (ko.hash k)) (ko.hash k) k with
  | none => rw [hl] at h; cases h
  | some e => rw [hl] at h; cases h; rfl

theorem write_absent_eq (ko : KeyOps K) (r : Reg K) (kd : Kind) (k : K) (h : readSection ko r kd k = none) :
    writeSection ko r kd k
      = ((r.setShard kd (ko.hash k) (r.shard kd (ko.hash k) ++ [⟨k, ko.hash k, r.next⟩])).bump, r.next) := by
  unfold writeSection
  simp only [(readSection_none_iff ko r kd k).mp h]

theorem read_after_insert {ko : KeyOps K} (L : KeyLaws ko) (r : Reg K) (kd : Kind) (k : K)
    (hlen : (r.get kd).length = r.mask + 1)
    (hm : lookup ko (r.shard kd (ko.hash k)) (ko.hash k) k = none) (kd' : Kind) (k' : K) :
    readSection ko (r.setShard kd (ko.hash k) (r.shard kd (ko.hash k) ++ [⟨k, ko.hash k, r.next⟩])).bump kd' k'
      = if kd' = kd ∧ ko.eqv k k' = true then some r.next else readSection ko r kd' k' := by
  unfold readSection
  rw [bump_shard, shard_setShard _ _ _ _ _ _ hlen]
  by_cases hk : kd' = kd
  · subst hk
    by_cases he : ko.eqv k k' = true
    · have hs := same_shard L r he
      rw [if_pos ⟨rfl, hs⟩, if_pos ⟨rfl, he⟩]
      have hh : ko.hash k' = ko.hash k := (L.hash_coh _ _ he).symm
      unfold lookup at hm ⊢
      have hhit : hit ko (ko.hash k) k (⟨k, ko.hash k, r.next⟩ : Entry K) = true := hit_iff.mpr ⟨rfl, L.refl k⟩
      rw [hh, hit_congr L he, List.find?_append, hm, List.find?_cons_of_pos hhit]
      rfl
    · by_cases hs : shardOf r (ko.hash k') = shardOf r (ko.hash k)
      · rw [if_pos ⟨rfl, hs⟩, if_neg (fun c => he c.2), ← shard_congr r kd' hs]
        unfold lookup
        rw [List.find?_append]
        have hne : ¬ hit ko (ko.hash k') k' (⟨k, ko.hash k, r.next⟩ : Entry K) = true :=
          fun c => he (L.symm _ _ (hit_iff.mp c).2)
        rw [List.find?_cons_of_neg hne, List.find?_nil, Option.or_none]
      · rw [if_neg (fun c => hs c.2), if_neg (fun c => he c.2)]
  · rw [if_neg (fun c => hk c.1), if_neg (fun c => hk c.1)]

theorem at_push {r : Reg K} {kd kd' : Kind} {h i : Nat} {e0 e : Entry K}
    (hat : At (r.setShard kd h (r.shard kd h ++ [e0])).bump kd' i e) :
    At r kd' i e ∨ (kd' = kd ∧ i = shardOf r h ∧ e = e0) := by
  rw [at_bump, setShard_eq] at hat
  rcases at_setIdx hat with ⟨h1, h2, h3⟩ | h
  · rcases List.mem_append.mp h3 with h3 | h3
    · exact Or.inl (h1 ▸ h2 ▸ at_shard h3)
    · exact Or.inr ⟨h1, h2, List.mem_singleton.mp h3⟩
  · exact Or.inl h.1

theorem insert_inv {ko : KeyOps K} (L : KeyLaws ko) (r : Reg K) (hinv : Inv ko r) (kd : Kind) (k : K)
    (hm : lookup ko (r.shard kd (ko.hash k)) (ko.hash k) k = none) :
    Inv ko (r.setShard kd (ko.hash k) (r.shard kd (ko.hash k) ++ [⟨k, ko.hash k, r.next⟩])).bump := by
  refine ⟨?_, ?_, ?_, ?_, ?_⟩
  · intro kd'
    rw [bump_get, bump_mask, setShard_mask, setShard_eq, length_setIdx]
    exact hinv.len kd'
  · intro kd' i e h
    rw [bump_mask, setShard_mask]
    rcases at_push h with h | ⟨_, h2, h3⟩
    · exact hinv.placed kd' i e h
    · subst h3; subst h2; exact ⟨rfl, rfl⟩
  · intro kd' i sh hsh
    rw [bump_get, setShard_eq, getElem?_setIdx] at hsh
    split at hsh
    · next hc =>
      cases hsh
      obtain ⟨rfl, _, _⟩ := hc
      rw [List.pairwise_append]
      refine ⟨hinv.uniq kd' _ _ (shard_eq r kd' _ (hinv.len kd')), List.pairwise_singleton _ _, ?_⟩
      intro a ha b hb
      rw [List.mem_singleton.mp hb]
      -- an entry with a key equal to `k` would have been hit by the lookup that missed
      cases hab : ko.eqv a.key k with
      | false => rfl
      | true =>
        have hpl := hinv.placed kd' _ a (at_shard ha)
        have hhit : hit ko (ko.hash k) k a = true :=
          hit_iff.mpr ⟨hpl.1.trans (L.hash_coh _ _ hab), L.symm _ _ hab⟩
        exact absurd hhit (List.find?_eq_none.mp hm a ha)
    · exact hinv.uniq kd' i sh hsh
  · intro kd' i e h
    rw [bump_next, setShard_next]
    rcases at_push h with h | ⟨_, _, h3⟩
    · exact Nat.lt_succ_of_lt (hinv.fresh kd' i e h)
    · subst h3; exact Nat.lt_succ_self _
  · intro kd1 i1 e1 kd2 i2 e2 h1 h2 hid
    rcases at_push h1 with h1 | ⟨a1, _, c1⟩ <;> rcases at_push h2 with h2 | ⟨a2, _, c2⟩
    · exact hinv.idinj _ _ _ _ _ _ h1 h2 hid
    · have := hinv.fresh _ _ _ h1; subst c2; simp only at hid; omega
    · have := hinv.fresh _ _ _ h2; subst c1; simp only at hid; omega
    · subst c1; subst c2; exact ⟨a1.trans a2.symm, L.refl _⟩

theorem write_absent {ko : KeyOps K} (L : KeyLaws ko) (r : Reg K) (hinv : Inv ko r) (kd : Kind) (k : K)
    (h : readSection ko r kd k = none) :
    Inv ko (writeSection ko r kd k).1 ∧ (writeSection ko r kd k).2 = r.next
    ∧ (writeSection ko r kd k).1.next = r.next + 1
    ∧ ∀ kd' k', readSection ko (writeSection ko r kd k).1 kd' k'
        = if kd' = kd ∧ ko.eqv k k' = true then some r.next else readSection ko r kd' k' := by
  have hl := (readSection_none_iff ko r kd k).mp h
  rw [write_absent_eq ko r kd k h]
  exact ⟨insert_inv L r hinv kd k hl, rfl, by simp, read_after_insert L r kd k (hinv.len kd) hl⟩

theorem write_keeps {ko : KeyOps K} (L : KeyLaws ko) (r : Reg K) (hinv : Inv ko r) (kd : Kind) (k : K) {kd' : Kind}
    {k' : K} {i : Nat} (h : readSection ko r kd' k' = some i) :
    readSection ko (writeSection ko r kd k).1 kd' k' = some i := by
  cases hr : readSection ko r kd k with
  | some j => rw [write_present ko r kd k j hr]; exact h
  | none =>
    rw [(write_absent L r hinv kd k hr).2.2.2, if_neg]
    · exact h
    · -- a key equal to one that is present is not absent
      rintro ⟨rfl, hc⟩
      rw [readSection_congr L r kd' hc, hr] at h
      cases h

theorem write_finds {ko : KeyOps K} (L : KeyLaws ko) (r : Reg K) (hinv : Inv ko r) (kd : Kind) (k : K) :
    readSection ko (writeSection ko r kd k).1 kd k = some (writeSection ko r kd k).2 := by
  cases hr : readSection ko r kd k with
  | some i => rw [write_present ko r kd k i hr]; exact hr
  | none =>
    obtain ⟨_, wid, _, wread⟩ := write_absent L r hinv kd k hr
    rw [wread, wid, if_pos ⟨rfl, L.refl k⟩]

/-- `r'` is `r` with some entries removed, shard by shard; the storage factory may have gone on -/
structure Sub (r' r : Reg K) : Prop where
  mask : r'.mask = r.mask
  next : r.next ≤ r'.next
  len : ∀ kd, (r'.get kd).length = (r.get kd).length
  sub : ∀ kd (i : Nat) (sh' : Shard K), (r'.get kd)[i]? = some sh' → ∃ sh, (r.get kd)[i]? = some sh ∧ sh'.Sublist sh

theorem Sub.at {r r' : Reg K} (hs : Sub r' r) {kd : Kind} {i : Nat} {e : Entry K} (h : At r' kd i e) : At r kd i e := by
  obtain ⟨sh', h1, h2⟩ := h
  obtain ⟨sh, h3, h4⟩ := hs.sub kd i sh' h1
  exact ⟨sh, h3, h4.subset h2⟩

theorem sub_inv {ko : KeyOps K} {r r' : Reg K} (hinv : Inv ko r) (hs : Sub r' r) : Inv ko r' where
  len kd := by rw [hs.len, hs.mask]; exact hinv.len kd
  placed kd i e h := by rw [hs.mask]; exact hinv.placed kd i e (hs.at h)
  uniq kd i sh' h := by
    obtain ⟨sh, h3, h4⟩ := hs.sub kd i sh' h
    exact (hinv.uniq kd i sh h3).sublist h4
  fresh kd i e h := Nat.lt_of_lt_of_le (hinv.fresh kd i e (hs.at h)) hs.next
  idinj kd i e kd' i' e' h h' hid := hinv.idinj _ _ _ _ _ _ (hs.at h) (hs.at h') hid

theorem sub_refl (r : Reg K) : Sub r r :=
  ⟨rfl, Nat.le_refl _, fun _ => rfl, fun _ _ sh h => ⟨sh, h, List.Sublist.refl _⟩⟩

theorem sub_trans {r1 r2 r3 : Reg K} (h12 : Sub r1 r2) (h23 : Sub r2 r3) : Sub r1 r3 := by
  refine ⟨h12.mask.trans h23.mask, Nat.le_trans h23.next h12.next, fun kd => (h12.len kd).trans (h23.len kd), ?_⟩
  intro kd i sh1 h1
  obtain ⟨sh2, h2, s12⟩ := h12.sub kd i sh1 h1
  obtain ⟨sh3, h3, s23⟩ := h23.sub kd i sh2 h2
  exact ⟨sh3, h3, s12.trans s23⟩

theorem sub_setIdx (r : Reg K) (kd : Kind) (idx : Nat) (sh' : Shard K)
    (hsub : sh'.Sublist ((r.get kd).getD idx [])) : Sub (r.setIdx kd idx sh') r := by
  refine ⟨setIdx_mask .., Nat.le_of_eq (setIdx_next ..).symm, fun kd' => length_setIdx .., ?_⟩
  intro kd' i sh1 h1
  rw [getElem?_setIdx] at h1
  split at h1
  · next hc =>
    cases h1
    obtain ⟨rfl, rfl, hlt⟩ := hc
    refine ⟨_, List.getElem?_eq_getElem hlt, ?_⟩
    rwa [List.getD_eq_getElem?_getD, List.getElem?_eq_getElem hlt] at hsub
  · exact ⟨sh1, h1, List.Sublist.refl _⟩

theorem sub_of_map {r r' : Reg K} (hm : r'.mask = r.mask) (hn : r'.next = r.next) (g : Kind → Shard K → Shard K)
    (hg : ∀ kd sh, (g kd sh).Sublist sh) (h : ∀ kd, r'.get kd = (r.get kd).map (g kd)) : Sub r' r := by
  refine ⟨hm, Nat.le_of_eq hn.symm, fun kd => by rw [h, List.length_map], ?_⟩
  intro kd i sh1 h1
  rw [h, List.getElem?_map] at h1
  cases hg' : (r.get kd)[i]? with
  | none => rw [hg'] at h1; cases h1
  | some sh => rw [hg'] at h1; cases h1; exact ⟨sh, rfl, hg kd sh⟩

theorem delete_sub (ko : KeyOps K) (r : Reg K) (kd : Kind) (k : K) : Sub (delete ko r kd k).1 r := by
  unfold delete
  simp only
  split
  · exact sub_setIdx r kd _ _ List.eraseP_sublist
  · exact sub_refl r

theorem retain_sub (r : Reg K) (kd : Kind) (f : K → Nat → Bool) : Sub (retain r kd f).1 r := by
  refine sub_of_map (set_mask ..) (set_next ..)
    (fun kd' sh => if kd' = kd then sh.filter (fun e => f e.key e.id) else sh) ?_ ?_
  · intro kd' sh; split
    · exact List.filter_sublist
    · exact List.Sublist.refl _
  · intro kd'
    simp only [retain, get_set]
    split
    · next hk => rw [hk]
    · rw [List.map_id']

theorem clear_get (r : Reg K) (kd : Kind) : (clear r).get kd = (r.get kd).map (fun _ => []) := by
  cases kd <;> rfl

theorem clear_sub (r : Reg K) : Sub (clear r) r :=
  sub_of_map rfl rfl (fun _ _ => []) (fun _ sh => List.nil_sublist sh) (clear_get r)

theorem read_after_delete {ko : KeyOps K} (L : KeyLaws ko) (r : Reg K) (hinv : Inv ko r) (kd : Kind) (k : K)
    (kd' : Kind) (k' : K) :
    readSection ko (delete ko r kd k).1 kd' k'
      = if kd' = kd ∧ ko.eqv k k' = true then none else readSection ko r kd' k' := by
  unfold delete
  simp only
  cases hl : lookup ko (r.shard kd (ko.hash k)) (ko.hash k) k with
  | none =>
    simp only
    by_cases hc : kd' = kd ∧ ko.eqv k k' = true
    · rw [if_pos hc, hc.1, readSection_congr L r kd hc.2]
      exact (readSection_none_iff ko r kd k).mpr hl
    · rw [if_neg hc]
  | some e0 =>
    simp only
    unfold readSection
    rw [shard_setShard _ _ _ _ _ _ (hinv.len kd)]
    by_cases hk : kd' = kd
    · subst hk
      by_cases he : ko.eqv k k' = true
      · rw [if_pos ⟨rfl, same_shard L r he⟩, if_pos ⟨rfl, he⟩]
        unfold lookup
        rw [← L.hash_coh _ _ he, hit_congr L he,
          find?_eraseP_self_none (hit_unique L _ _ (hinv.uniq kd' _ _ (shard_eq r kd' _ (hinv.len kd'))))]
        rfl
      · by_cases hs : shardOf r (ko.hash k') = shardOf r (ko.hash k)
        · rw [if_pos ⟨rfl, hs⟩, if_neg (fun c => he c.2), ← shard_congr r kd' hs]
          unfold lookup
          rw [find?_eraseP_disjoint]
          intro e hq
          cases hp : hit ko (ko.hash k') k' e with
          | false => rfl
          | true => exact absurd (hit_eqv L hq hp) he
        · rw [if_neg (fun c => hs c.2), if_neg (fun c => he c.2)]
    · rw [if_neg (fun c => hk c.1), if_neg (fun c => hk c.1)]

theorem delete_out (ko : KeyOps K) (r : Reg K) (kd : Kind) (k : K) :
    (delete ko r kd k).2 = (readSection ko r kd k).isSome := by
  unfold delete readSection
  simp only
  cases lookup ko (r.shard kd (ko.hash k)) (ko.hash k) k <;> rfl

theorem delete_next (ko : KeyOps K) (r : Reg K) (kd : Kind) (k : K) : (delete ko r kd k).1.next = r.next := by
  unfold delete
  simp only
  split
  · exact setShard_next ..
  · rfl

theorem shard_set (r : Reg K) (kd kd' : Kind) (v : List (Shard K)) (h : Nat) :
    (r.set kd v).shard kd' h = if kd' = kd then v.getD (shardOf r h) [] else r.shard kd' h := by
  simp only [Reg.shard, get_set, shardOf, set_mask]
  split <;> rfl

theorem getD_map_filter (l : List (Shard K)) (g : Entry K → Bool) (i : Nat) :
    (l.map (fun sh => sh.filter g)).getD i [] = (l.getD i []).filter g := by
  simp only [List.getD_eq_getElem?_getD, List.getElem?_map]
  cases l[i]? <;> rfl

theorem read_after_retain {ko : KeyOps K} (L : KeyLaws ko) (r : Reg K) (hinv : Inv ko r) (kd : Kind)
    (f : K → Nat → Bool) (hf : ∀ a b i, ko.eqv a b = true → f a i = f b i) (kd' : Kind) (k' : K) :
    readSection ko (retain r kd f).1 kd' k'
      = if kd' = kd then (readSection ko r kd' k').filter (f k') else readSection ko r kd' k' := by
  unfold readSection retain
  simp only
  rw [shard_set]
  by_cases hk : kd' = kd
  · subst hk
    rw [if_pos rfl, if_pos rfl, getD_map_filter]
    show (lookup ko ((r.shard kd' (ko.hash k')).filter _) _ _).map _ = _
    unfold lookup
    rw [find?_filter_uniq (hit_unique L _ _ (hinv.uniq kd' _ _ (shard_eq r kd' _ (hinv.len kd'))))]
    cases hfd : List.find? (hit ko (ko.hash k') k') (r.shard kd' (ko.hash k')) with
    | none => rfl
    | some e =>
      -- the predicate sees the stored key, which is equal to the one looked up
      have : f k' e.id = f e.key e.id := hf _ _ _ (hit_iff.mp (List.find?_some hfd)).2
      simp only [Option.filter, Option.map_some, this]
      split <;> rfl
  · rw [if_neg hk, if_neg hk]

theorem read_after_clear (ko : KeyOps K) (r : Reg K) (kd : Kind) (k : K) : readSection ko (clear r) kd k = none := by
  unfold readSection Reg.shard
  rw [clear_get]
  simp only [List.getD_eq_getElem?_getD, List.getElem?_map]
  cases (r.get kd)[shardOf (clear r) (ko.hash k)]? <;> rfl

def entries (r : Reg K) (kd : Kind) : List (Entry K) := (r.get kd).flatten

theorem visit_eq (r : Reg K) (kd : Kind) : visit r kd = (entries r kd).map (fun e => (e.key, e.id)) := by
  simp only [visit, visitShards, entries, List.map_flatten]

theorem mem_entries (r : Reg K) (kd : Kind) (e : Entry K) : e ∈ entries r kd ↔ ∃ i, At r kd i e := by
  unfold entries At
  rw [List.mem_flatten]
  constructor
  · intro ⟨sh, h1, h2⟩
    obtain ⟨i, hi⟩ := List.mem_iff_getElem?.mp h1
    exact ⟨i, sh, hi, h2⟩
  · intro ⟨i, sh, h1, h2⟩
    exact ⟨sh, List.mem_of_getElem? h1, h2⟩

theorem at_in_shard {ko : KeyOps K} (L : KeyLaws ko) (r : Reg K) (hinv : Inv ko r) (kd : Kind) (i : Nat)
    (e : Entry K) (hat : At r kd i e) (k : K) (he : ko.eqv k e.key = true) :
    e ∈ r.shard kd (ko.hash k) ∧ hit ko (ko.hash k) k e = true := by
  have hpl := hinv.placed kd i e hat
  have hh : e.hash = ko.hash k := hpl.1.trans (L.hash_coh _ _ he).symm
  obtain ⟨sh, h1, h2⟩ := hat
  have hi : shardOf r (ko.hash k) = i := by rw [← hh]; exact hpl.2
  have := shard_eq r kd (ko.hash k) (hinv.len kd)
  rw [hi, h1] at this
  cases this
  exact ⟨h2, hit_iff.mpr ⟨hh, he⟩⟩

theorem read_at {ko : KeyOps K} {r : Reg K} {kd : Kind} {k : K} {i : Nat} (h : readSection ko r kd k = some i) :
    ∃ e, At r kd (shardOf r (ko.hash k)) e ∧ ko.eqv k e.key = true ∧ e.id = i := by
  unfold readSection lookup at h
  cases hfd : List.find? (hit ko (ko.hash k) k) (r.shard kd (ko.hash k)) with
  | none => rw [hfd] at h; cases h
  | some m =>
    rw [hfd] at h
    exact ⟨m, at_shard (List.mem_of_find?_eq_some hfd), (hit_iff.mp (List.find?_some hfd)).2, Option.some.inj h⟩

theorem entries_lookup {ko : KeyOps K} (L : KeyLaws ko) (r : Reg K) (hinv : Inv ko r) (kd : Kind) (k : K) (i : Nat) :
    (∃ e ∈ entries r kd, ko.eqv k e.key = true ∧ e.id = i) ↔ readSection ko r kd k = some i := by
  constructor
  · intro ⟨e, he, hk, hid⟩
    obtain ⟨j, hat⟩ := (mem_entries r kd e).mp he
    obtain ⟨hmem, hhit⟩ := at_in_shard L r hinv kd j e hat k hk
    unfold readSection lookup
    rw [find?_unique (hit_unique L _ _ (hinv.uniq kd _ _ (shard_eq r kd _ (hinv.len kd)))) hmem hhit, Option.map_some, hid]
  · intro h
    obtain ⟨e, hat, hk, hid⟩ := read_at h
    exact ⟨e, (mem_entries r kd e).mpr ⟨_, hat⟩, hk, hid⟩

theorem read_inj {ko : KeyOps K} (L : KeyLaws ko) (r : Reg K) (hinv : Inv ko r) {kd kd' : Kind} {k k' : K} {i : Nat}
    (h : readSection ko r kd k = some i) (h' : readSection ko r kd' k' = some i) :
    kd = kd' ∧ ko.eqv k k' = true := by
  obtain ⟨e, he, hk, hid⟩ := read_at h
  obtain ⟨e', he', hk', hid'⟩ := read_at h'
  obtain ⟨h1, h2⟩ := hinv.idinj _ _ _ _ _ _ he he' (hid.trans hid'.symm)
  exact ⟨h1, L.trans _ _ _ (L.trans _ _ _ hk h2) (L.symm _ _ hk')⟩

theorem read_lt {ko : KeyOps K} {r : Reg K} (hinv : Inv ko r) {kd : Kind} {k : K} {i : Nat}
    (h : readSection ko r kd k = some i) : i < r.next := by
  obtain ⟨e, he, _, hid⟩ := read_at h
  exact hid ▸ hinv.fresh _ _ _ he

theorem entries_pairwise {ko : KeyOps K} (L : KeyLaws ko) (r : Reg K) (hinv : Inv ko r) (kd : Kind) :
    (entries r kd).Pairwise (fun a b => ko.eqv a.key b.key = false) := by
  unfold entries
  rw [List.pairwise_flatten]
  refine ⟨?_, ?_⟩
  · intro sh hsh
    obtain ⟨i, hi⟩ := List.mem_iff_getElem?.mp hsh
    exact hinv.uniq kd i sh hi
  · rw [List.pairwise_iff_getElem]
    intro i j hi hj hij x hx y hy
    cases hxy : ko.eqv x.key y.key with
    | false => rfl
    | true =>
      -- equal keys have one hash, hence one shard
      have hx' := hinv.placed kd i x ⟨_, List.getElem?_eq_getElem hi, hx⟩
      have hy' := hinv.placed kd j y ⟨_, List.getElem?_eq_getElem hj, hy⟩
      have : x.hash = y.hash := by rw [hx'.1, hy'.1]; exact L.hash_coh _ _ hxy
      rw [this] at hx'
      omega

theorem handleInsert_fresh (ko : KeyOps K) (acc : List (K × Nat)) (p : K × Nat)
    (h : ∀ q ∈ acc, ko.eqv p.1 q.1 = false) : handleInsert ko acc p = acc ++ [p] := by
  induction acc with
  | nil => rfl
  | cons q rest ih =>
    simp only [handleInsert, h q (List.mem_cons_self), Bool.false_eq_true, if_false, List.cons_append]
    rw [ih (fun q' hq' => h q' (List.mem_cons_of_mem _ hq'))]

theorem foldl_handleInsert {ko : KeyOps K} (L : KeyLaws ko) (l : List (K × Nat)) :
    ∀ acc : List (K × Nat), (acc ++ l).Pairwise (fun p q => ko.eqv p.1 q.1 = false) →
      l.foldl (handleInsert ko) acc = acc ++ l := by
  induction l with
  | nil => intro acc _; simp
  | cons p rest ih =>
    intro acc hp
    rw [List.foldl_cons, handleInsert_fresh]
    · rw [ih (acc ++ [p]) (by simpa using hp)]; simp
    · intro q hq
      rw [List.pairwise_append] at hp
      exact L.symm_false (hp.2.2 q hq p (List.mem_cons_self))

/-- under the invariant the snapshot map built by `get_*_handles` never overwrites: it is the visit itself -/
theorem handles_eq_visit {ko : KeyOps K} (L : KeyLaws ko) (r : Reg K) (hinv : Inv ko r) (kd : Kind) :
    handles ko r kd = visit r kd := by
  unfold handles
  rw [foldl_handleInsert L]
  · rfl
  · rw [List.nil_append, visit_eq, List.pairwise_map]
    exact entries_pairwise L r hinv kd

theorem retain_calls (r : Reg K) (kd : Kind) (f : K → Nat → Bool) : (retain r kd f).2 = visit r kd := by
  rw [visit_eq]; rfl

theorem countP_le_one {ko : KeyOps K} (L : KeyLaws ko) (k : K) (l : List (Entry K))
    (hp : l.Pairwise (fun a b => ko.eqv a.key b.key = false)) : l.countP (fun e => ko.eqv k e.key) ≤ 1 := by
  induction l with
  | nil => exact Nat.zero_le _
  | cons x xs ih =>
    rw [List.pairwise_cons] at hp
    rw [List.countP_cons]
    by_cases hx : ko.eqv k x.key = true
    · have : xs.countP (fun e => ko.eqv k e.key) = 0 := by
        rw [List.countP_eq_zero]
        intro y hy hky
        have := hp.1 y hy
        rw [L.trans _ _ _ (L.symm _ _ hx) hky] at this
        cases this
      rw [this, if_pos hx]; exact Nat.le_refl _
    · rw [if_neg hx]; exact ih hp.2

theorem inv_unique {ko : KeyOps K} (L : KeyLaws ko) {r : Reg K} (hinv : Inv ko r) (kd : Kind) (k : K) :
    (entries r kd).countP (fun e => ko.eqv k e.key) ≤ 1 :=
  countP_le_one L k _ (entries_pairwise L r hinv kd)

theorem runOps_append (ko : KeyOps K) (a b : List (Op K)) : ∀ r : Reg K,
    runOps ko r (a ++ b) = ((runOps ko (runOps ko r a).1 b).1, (runOps ko r a).2 ++ (runOps ko (runOps ko r a).1 b).2) := by
  induction a with
  | nil => intro r; rfl
  | cons op ops ih => intro r; simp only [List.cons_append, runOps, ih]

theorem runOps_mid (ko : KeyOps K) (a b : List (Op K)) (op : Op K) (r : Reg K) :
    runOps ko r (a ++ op :: b)
      = ((runOps ko (step ko (runOps ko r a).1 op).1 b).1,
         (runOps ko r a).2 ++ (step ko (runOps ko r a).1 op).2 :: (runOps ko (step ko (runOps ko r a).1 op).1 b).2) := by
  rw [runOps_append]; rfl

theorem runOps_length (ko : KeyOps K) (a : List (Op K)) : ∀ r : Reg K, (runOps ko r a).2.length = a.length := by
  induction a with
  | nil => intro r; rfl
  | cons op ops ih => intro r; simp only [runOps, List.length_cons, ih]

theorem step_goc (ko : KeyOps K) (r : Reg K) (kd : Kind) (k : K) :
    step ko r (.goc kd k) = ((getOrCreate ko r kd k).1, .id (getOrCreate ko r kd k).2) := rfl

theorem step_delete (ko : KeyOps K) (r : Reg K) (kd : Kind) (k : K) :
    step ko r (.delete kd k) = ((delete ko r kd k).1, .bool (delete ko r kd k).2) := rfl

/-- what one thread step amounts to: silent, or one sequential operation that answers the thread's current call -/
def StepSpec (ko : KeyOps K) (r : Reg K) (t : Thread K) (out : Reg K × Thread K × Option Res) : Prop :=
  match out.2.2 with
  | none => out.1 = r ∧ out.2.1.results = t.results ∧ out.2.1.calls = t.calls
  | some x => ∃ c rest, t.calls = c :: rest ∧ step ko r c.toOp = (out.1, x.toOut)
                ∧ out.2.1.results = t.results ++ [x] ∧ out.2.1.calls = rest

theorem Thread.advance_calls (t : Thread K) (x : Res) {c : Call K} {rest : List (Call K)} (h : t.calls = c :: rest) :
    (t.advance x).calls = rest := by
  simp only [Thread.advance, h, List.tail_cons]

theorem stepThread_spec (ko : KeyOps K) (r : Reg K) (t : Thread K) : StepSpec ko r t (stepThread ko r t) := by
  unfold stepThread
  split
  · exact ⟨rfl, rfl, rfl⟩
  · exact ⟨rfl, rfl, rfl⟩
  · next kd k rest _ hc =>
    split
    · next i hr =>
      exact ⟨_, rest, hc, by simp only [Call.toOp, step, getOrCreate, hr, Res.toOut], rfl, Thread.advance_calls t _ hc⟩
    · exact ⟨rfl, rfl, rfl⟩
  · next kd k rest _ hc =>
    exact ⟨_, rest, hc, by simp only [Call.toOp, step, getOrCreate_eq_write, Res.toOut], rfl, Thread.advance_calls t _ hc⟩
  · next kd k rest _ hc => exact ⟨_, rest, hc, rfl, rfl, Thread.advance_calls t _ hc⟩
  · next kd k rest _ hc => exact ⟨_, rest, hc, rfl, rfl, Thread.advance_calls t _ hc⟩
  · exact ⟨rfl, rfl, rfl⟩

def logOps (l : List (LogEntry K)) : List (Op K) := l.map (fun e => e.call.toOp)
def logOuts (l : List (LogEntry K)) : List (Out K) := l.map (fun e => e.res.toOut)

theorem step1_seq (ko : KeyOps K) (s : Sys K) (tid : Nat) :
    ∃ new, (step1 ko s tid).log = s.log ++ new
      ∧ runOps ko s.reg (logOps new) = ((step1 ko s tid).reg, logOuts new) := by
  unfold step1
  cases hg : s.threads[tid]? with
  | none => exact ⟨[], (List.append_nil _).symm, rfl⟩
  | some t =>
    have hs := stepThread_spec ko s.reg t
    dsimp only
    generalize stepThread ko s.reg t = out at hs ⊢
    obtain ⟨r', t', res⟩ := out
    cases res with
    | none =>
      obtain ⟨rfl, _, _⟩ := hs
      exact ⟨[], (List.append_nil _).symm, rfl⟩
    | some x =>
      obtain ⟨c, rest, hc, hstep, _, _⟩ := hs
      refine ⟨[⟨tid, c, x⟩], by simp only [hc], ?_⟩
      simp only [logOps, logOuts, List.map_cons, List.map_nil, runOps, hstep]

theorem run_seq (ko : KeyOps K) (sched : List Nat) : ∀ s : Sys K,
    ∃ new, (run ko s sched).log = s.log ++ new
      ∧ runOps ko s.reg (logOps new) = ((run ko s sched).reg, logOuts new) := by
  induction sched with
  | nil => intro s; exact ⟨[], (List.append_nil _).symm, rfl⟩
  | cons t ts ih =>
    intro s
    obtain ⟨n1, h1, h2⟩ := step1_seq ko s t
    obtain ⟨n2, g1, g2⟩ := ih (step1 ko s t)
    refine ⟨n1 ++ n2, ?_, ?_⟩
    · show (run ko (step1 ko s t) ts).log = _
      rw [g1, h1, List.append_assoc]
    · show _ = ((run ko (step1 ko s t) ts).reg, _)
      simp only [logOps, logOuts, List.map_append] at h2 g2 ⊢
      rw [runOps_append, h2, g2]

/-- a thread's results are its part of the log, and the calls logged for it the consumed prefix of its program -/
def LogInv (progs : List (List (Call K))) (s : Sys K) : Prop :=
  ∀ tid t, s.threads[tid]? = some t →
    t.results = (s.log.filter (fun e => e.tid == tid)).map (·.res) ∧
    (s.log.filter (fun e => e.tid == tid)).map (·.call) ++ t.calls = progs.getD tid []

theorem init_logInv (count : Nat) (progs : List (List (Call K))) : LogInv progs (Sys.init count progs) := by
  intro tid t ht
  simp only [Sys.init, List.getElem?_map] at ht
  cases hp : progs[tid]? with
  | none => rw [hp] at ht; cases ht
  | some p =>
    rw [hp] at ht
    cases ht
    exact ⟨rfl, by simp only [Sys.init, mkThread, List.filter_nil, List.map_nil, List.nil_append,
      List.getD_eq_getElem?_getD, hp, Option.getD_some]⟩

theorem step1_logInv (ko : KeyOps K) (progs : List (List (Call K))) (s : Sys K) (tid : Nat)
    (hinv : LogInv progs s) : LogInv progs (step1 ko s tid) := by
  unfold step1
  cases hg : s.threads[tid]? with
  | none => exact hinv
  | some t0 =>
    have hs := stepThread_spec ko s.reg t0
    dsimp only
    generalize stepThread ko s.reg t0 = out at hs ⊢
    obtain ⟨r', t', res⟩ := out
    have h0 := hinv tid t0 hg
    intro tid2 t ht
    rw [getElem?_setAt] at ht
    cases res with
    | none =>
      obtain ⟨_, hres, hcalls⟩ := hs
      split at ht
      · next hc => cases ht; rw [← hc.1, hres, hcalls]; exact h0
      · exact hinv tid2 t ht
    | some x =>
      obtain ⟨c, rest, hcs, _, hres, hcalls⟩ := hs
      dsimp only at hres hcalls
      simp only [hcs, List.filter_append, List.map_append]
      split at ht
      · next hc =>
        cases ht
        obtain ⟨rfl, _⟩ := hc
        rw [hcs] at h0
        simp only [hres, hcalls, h0.1, ← h0.2, List.filter_cons, beq_self_eq_true, if_true, List.filter_nil,
          List.map_cons, List.map_nil, List.append_assoc, List.singleton_append, and_self]
      · next hc =>
        have hne : (tid == tid2) = false := by
          rw [beq_eq_false_iff_ne]
          exact fun h => hc ⟨h, h ▸ (List.getElem?_eq_some_iff.mp hg).1⟩
        simp only [List.filter_cons, hne, Bool.false_eq_true, if_false, List.filter_nil, List.map_nil,
          List.append_nil]
        exact hinv tid2 t ht

theorem run_logInv (ko : KeyOps K) (progs : List (List (Call K))) (sched : List Nat) :
    ∀ s : Sys K, LogInv progs s → LogInv progs (run ko s sched) := by
  induction sched with
  | nil => intro s h; exact h
  | cons t ts ih => intro s h; exact ih _ (step1_logInv ko progs s t h)

theorem sweepSection_sub (c : LCall K) (r : Reg K) (kd : Kind) (idx : Nat) (acc : List (K × Nat)) :
    Sub (sweepSection c r kd idx ((r.get kd).getD idx []) acc).1 r := by
  cases c with
  | clear => exact sub_setIdx r kd idx [] (List.nil_sublist _)
  | retain kd' f h => exact sub_setIdx r kd idx _ List.filter_sublist
  | _ => exact sub_refl r

theorem sweepRun_sub (c : LCall K) (hold : Bool) (others : List Lock) (fuel : Nat) :
    ∀ (r : Reg K) (acc : List (K × Nat)) (kd : Kind) (idx : Nat), Sub (sweepRun c hold others fuel r acc kd idx).1 r := by
  induction fuel with
  | zero => intro r acc kd idx; exact sub_refl r
  | succ n ih =>
    intro r acc kd idx
    have hs := sweepSection_sub c r kd idx acc
    unfold sweepRun
    split
    · exact sub_refl r
    · dsimp only
      split
      · exact hs
      · split
        · exact hs
        · exact sub_trans (ih _ _ _ _) hs

/-- one token of a thread of the lock-aware machine, by what it does to the registry and to the thread's remaining
    calls: nothing (`hsame` keeps the calls, `hret` drops the finished one), a write section, a delete that returns,
    or a run of sweep sections -/
theorem lstepThread_cases {ko : KeyOps K} {r : Reg K} {others : List Lock} (t : LThread K)
    (P : Reg K × LThread K → Prop)
    (hsame : ∀ t' : LThread K, t'.calls = t.calls → P (r, t'))
    (hret : ∀ x, P (r, t.advance x))
    (hwrite : ∀ kd k (t' : LThread K), t'.calls = t.calls → P ((writeSection ko r kd k).1, t'))
    (hdel : ∀ kd k x, P ((delete ko r kd k).1, t.advance x))
    (hsweep : ∀ c hold acc kd idx (t' : LThread K), t'.calls = t.calls →
      P ((sweepRun c hold others (sweepFuel r) r acc kd idx).1,
         afterSweep c t' (sweepRun c hold others (sweepFuel r) r acc kd idx))) :
    P (lstepThread ko r others t) := by
  unfold lstepThread
  split
  · exact hsame _ rfl
  · exact hsame _ rfl
  · split
    · exact hsame _ rfl
    · split <;> exact hsame _ rfl
  · split
    · exact hsame _ rfl
    · exact hwrite _ _ _ rfl
  · exact hret _
  · split
    · exact hsame _ rfl
    · exact hret _
  · split
    · exact hsame _ rfl
    · exact hdel _ _ _
  · split
    · exact hsweep _ _ _ _ _ _ rfl
    · exact hsame _ rfl
  · split
    · split
      · exact hret _
      · exact hsweep _ _ _ _ _ _ rfl
    · exact hsame _ rfl
  · exact hsame _ rfl

theorem lrun_keeps {ko : KeyOps K} {P : LSys K → Prop} (h : ∀ s tid, P s → P (lstep ko s tid)) (sched : List Nat) :
    ∀ s, P s → P (lrun ko s sched) := by
  induction sched with
  | nil => intro s hs; exact hs
  | cons tid rest ih => intro s hs; exact ih _ (h s tid hs)

end MetricsVerif.Registry
