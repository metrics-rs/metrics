/-
C05, conservation with clearers outside the K1 pattern.

K1 (known finding K-C05-K1) is "a pusher's slot claim lands on a block that a clear has already detached".  In the
step machine that is a `pClaim blk` step that really claims a slot (`write < B`) of a block whose ghost owner
(`Proofs/BucketClear.lean`: `live` / `det tid` / `read`) is not `live` — a block leaves `live` only through a
clear's detach CAS, so a clear's detach step lies between the pusher's tail load (or its installing CAS) and its
slot claim.  `k1Count` counts these steps along a schedule (a ghost counter next to `grun`; `step` itself is not
touched).

Without K1 steps: a clearer reads a detached block only after it saw it quiesced, nobody claims in it afterwards, so
what the clear hands to its callback is EVERY claimed slot of the block (`KInv.eq`: delivered = cells of the blocks
marked `read`, with equality), all of them published (`KInv.rpub`).  Every block has one owner, so at every moment
published slots = handed to clears + live + detached (`accounted_of_noK1`); at quiescence no block is `det`, every
`live` block is on the chain from the tail and fully published, hence claimed cells = delivered + visible, and
claimed cells = pushes (`arun_vals`).
-/
import MetricsVerif.Proofs.BucketSnap

namespace MetricsVerif.Bucket

/-! ### the K1 step: `k1PC`, `k1Step`, `k1Count` and its accumulator form `k1Fold` are defined in
    `Model/BucketGhost.lean` (the driver evaluates them); here, what they say about the state -/

theorem k1Fold_eq (sched : List Nat) : ∀ (s : Sys) (own : Nat → Owner) (n : Nat),
    k1Fold s own n sched = n + k1Count s own sched := by
  induction sched with
  | nil => intro s own n; rfl
  | cons t ts ih =>
    intro s own n
    simp only [k1Fold, k1Count, ih]
    omega

theorem k1PC_true {s : Sys} {own : Nat → Owner} {pc : PC} (h : k1PC s own pc = true) :
    ∃ blk r, pc = .pClaim blk r ∧ (getBlock s blk).write < s.B ∧ own blk ≠ .live := by
  cases pc with
  | pClaim blk r =>
    simp only [k1PC, Bool.and_eq_true, decide_eq_true_eq, Bool.not_eq_true', decide_eq_false_iff_not] at h
    exact ⟨blk, r, rfl, h⟩
  | _ => cases h

theorem k1Step_true {s : Sys} {own : Nat → Owner} {tid : Nat} :
    k1Step s own tid = true ↔
      ∃ t blk r, s.threads[tid]? = some t ∧ t.pc = .pClaim blk r ∧ (getBlock s blk).write < s.B ∧ own blk ≠ .live := by
  unfold k1Step
  cases hg : s.threads[tid]? with
  | none => simp
  | some t =>
    constructor
    · intro h
      obtain ⟨blk, r, hp, h1, h2⟩ := k1PC_true h
      exact ⟨t, blk, r, rfl, hp, h1, h2⟩
    · rintro ⟨t', blk, r, ht, hp, h1, h2⟩
      cases ht
      simp only [hp, k1PC, h1, h2, decide_true, decide_false, Bool.not_false, Bool.and_self]

theorem no_claim_of_no_k1 (s : Sys) (own : Nat → Owner) (tid k : Nat) (hno : k1Step s own tid = false)
    (hown : own k ≠ .live) :
    ¬ ((∃ t r, s.threads[tid]? = some t ∧ t.pc = .pClaim k r) ∧ (getBlock s k).write < s.B) := by
  rintro ⟨⟨t, r, hg, hp⟩, hw⟩
  rw [k1Step_true.mpr ⟨t, k, r, hg, hp, hw, hown⟩] at hno
  cases hno

theorem k1Step_false_of_count {s : Sys} {own : Nat → Owner} {t : Nat} {ts : List Nat}
    (hc : k1Count s own (t :: ts) = 0) : k1Step s own t = false ∧ k1Count (step s t) (gown s own t) ts = 0 := by
  simp only [k1Count] at hc
  cases hx : k1Step s own t with
  | false => rw [hx] at hc; simp at hc; exact ⟨rfl, hc⟩
  | true => rw [hx] at hc; simp at hc

theorem gownT_cases (s : Sys) (t : Thread) (tid : Nat) (own : Nat → Owner) :
    gownT s t tid own = own
    ∨ (∃ old, t.pc = .cCas old ∧ s.tail = some old
        ∧ gownT s t tid own = fun i => if i < s.blocks.length ∧ own i = .live then .det tid else own i)
    ∨ (∃ blk, t.pc = .cRead blk ∧ gownT s t tid own = fun i => if i = blk then .read else own i) := by
  unfold gownT
  cases hp : t.pc with
  | cCas old =>
    by_cases ht : s.tail = some old
    · exact Or.inr (Or.inl ⟨old, rfl, ht, by simp only [ht, if_true]⟩)
    · exact Or.inl (by simp only [ht, if_false])
  | cRead blk => exact Or.inr (Or.inr ⟨blk, rfl, rfl⟩)
  | _ => exact Or.inl rfl

theorem gownT_det (s : Sys) (t : Thread) (tid : Nat) (own : Nat → Owner) (i u : Nat)
    (h : gownT s t tid own i = .det u) : own i = .det u ∨ u = tid := by
  rcases gownT_cases s t tid own with e | ⟨old, _, _, e⟩ | ⟨blk, _, e⟩ <;> rw [e] at h
  · exact Or.inl h
  · simp only at h
    split at h
    · injection h with e; exact Or.inr e.symm
    · exact Or.inl h
  · simp only at h
    split at h
    · cases h
    · exact Or.inl h

theorem gownT_read (s : Sys) (t : Thread) (tid : Nat) (own : Nat → Owner) (i : Nat)
    (h : gownT s t tid own i = .read) : own i = .read ∨ t.pc = .cRead i := by
  rcases gownT_cases s t tid own with e | ⟨old, _, _, e⟩ | ⟨blk, hp, e⟩ <;> rw [e] at h
  · exact Or.inl h
  · simp only at h
    split at h
    · cases h
    · exact Or.inl h
  · simp only at h
    split at h
    · rename_i e'; exact Or.inr (by rw [e']; exact hp)
    · exact Or.inl h

/-- a block that is not reachable from the tail never becomes reachable again -/
theorem gownT_not_live (s : Sys) (t : Thread) (tid : Nat) (own : Nat → Owner) (i : Nat) (h : own i ≠ .live) :
    gownT s t tid own i ≠ .live := by
  rcases gownT_cases s t tid own with e | ⟨old, _, _, e⟩ | ⟨blk, _, e⟩ <;> rw [e]
  · exact h
  · simp only; split
    · intro c; cases c
    · exact h
  · simp only; split
    · intro c; cases c
    · exact h

theorem grun_not_live (sched : List Nat) : ∀ (s : Sys) (own : Nat → Owner) (i : Nat), own i ≠ .live →
    (grun s own sched).2 i ≠ .live := by
  induction sched with
  | nil => intro s own i h; exact h
  | cons t ts ih =>
    intro s own i h
    refine ih _ _ i ?_
    cases hg : s.threads[t]? with
    | none => rw [gown_none hg]; exact h
    | some u => rw [gown_eq hg]; exact gownT_not_live s u t own i h

theorem grun_append (a b : List Nat) : ∀ (s : Sys) (own : Nat → Owner),
    grun s own (a ++ b) = grun (grun s own a).1 (grun s own a).2 b := by
  induction a with
  | nil => intro s own; rfl
  | cons t ts ih => intro s own; simp only [List.cons_append, grun]; exact ih _ _

theorem gownT_isRead (s : Sys) (t : Thread) (tid : Nat) (own : Nat → Owner) (hrd : ∀ blk, t.pc ≠ .cRead blk) (i : Nat) :
    isRead (gownT s t tid own i) = isRead (own i) := by
  rcases gownT_cases s t tid own with e | ⟨old, _, _, e⟩ | ⟨blk, hp, _⟩
  · rw [e]
  · rw [e]; simp only
    split
    · rename_i hc; rw [hc.2]; rfl
    · rfl
  · exact absurd hp (hrd blk)

/-- values the RUNNING clears have been handed so far (their callbacks already ran on these blocks) -/
def inRunningClears (s : Sys) : List Nat := s.threads.flatMap (fun t => if (claim t.pc).isSome then t.acc else [])

theorem Dsum_split (s : Sys) (v : Nat) : Dsum v s = (delivered s).count v + (inRunningClears s).count v := by
  rw [delivered_eq]
  unfold Dsum inRunningClears
  induction s.threads with
  | nil => rfl
  | cons t ts ih =>
    simp only [List.map_cons, List.sum_cons, List.flatMap_cons, List.count_append, ih]
    have : (dl t).count v = (t.results.flatMap clearedVals).count v
        + (if (claim t.pc).isSome then t.acc else []).count v := by simp [dl, List.count_append]
    omega

theorem inRunningClears_nil (s : Sys) (h : ∀ (i : Nat) (t : Thread), s.threads[i]? = some t → claim t.pc = none) :
    inRunningClears s = [] := by
  unfold inRunningClears
  rw [List.flatMap_eq_nil_iff]
  intro t ht
  obtain ⟨i, hi⟩ := List.getElem?_of_mem ht
  simp [h i t hi]

/-- a step that is not a clearer's read hands nothing to a clear callback -/
theorem GEff.dl_of_not_read {s : Sys} {t t' : Thread} {bs' : List Block} {tl' : Option Nat} (eff : GEff s t bs' tl' t')
    (han : AccNil t) (hrd : ∀ blk, t.pc ≠ .cRead blk) (v : Nat) : (dl t').count v = (dl t).count v := by
  cases eff with
  | quiet _ _ _ _ _ hdl => exact hdl v
  | append _ _ _ _ _ _ hdl _ => exact hdl v
  | detach old hp _ => simp [dl, hp, claim, han (by rw [hp]; rfl)]
  | read blk hp => exact absurd hp (hrd blk)
  | nextNone blk hp _ => rw [dl_advance]; simp [dl, hp, claim, clearedVals, List.count_append]
  | nextSome blk n hp _ => simp [dl, hp, claim]

/-- a clearer arrives at its read step only from a quiescence check that succeeded in the same state -/
theorem stepThread_cRead (s : Sys) (t : Thread) (blk : Nat) (h : (stepThread s t).2.pc = .cRead blk) :
    (getBlock s blk).quiesced s.B = true ∧ (stepThread s t).1 = s := by
  have := (stepThread_eff s t).arrived
  rw [h] at this
  exact this

theorem wcount_publishCell_le (cs : List Cell) (i : Nat) : wcount (publishCell cs i) ≤ wcount cs := by
  induction cs generalizing i with
  | nil => exact Nat.le_refl _
  | cons c cs ih =>
    cases i with
    | zero =>
      simp only [publishCell, wcount, List.countP_cons]
      cases c <;> simp [Cell.isPub]
    | succ n =>
      have := ih n
      simp only [publishCell, wcount, List.countP_cons] at this ⊢
      omega

theorem wcount_zero_of_takeWhile (cs : List Cell) (h : cs.takeWhile Cell.isPub = cs) : wcount cs = 0 := by
  induction cs with
  | nil => rfl
  | cons c cs ih =>
    cases c with
    | written w => simp [Cell.isPub] at h
    | published w =>
      simp only [List.takeWhile_cons, Cell.isPub, if_true, List.cons.injEq, true_and] at h
      have := ih h
      simp only [wcount, List.countP_cons, Cell.isPub] at this ⊢
      simpa using this

theorem pubc_eq_of_no_written (v : Nat) (cs : List Cell) (h : wcount cs = 0) : pubc v cs = (cs.map Cell.val).count v := by
  induction cs with
  | nil => rfl
  | cons c cs ih =>
    cases c with
    | written w => simp [wcount, Cell.isPub] at h
    | published w =>
      have h' : wcount cs = 0 := by
        simp only [wcount, List.countP_cons, Cell.isPub] at h ⊢
        simpa using h
      have := ih h'
      simp only [pubc, pubVals, List.filterMap_cons, Cell.pubVal, List.map_cons, Cell.val, List.count_cons] at this ⊢
      omega

/-- in runs without K1 steps: a clearer at its read step has a quiesced block in front of it; what clears were
    handed is EXACTLY the cells of the blocks marked `read`; every `det` mark belongs to an existing thread; blocks
    marked `read` are fully published -/
structure KInv (s : Sys) (own : Nat → Owner) : Prop where
  rdq : ∀ (tid : Nat) (t : Thread) (blk : Nat), s.threads[tid]? = some t → t.pc = .cRead blk →
      (getBlock s blk).quiesced s.B = true
  eq : ∀ v, Dsum v s = rsum v own s.blocks 0
  detex : ∀ (i tid : Nat), own i = .det tid → tid < s.threads.length
  rpub : ∀ i, own i = .read → wcount (getBlock s i).cells = 0

theorem kstep_inv (s : Sys) (own : Nat → Owner) (tid : Nat) (h : GInv s own) (ha : GAcc s own) (hk : KInv s own)
    (hno : k1Step s own tid = false) : KInv (step s tid) (gown s own tid) := by
  cases hg : s.threads[tid]? with
  | none => rw [step_none hg, gown_none hg]; exact hk
  | some t =>
    have hcl : ∀ k, k < s.blocks.length → (getBlock s k).cells.length = min (getBlock s k).write s.B :=
      fun k hk' => h.base.inv.cells_len k _ (getBlock_get hk')
    -- a block that is not live: nobody claims in it during this step
    have hnk := fun k (hown : own k ≠ .live) => no_claim_of_no_k1 s own tid k hno hown
    have hblk := fun k => step_blk s tid k
    -- the block a clearer of thread `j` is about to read is marked `det j`, hence not live
    have hdet : ∀ (j : Nat) (u : Thread) (blk : Nat), s.threads[j]? = some u → u.pc = .cRead blk →
        blk < s.blocks.length ∧ own blk = .det j := by
      intro j u blk hu hpu
      have hc := h.clr j u hu
      rw [hpu] at hc
      obtain ⟨hlt, bt, hbt, hr, _⟩ := hc
      exact ⟨hlt, (hr blk).mpr ⟨hbt, Or.inr ⟨rfl, rfl⟩⟩⟩
    rw [gown_eq hg]
    refine ⟨?_, ?_, ?_, ?_⟩
    · intro j u blk hu hpu
      rw [step_B]
      by_cases hj : tid = j
      · subst hj
        rw [step_self hg] at hu; cases hu
        obtain ⟨hq, hs⟩ := stepThread_cRead s t blk hpu
        rw [step_getBlock s tid t hg, hs]; exact hq
      · rw [step_other s hj] at hu
        obtain ⟨hlt, hown⟩ := hdet j u blk hu hpu
        exact (hblk blk).quiesced (hnk blk (by rw [hown]; intro c; cases c)) (hcl blk hlt) (hk.rdq j u blk hu hpu)
    · intro v
      have heq := hk.eq v
      have hD := sum_map_setAt (fun t => (dl t).count v) s.threads tid (stepThread s t).2 t hg
      have hDs : Dsum v (step s tid) = ((setAt s.threads tid (stepThread s t).2).map (fun t => (dl t).count v)).sum := by
        unfold Dsum; rw [(step_threads s tid t hg).1]
      rw [rsum_eq_osum] at heq ⊢
      unfold Dsum at heq
      by_cases hrd : ∃ blk, t.pc = .cRead blk
      · -- the read step: block `blk` becomes `read`, and all its cells are handed to the callback
        obtain ⟨blk, hp⟩ := hrd
        obtain ⟨hlt, hown⟩ := hdet tid t blk hg hp
        have hgo : gownT s t tid own = fun i => if i = blk then .read else own i := by unfold gownT; rw [hp]
        have hst := stepThread_at_cRead (s := s) hp
        have hblocks : (step s tid).blocks = s.blocks := by rw [step_eq s tid t hg, hst]
        have hm := osum_mark (f := cnt v) rfl isRead own (fun i => if i = blk then .read else own i) blk
          (by rw [hown]; rfl) (by simp [isRead]) (fun i hi => by simp [hi]) s.blocks 0 (Nat.zero_le _) (by omega)
        have hd : (getBlock s blk).data.count v = cnt v (getBlock s blk) := by
          rw [quiesced_data_all s.B _ (hcl blk hlt) (hk.rdq tid t blk hg hp)]; rfl
        have e : (dl (stepThread s t).2).count v = (dl t).count v + (getBlock s blk).data.count v := by
          rw [hst]; simp [dl, hp, claim, List.count_append]; omega
        rw [hgo, hblocks, hm]
        show _ = _ + cnt v (getBlock s blk)
        omega
      · -- any other step: the same blocks are `read`, with the same values
        have hrd' : ∀ blk, t.pc ≠ .cRead blk := fun blk hp => hrd ⟨blk, hp⟩
        have hdl := (stepThread_geff s t).dl_of_not_read (ha.accnil tid t hg) hrd' v
        have hR : osum (cnt v) isRead (gownT s t tid own) (step s tid).blocks 0 = osum (cnt v) isRead own s.blocks 0 :=
          osum_congr rfl rfl _ _ 0 (fun i => by
            unfold ow
            rw [Nat.zero_add, gownT_isRead s t tid own hrd']
            by_cases hr : isRead (own i) = true
            · simp only [hr, if_true]
              exact (hblk i).cnt_eq (hnk i (by intro c; rw [c] at hr; cases hr)) v
            · rw [if_neg hr, if_neg hr])
        omega
    · intro i u hiu
      rw [(step_threads s tid t hg).1, setAt_length]
      rcases gownT_det s t tid own i u hiu with h1 | h1
      · exact hk.detex i u h1
      · rw [h1]; exact lt_of_getElem?_some hg
    · intro i ho
      -- `i` was `read` already, or is being read now after it was seen quiesced: either way fully published and not live
      have hw0 : own i ≠ .live ∧ wcount (getBlock s i).cells = 0 := by
        rcases gownT_read s t tid own i ho with h1 | h1
        · exact ⟨(by rw [h1]; intro c; cases c), hk.rpub i h1⟩
        · obtain ⟨hlt, hown⟩ := hdet tid t i hg h1
          exact ⟨(by rw [hown]; intro c; cases c),
            wcount_zero_of_takeWhile _ (quiesced_all_pub s.B _ (hcl i hlt) (hk.rdq tid t i hg h1))⟩
      rcases hblk i with ⟨hc, _⟩ | ⟨hp, hw, _⟩ | ⟨_, j, hc⟩
      · rw [hc]; exact hw0.2
      · exact absurd ⟨hp, hw⟩ (hnk i hw0.1)
      · rw [hc]
        have := wcount_publishCell_le (getBlock s i).cells j
        omega

theorem init_kinv (B : Nat) (progs : List (List Call)) : KInv (init B progs) own0 := by
  refine ⟨?_, ?_, ?_, ?_⟩
  · intro tid t blk ht hp
    obtain ⟨p, _, rfl⟩ := init_thread ht
    cases hp
  · exact fun v => Nat.le_antisymm ((init_gacc B progs).le v) (Nat.zero_le _)
  · intro i tid h; cases h
  · intro i h; cases h

theorem krun_inv (sched : List Nat) : ∀ s own, GInv s own → GAcc s own → KInv s own → k1Count s own sched = 0 →
    GInv (grun s own sched).1 (grun s own sched).2 ∧ GAcc (grun s own sched).1 (grun s own sched).2
      ∧ KInv (grun s own sched).1 (grun s own sched).2 := by
  induction sched with
  | nil => intro s own h ha hk _; exact ⟨h, ha, hk⟩
  | cons t ts ih =>
    intro s own h ha hk hc
    obtain ⟨hno, hc'⟩ := k1Step_false_of_count hc
    simp only [grun]
    exact ih _ _ (gstep_inv s own t h) (gstep_acc s own t h ha) (kstep_inv s own t h ha hk hno) hc'

theorem reach_noK1 (B : Nat) (progs : List (List Call)) (sched : List Nat) (hk : k1Count (init B progs) own0 sched = 0) :
    GInv (run (init B progs) sched) (grun (init B progs) own0 sched).2
      ∧ KInv (run (init B progs) sched) (grun (init B progs) own0 sched).2 := by
  obtain ⟨hg, _, hkv⟩ := krun_inv sched _ _ (init_ginv B progs) (init_gacc B progs) (init_kinv B progs) hk
  rw [grun_fst] at hg hkv
  exact ⟨hg, hkv⟩

theorem reach_ginv (B : Nat) (progs : List (List Call)) (sched : List Nat) :
    GInv (run (init B progs) sched) (grun (init B progs) own0 sched).2 := by
  have := (grun_inv sched _ _ (init_ginv B progs) (init_gacc B progs)).1
  rw [grun_fst] at this; exact this

/-- published slots holding `v` in the blocks whose owner satisfies `p` -/
def pubIn (v : Nat) (p : Owner → Bool) (own : Nat → Owner) (s : Sys) : Nat :=
  osum (fun b => pubc v b.cells) p own s.blocks 0

/-- in the blocks marked `read` every claimed slot is published: what clears were handed = published slots there -/
theorem KInv.pubIn_read {s : Sys} {own : Nat → Owner} (hk : KInv s own) (v : Nat) : pubIn v isRead own s = Dsum v s := by
  rw [hk.eq v, rsum_eq_osum]
  refine osum_congr rfl rfl _ _ 0 (fun i => ?_)
  unfold ow
  rw [Nat.zero_add]
  split
  · rename_i hr
    exact pubc_eq_of_no_written v _ (hk.rpub i (isRead_iff.mp hr))
  · rfl

/-- **accounting at every moment, without K1**: every published slot (= completed push) holding `v` has been handed
    to a clear callback (`Dsum`: finished clears and the running ones), or sits in a block reachable from the tail,
    or in a detached block a clearer is still walking — and nothing else was handed to clears -/
theorem accounted_of_noK1 (B : Nat) (progs : List (List Call)) (sched : List Nat)
    (hk : k1Count (init B progs) own0 sched = 0) (v : Nat) :
    pubCount v (run (init B progs) sched)
      = Dsum v (run (init B progs) sched)
        + pubIn v isLive (grun (init B progs) own0 sched).2 (run (init B progs) sched)
        + pubIn v isDet (grun (init B progs) own0 sched).2 (run (init B progs) sched) := by
  obtain ⟨_, hkv⟩ := reach_noK1 B progs sched hk
  rw [← hkv.pubIn_read v]
  unfold pubCount needFrom pubIn
  rw [List.drop_zero]
  exact osum_partition _ _ _ 0

/-- claimed-but-unpublished slots holding `v` -/
def wrc (v : Nat) (cs : List Cell) : Nat := cs.countP (fun c => !c.isPub && c.val == v)

theorem pubc_add_wrc (v : Nat) (cs : List Cell) : pubc v cs + wrc v cs = (cs.map Cell.val).count v := by
  induction cs with
  | nil => rfl
  | cons c cs ih =>
    cases c with
    | written w =>
      simp only [pubc, pubVals, List.filterMap_cons, Cell.pubVal, wrc, List.countP_cons, Cell.isPub, Cell.val,
        List.map_cons, List.count_cons] at ih ⊢
      by_cases hw : w = v <;> simp [hw] <;> omega
    | published w =>
      simp only [pubc, pubVals, List.filterMap_cons, Cell.pubVal, wrc, List.countP_cons, Cell.isPub, Cell.val,
        List.map_cons, List.count_cons] at ih ⊢
      by_cases hw : w = v <;> simp [hw] <;> omega

/-- slots holding `v` whose push is between slot write and publish -/
def inFlight (v : Nat) (s : Sys) : Nat := (s.blocks.map (fun b => wrc v b.cells)).sum

theorem pubCount_add_inFlight (v : Nat) (s : Sys) : pubCount v s + inFlight v s = cellsCount v s := by
  unfold pubCount needFrom inFlight cellsCount
  rw [List.drop_zero]
  induction s.blocks with
  | nil => rfl
  | cons b bs ih =>
    have := pubc_add_wrc v b.cells
    simp only [List.map_cons, List.sum_cons] at ih ⊢
    omega

theorem visible_eq_lsum (s : Sys) (own : Nat → Owner) (hg : GInv s own) (nowr : ∀ b ∈ s.blocks, wcount b.cells = 0)
    (v : Nat) : (visible s).count v = lsum v own s.blocks 0 := by
  rw [visible_count hg v]
  refine osum_congr rfl rfl _ _ 0 (fun i => ?_)
  unfold ow blk0
  cases hb : s.blocks[i]? with
  | none => rfl
  | some b => simp only [Option.getD_some, data_of_no_written b (nowr b (List.mem_of_getElem? hb))]; rfl

/-- **conservation without K1** (count form, on the ghost-carrying run): in a run of ANY programs whose schedule
    contains no K1 step, at quiescence every value has been delivered to clears plus is visible to a snapshot exactly
    as often as it was pushed -/
theorem conserved_of_noK1 (B : Nat) (progs : List (List Call)) (sched : List Nat)
    (hk : k1Count (init B progs) own0 sched = 0) (hq : quiescent (run (init B progs) sched) = true) (v : Nat) :
    (delivered (run (init B progs) sched)).count v + (visible (run (init B progs) sched)).count v
      = progs.flatten.count (.push v) := by
  obtain ⟨hg, hkv⟩ := reach_noK1 B progs sched hk
  have hvals := arun_vals v sched _ (init_ainv2 B progs)
  rw [todoSum_init] at hvals
  have hc0 : cellsCount v (init B progs) = 0 := by simp [cellsCount, init]
  rw [hc0] at hvals
  have hdone := calls_nil_of_quiescent B progs sched hq
  generalize (grun (init B progs) own0 sched).2 = own at hg hkv
  generalize run (init B progs) sched = s at hg hkv hvals hdone hq ⊢
  have hpc : ∀ (i : Nat) (t : Thread), s.threads[i]? = some t → claim t.pc = none :=
    fun i t ht => by rw [(hdone t (List.mem_of_getElem? ht)).1]; rfl
  -- every push has claimed its slot and published it
  have htodo : todoSum v s = 0 :=
    sum_map_eq_zero_iff.2 (fun t ht => by simp [todo, (hdone t ht).1, (hdone t ht).2])
  have hw0 : wSum s = 0 := by rw [hg.base.inv.wp, pSum_zero_of_quiescent s hq]
  have nowr : ∀ b ∈ s.blocks, wcount b.cells = 0 := sum_map_eq_zero_iff.1 hw0
  -- no clear is running: nothing is detached, and what clears were handed has been delivered
  have hdl := Dsum_split s v
  rw [inRunningClears_nil s hpc] at hdl
  have hdet : osum (cnt v) isDet own s.blocks 0 = 0 := by
    refine osum_zero rfl _ _ _ _ (fun i _ => ?_)
    cases ho : own (0 + i) with
    | live => rfl
    | read => rfl
    | det u =>
      have hlt := hkv.detex _ u ho
      have hc := hg.clr u _ (List.getElem?_eq_getElem hlt)
      rw [hpc u _ (List.getElem?_eq_getElem hlt)] at hc
      exact absurd ho (hc _)
  have hpart := osum_partition (cnt v) own s.blocks 0
  have hvis := visible_eq_lsum s own hg nowr v
  have heq := hkv.eq v
  rw [lsum_eq_osum] at hvis
  rw [rsum_eq_osum] at heq
  rw [cellsCount_eq] at hvals
  unfold csum at hvals
  simp only [List.count_nil, Nat.add_zero] at hdl
  omega

/-! ### programs without clears never take a K1 step -/

theorem gown_own0_of_noclear (s : Sys) (tid : Nat) (h : NoClrS s) : gown s own0 tid = own0 := by
  cases hg : s.threads[tid]? with
  | none => exact gown_none hg _
  | some t =>
    have hn := (h tid t hg).2
    rw [gown_eq hg]
    rcases gownT_cases s t tid own0 with e | ⟨old, hp, _⟩ | ⟨blk, hp, _⟩
    · exact e
    · rw [hp] at hn; cases hn
    · rw [hp] at hn; cases hn

theorem k1Count_noclear (sched : List Nat) : ∀ s, NoClrS s → k1Count s own0 sched = 0 := by
  induction sched with
  | nil => intro s _; rfl
  | cons t ts ih =>
    intro s h
    have h1 : k1Step s own0 t = false := by
      cases hx : k1Step s own0 t with
      | false => rfl
      | true => obtain ⟨_, blk, _, _, _, _, hl⟩ := k1Step_true.mp hx; exact absurd rfl hl
    simp only [k1Count, h1, gown_own0_of_noclear s t h, ih _ (noclrS_step s t h)]
    rfl

theorem grun_own0_noclear (sched : List Nat) : ∀ s, NoClrS s → (grun s own0 sched).2 = own0 := by
  induction sched with
  | nil => intro s _; rfl
  | cons t ts ih =>
    intro s h
    simp only [grun, gown_own0_of_noclear s t h]
    exact ih _ (noclrS_step s t h)

/-- without clears nothing is ever delivered -/
theorem delivered_zero_noclear (B : Nat) (progs : List (List Call)) (hnc : ∀ p ∈ progs, Call.clear ∉ p)
    (sched : List Nat) (v : Nat) : (delivered (run (init B progs) sched)).count v = 0 := by
  obtain ⟨_, ha⟩ := grun_inv sched _ _ (init_ginv B progs) (init_gacc B progs)
  rw [grun_fst, grun_own0_noclear sched _ (init_noclrS B progs hnc)] at ha
  have h1 := delivered_count_le_Dsum (run (init B progs) sched) v
  have h2 := ha.le v
  rw [rsum_eq_osum, osum_zero rfl _ _ _ _ (fun _ _ => rfl)] at h2
  omega

/-! ### what K1 means in terms of the state alone, and of the trace

`live` (ghost) = reachable from the tail through `next` (state).  A thread arrives at `pClaim blk` only in a state
whose tail is `blk`; a block stops being live only in a clear's successful detach CAS.  So a K1 step is exactly a
slot claim with a clear's detach step between the pusher's tail load / installing CAS and the claim. -/

/-- ids of the blocks a walk from `start` through `next` visits (same recursion as `chainData`) -/
def chainIds (s : Sys) : Nat → Option Nat → List Nat
  | 0, _ => []
  | _, none => []
  | fuel + 1, some i => i :: chainIds s fuel (getBlock s i).next

/-- block `blk` is reachable from the tail -/
def onChain (s : Sys) (blk : Nat) : Bool := (chainIds s s.blocks.length s.tail).contains blk

theorem chainIds_seg (s : Sys) (lo : Nat) : ∀ (n fuel : Nat), n < fuel → lo + n < s.blocks.length →
    Seg s.blocks lo (lo + n) → ∀ i, i ∈ chainIds s fuel (some (lo + n)) ↔ (lo ≤ i ∧ i ≤ lo + n) := by
  intro n
  induction n with
  | zero =>
    intro fuel hf hlt hseg i
    have hlt0 : lo < s.blocks.length := hlt
    have hnx : (getBlock s lo).next = none := by
      have := hseg.1; rw [nextAt_getBlock hlt0] at this; injection this
    cases fuel with
    | zero => omega
    | succ f =>
      have : chainIds s f none = [] := by cases f <;> rfl
      simp only [Nat.add_zero, chainIds, hnx, this, List.mem_singleton]
      omega
  | succ n ih =>
    intro fuel hf hlt hseg i
    have hlt' : lo + (n + 1) < s.blocks.length := hlt
    have hnx : (getBlock s (lo + (n + 1))).next = some (lo + n) := by
      have := hseg.2 (lo + (n + 1)) (by omega) (Nat.le_refl _)
      rw [nextAt_getBlock hlt'] at this
      injection this
    cases fuel with
    | zero => omega
    | succ f =>
      have hrec := ih f (by omega) (by omega) ⟨hseg.1, fun i h1 h2 => hseg.2 i h1 (by omega)⟩ i
      simp only [chainIds, hnx, List.mem_cons, hrec]
      omega

/-- the ghost mark `live` is exactly reachability from the tail -/
theorem live_iff_onChain {s : Sys} {own : Nat → Owner} (hg : GInv s own) (blk : Nat) (hlt : blk < s.blocks.length) :
    own blk = .live ↔ onChain s blk = true := by
  obtain ⟨lb, hlb, hlive, htn, hts⟩ := hg.live
  unfold onChain
  rw [hlive blk]
  cases ht : s.tail with
  | none =>
    have : chainIds s s.blocks.length none = [] := by cases s.blocks.length <;> rfl
    have hl := htn ht
    rw [this]; simp; omega
  | some b =>
    obtain ⟨h4, hseg⟩ := hts b ht
    have hbl := hg.base.inv.tail_valid b ht
    obtain ⟨n, rfl⟩ : ∃ n, b = lb + n := ⟨b - lb, by omega⟩
    have := chainIds_seg s lb n s.blocks.length (by omega) (by omega) hseg blk
    rw [List.contains_iff_mem, this]
    omega

/-- **K1, state form**: a K1 step is a step of a pusher parked at `blk.push.claim` that claims a free slot of a block
    which is not reachable from the tail any more -/
theorem k1Step_iff {s : Sys} {own : Nat → Owner} (hg : GInv s own) (tid : Nat) :
    k1Step s own tid = true ↔
      ∃ t blk r, s.threads[tid]? = some t ∧ t.pc = .pClaim blk r ∧ (getBlock s blk).write < s.B
        ∧ onChain s blk = false := by
  rw [k1Step_true]
  have hl : ∀ t blk r, s.threads[tid]? = some t → t.pc = .pClaim blk r → (own blk ≠ .live ↔ onChain s blk = false) := by
    intro t blk r ht hp
    rw [Ne, live_iff_onChain hg blk ((hg.base.inv.thr tid t ht).claim_lt blk r hp), Bool.not_eq_true]
  constructor
  · rintro ⟨t, blk, r, ht, hp, h1, h2⟩; exact ⟨t, blk, r, ht, hp, h1, (hl t blk r ht hp).mp h2⟩
  · rintro ⟨t, blk, r, ht, hp, h1, h2⟩; exact ⟨t, blk, r, ht, hp, h1, (hl t blk r ht hp).mpr h2⟩

/-- a thread arrives at `blk.push.claim` for block `blk` only in a state whose tail IS `blk` (tail load, lost or won
    first-block CAS, won hand-over CAS) -/
theorem claim_target_is_tail (s : Sys) (t : Thread) (blk : Nat) (r : Bool)
    (h : (stepThread s t).2.pc = .pClaim blk r) : (stepThread s t).1.tail = some blk := by
  have := (stepThread_eff s t).arrived
  rw [h] at this
  exact this

/-- thread `tid`'s next step is a clear's detach CAS that will succeed -/
def detachStep (s : Sys) (tid : Nat) : Prop := ∃ t old, s.threads[tid]? = some t ∧ t.pc = .cCas old ∧ s.tail = some old

/-- a block stops being live only in a clear's successful detach CAS -/
theorem live_lost_only_by_detach {s : Sys} {own : Nat → Owner} (hg : GInv s own) (tid blk : Nat)
    (h1 : own blk = .live) (h2 : gown s own tid blk ≠ .live) : detachStep s tid := by
  cases hgt : s.threads[tid]? with
  | none => rw [gown_none hgt] at h2; exact absurd h1 h2
  | some t =>
    rw [gown_eq hgt] at h2
    rcases gownT_cases s t tid own with e | ⟨old, hp, ht, _⟩ | ⟨b, hp, e⟩
    · rw [e] at h2; exact absurd h1 h2
    · exact ⟨t, old, hgt, hp, ht⟩
    · rw [e] at h2
      simp only at h2
      split at h2
      · rename_i hb; subst hb
        have hc := hg.clr tid t hgt
        rw [hp] at hc
        obtain ⟨_, bt, hbt, hr, _⟩ := hc
        have : own blk = .det tid := (hr blk).mpr ⟨hbt, Or.inr ⟨rfl, rfl⟩⟩
        rw [h1] at this; cases this
      · exact absurd h1 h2

/-- **a block leaves `live` only by a detach**: if a block was live at some moment of a run and is not live later, a clear's successful
    detach CAS was executed in between -/
theorem detach_between (sched : List Nat) : ∀ (s : Sys) (own : Nat → Owner), GInv s own → ∀ blk, own blk = .live →
    (grun s own sched).2 blk ≠ .live →
    ∃ pre tid post, sched = pre ++ tid :: post ∧ detachStep (run s pre) tid := by
  induction sched with
  | nil => intro s own _ blk h1 h2; exact absurd h1 h2
  | cons t ts ih =>
    intro s own hg blk h1 h2
    by_cases hl : gown s own t blk = .live
    · simp only [grun] at h2
      obtain ⟨pre, tid, post, e, hd⟩ := ih _ _ (gstep_inv s own t hg) blk hl h2
      refine ⟨t :: pre, tid, post, by rw [e]; rfl, ?_⟩
      simpa [run] using hd
    · exact ⟨[], t, ts, rfl, live_lost_only_by_detach hg t blk h1 hl⟩

theorem tail_is_live {s : Sys} {own : Nat → Owner} (hg : GInv s own) {b : Nat} (ht : s.tail = some b) : own b = .live := by
  obtain ⟨lb, _, hlive, _, hts⟩ := hg.live
  exact (hlive b).mpr (hts b ht).1

/-- **K1, trace form**: block `blk` is the tail after `pre` (this is the case whenever a pusher has just obtained
    `blk` for its claim, `claim_target_is_tail`); if after `pre ++ mid` a thread parked at the claim on `blk` is about
    to take a K1 step, then `mid` contains a clear's successful detach CAS -/
theorem k1_needs_detach (B : Nat) (progs : List (List Call)) (pre mid : List Nat) (tid blk : Nat) (t : Thread) (r : Bool)
    (htail : (run (init B progs) pre).tail = some blk)
    (hg : (run (init B progs) (pre ++ mid)).threads[tid]? = some t) (hp : t.pc = .pClaim blk r)
    (hk : k1Step (run (init B progs) (pre ++ mid)) (grun (init B progs) own0 (pre ++ mid)).2 tid = true) :
    ∃ m1 c m2, mid = m1 ++ c :: m2 ∧ detachStep (run (init B progs) (pre ++ m1)) c := by
  have hg1 := (grun_inv pre _ _ (init_ginv B progs) (init_gacc B progs)).1
  obtain ⟨t', blk', r', ht', hp', _, hnl⟩ := k1Step_true.mp hk
  rw [hg] at ht'; cases ht'
  rw [hp] at hp'; cases hp'
  rw [grun_append] at hnl
  have hl := tail_is_live hg1 (by rw [grun_fst]; exact htail)
  obtain ⟨m1, c, m2, e, hd⟩ := detach_between mid _ _ hg1 blk hl hnl
  refine ⟨m1, c, m2, e, ?_⟩
  rw [grun_fst] at hd
  rw [run_append]; exact hd

end MetricsVerif.Bucket
