/-
Generic lemmas about replacing one element of a thread list (`setAt`), shared by the step-machine proofs.
-/
import MetricsVerif.Model.Sched

namespace MetricsVerif

/-- `setAt` is core's `List.set`; every lemma below is the corresponding core lemma read through this. -/
theorem setAt_eq_set {α : Type} (l : List α) (i : Nat) (a : α) : setAt l i a = l.set i a := by
  induction l generalizing i with
  | nil => rfl
  | cons x xs ih => cases i <;> simp [setAt, ih]

theorem setAt_length {α : Type} (l : List α) (i : Nat) (a : α) : (setAt l i a).length = l.length := by
  rw [setAt_eq_set, List.length_set]

theorem mem_setAt {α : Type} {l : List α} {i : Nat} {a u : α} (h : u ∈ setAt l i a) : u = a ∨ u ∈ l :=
  (List.mem_or_eq_of_mem_set (setAt_eq_set l i a ▸ h)).symm

theorem getElem?_setAt {α : Type} (l : List α) (i j : Nat) (a : α) :
    (setAt l i a)[j]? = if i = j ∧ j < l.length then some a else l[j]? := by
  rw [setAt_eq_set, List.getElem?_set]
  by_cases hij : i = j
  · by_cases hj : j < l.length <;> simp [hij, hj]
  · simp [hij]

theorem lt_of_getElem?_some {α : Type _} {l : List α} {i : Nat} {x : α} (h : l[i]? = some x) : i < l.length :=
  (List.getElem?_eq_some_iff.1 h).1

theorem getElem?_setAt_self {α : Type} {l : List α} {i : Nat} {x : α} (a : α) (h : l[i]? = some x) :
    (setAt l i a)[i]? = some a := by
  rw [getElem?_setAt, if_pos ⟨rfl, lt_of_getElem?_some h⟩]

theorem getElem?_setAt_ne {α : Type} (l : List α) {i j : Nat} (a : α) (h : i ≠ j) : (setAt l i a)[j]? = l[j]? := by
  rw [getElem?_setAt, if_neg (fun c => h c.1)]

theorem sum_map_eq_zero_iff {α : Type} {f : α → Nat} {l : List α} : (l.map f).sum = 0 ↔ ∀ x ∈ l, f x = 0 := by
  rw [List.sum_eq_zero_iff_forall_eq_nat, List.forall_mem_map]

theorem le_sum_map {α : Type} (f : α → Nat) {l : List α} {x : α} (h : x ∈ l) : f x ≤ (l.map f).sum := by
  induction l with
  | nil => cases h
  | cons y ys ih =>
    rw [List.map_cons, List.sum_cons]
    rcases List.mem_cons.mp h with rfl | h
    · exact Nat.le_add_right _ _
    · exact Nat.le_trans (ih h) (Nat.le_add_left _ _)

theorem mem_setAt_self {α : Type} {l : List α} {i : Nat} {a x : α} (h : l[i]? = some x) : a ∈ setAt l i a :=
  List.mem_of_getElem? (i := i) (by simp [getElem?_setAt, (List.getElem?_eq_some_iff.1 h).1])

/-- weighted count: replacing element `x` at position `i` by `a` moves the total by `f a - f x` -/
theorem sum_map_setAt {α : Type} (f : α → Nat) (l : List α) (i : Nat) (a x : α) (h : l[i]? = some x) :
    ((setAt l i a).map f).sum + f x = (l.map f).sum + f a := by
  induction l generalizing i with
  | nil => simp at h
  | cons y ys ih =>
    cases i with
    | zero =>
      simp only [List.getElem?_cons_zero, Option.some.injEq] at h
      subst h
      simp only [setAt, List.map_cons, List.sum_cons]; omega
    | succ n =>
      simp only [List.getElem?_cons_succ] at h
      have := ih n h
      simp only [setAt, List.map_cons, List.sum_cons]; omega

theorem setAt_same {α : Type} (l : List α) (i : Nat) (x : α) (h : l[i]? = some x) : setAt l i x = l := by
  obtain ⟨hi, rfl⟩ := List.getElem?_eq_some_iff.1 h
  rw [setAt_eq_set, List.set_getElem_self]

theorem setAt_map {α β : Type} (f : α → β) (l : List α) (i : Nat) (x : α) :
    setAt (l.map f) i (f x) = (setAt l i x).map f := by
  rw [setAt_eq_set, setAt_eq_set, List.map_set]

/-- replacing an element by one that weighs `k` less lowers the total by `k` -/
theorem sum_map_setAt_add {α : Type} (f : α → Nat) {l : List α} {i : Nat} {a x : α} {k : Nat} (h : l[i]? = some x)
    (hk : f x = f a + k) : ((setAt l i a).map f).sum + k = (l.map f).sum :=
  Nat.add_right_cancel (m := f a) (by
    rw [Nat.add_assoc, Nat.add_comm k, ← hk]
    exact sum_map_setAt f l i a x h)

theorem map_setAt_same {α β : Type} {f : α → β} {l : List α} {i : Nat} {x y : α} (hg : l[i]? = some x)
    (hf : f y = f x) : (setAt l i y).map f = l.map f := by
  rw [← setAt_map, hf]
  exact setAt_same _ _ _ (by rw [List.getElem?_map, hg]; rfl)

end MetricsVerif
