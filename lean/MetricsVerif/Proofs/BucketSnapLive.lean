/-
C05, snapshot completeness for ANY programs (clears included): a `data_with` whose tail load is executed in state `S0`
hands to its callback every value that is published in `S0` in a block reachable from the tail of `S0` — whatever
happens afterwards (hand-overs, clears detaching the chain under the reader, stragglers, waits of any length).
Rests on: `next` links of existing blocks never change, the reader leaves a block's wait only when the block is
quiesced, a quiesced block's `data()` is all of its claimed slots, published slots are never retracted.
Programs without clears are the special case in which every block stays reachable (`noclear_snapshot`).
-/
import MetricsVerif.Proofs.BucketCons

namespace MetricsVerif.Bucket

/-- where the reader is on the chain `lo ..= hi` of `S0` (blocks `bs0`), and what it has collected so far -/
def RdPC (lo hi : Nat) (bs0 : List Block) (s : Sys) (acc : List Nat) (pc : PC) : Prop :=
  ∃ k, lo ≤ k ∧ k ≤ hi ∧
    (((pc = .dQuiesced k ∨ pc = .dWait k) ∧ ∀ v, needFrom v bs0 (k + 1) ≤ acc.count v)
    ∨ (pc = .dRead k ∧ (∀ v, needFrom v bs0 (k + 1) ≤ acc.count v)
        ∧ ∀ v, pubc v (blk0 bs0 k).cells ≤ (getBlock s k).data.count v)
    ∨ (pc = .dNext k ∧ ∀ v, needFrom v bs0 k ≤ acc.count v))

/-- the call that loaded the tail in `S0` is still walking and on track, or it has returned everything that was
    published in `S0` in the blocks `lo ..` -/
def RdInv (lo hi : Nat) (bs0 : List Block) (r0 : List Res) (s : Sys) (t : Thread) : Prop :=
  (t.results = r0 ∧ RdPC lo hi bs0 s t.acc t.pc)
  ∨ ∃ vs rest, t.results = r0 ++ Res.snapshot vs :: rest ∧ ∀ v, needFrom v bs0 lo ≤ vs.count v

theorem RdInv.mono {lo hi : Nat} {bs0 : List Block} {r0 : List Res} {s s' : Sys} {t : Thread}
    (hd : ∀ k v, (getBlock s k).data.count v ≤ (getBlock s' k).data.count v)
    (h : RdInv lo hi bs0 r0 s t) : RdInv lo hi bs0 r0 s' t := by
  rcases h with ⟨h1, k, hlo, hhi, h2 | ⟨hp, hA, hD⟩ | h2⟩ | h
  · exact Or.inl ⟨h1, k, hlo, hhi, Or.inl h2⟩
  · exact Or.inl ⟨h1, k, hlo, hhi, Or.inr (Or.inl ⟨hp, hA, fun v => Nat.le_trans (hD v) (hd k v)⟩)⟩
  · exact Or.inl ⟨h1, k, hlo, hhi, Or.inr (Or.inr h2)⟩
  · exact Or.inr h

structure LiveSnapInv (lo hi : Nat) (bs0 : List Block) (r0 : List Res) (i : Nat) (s : Sys) : Prop where
  base : AInv s
  len : bs0.length ≤ s.blocks.length
  hi_lt : hi < bs0.length
  seg : Seg bs0 lo hi
  links : ∀ k, k < bs0.length → nextAt s.blocks k = nextAt bs0 k
  mono : ∀ k v, pubc v (blk0 bs0 k).cells ≤ pubc v (getBlock s k).cells
  rd : ∃ t, s.threads[i]? = some t ∧ RdInv lo hi bs0 r0 s t

theorem next_on_chain {lo hi : Nat} {bs0 : List Block} {r0 : List Res} {i : Nat} {s : Sys}
    (h : LiveSnapInv lo hi bs0 r0 i s) {k : Nat} (h1 : lo ≤ k) (h2 : k ≤ hi) :
    (getBlock s k).next = if k = lo then none else some (k - 1) := by
  have hk0 : k < bs0.length := Nat.lt_of_le_of_lt h2 h.hi_lt
  have hk : k < s.blocks.length := Nat.lt_of_lt_of_le hk0 h.len
  have e := h.links k hk0
  rw [nextAt_getBlock hk] at e
  by_cases hz : k = lo
  · subst hz
    rw [h.seg.1] at e
    simp only [if_true]; exact Option.some.inj e
  · rw [h.seg.2 k (by omega) h2] at e
    simp only [hz, if_false]; exact Option.some.inj e

theorem rd_own_step {lo hi : Nat} {bs0 : List Block} {r0 : List Res} {i : Nat} {s : Sys}
    (h : LiveSnapInv lo hi bs0 r0 i s) (t : Thread)
    (hr : RdInv lo hi bs0 r0 s t) : RdInv lo hi bs0 r0 (stepThread s t).1 (stepThread s t).2 := by
  rcases hr with ⟨hres, k, hlo, hhi, ⟨hp, hA⟩ | ⟨hp, hA, hD⟩ | ⟨hp, hA⟩⟩ | ⟨vs, rest, hres, hv⟩
  · -- the quiescence check: the reader moves on only when the block is quiesced, and then `data()` is all of it
    have hk : k < s.blocks.length := Nat.lt_of_lt_of_le (Nat.lt_of_le_of_lt hhi h.hi_lt) h.len
    rw [stepThread_at_dWait hp]
    refine Or.inl ⟨hres, k, hlo, hhi, ?_⟩
    by_cases hq : (getBlock s k).quiesced s.B = true
    · refine Or.inr (Or.inl ⟨by simp only [hq, if_true], hA, fun v => ?_⟩)
      rw [quiesced_data_all s.B (getBlock s k) (h.base.cells_len k _ (getBlock_get hk)) hq]
      exact Nat.le_trans (h.mono k v) (pubc_le_vals v _)
    · exact Or.inl ⟨Or.inr (by simp only [hq]; rfl), hA⟩
  · rw [stepThread_at_dRead hp]
    refine Or.inl ⟨hres, k, hlo, hhi, Or.inr (Or.inr ⟨rfl, fun v => ?_⟩)⟩
    show _ ≤ (t.acc ++ (getBlock s k).data).count v
    rw [needFrom_succ, List.count_append]
    have := hA v; have := hD v; omega
  · have hnx := next_on_chain h hlo hhi
    rw [stepThread_at_dNext hp]
    cases hn : (getBlock s k).next with
    | none =>
      rw [hn] at hnx
      have hk0 : k = lo := by
        by_cases hz : k = lo
        · exact hz
        · simp [hz] at hnx
      subst hk0
      exact Or.inr ⟨t.acc, [], by simp [Thread.advance, hres], hA⟩
    | some n =>
      rw [hn] at hnx
      have hk0 : k ≠ lo ∧ n = k - 1 := by
        by_cases hz : k = lo
        · simp [hz] at hnx
        · simp only [hz, if_false, Option.some.injEq] at hnx; exact ⟨hz, hnx⟩
      refine Or.inl ⟨hres, n, by omega, by omega, Or.inl ⟨Or.inl rfl, fun v => ?_⟩⟩
      rw [show n + 1 = k by omega]; exact hA v
  · rcases (stepThread_teff s t).results with e | ⟨r, e, _⟩
    · exact Or.inr ⟨vs, rest, by rw [e, hres], hv⟩
    · exact Or.inr ⟨vs, rest ++ [r], by rw [e, hres]; simp, hv⟩

theorem livesnap_step {lo hi : Nat} {bs0 : List Block} {r0 : List Res} {i : Nat} (s : Sys) (tid : Nat)
    (h : LiveSnapInv lo hi bs0 r0 i s) : LiveSnapInv lo hi bs0 r0 i (step s tid) := by
  refine ⟨astep_inv s tid h.base, Nat.le_trans h.len (step_len s tid), h.hi_lt, h.seg,
    fun k hk => by rw [step_nextAt s tid k (Nat.lt_of_lt_of_le hk h.len)]; exact h.links k hk,
    fun k v => Nat.le_trans (h.mono k v) (pubc_step_mono v s tid k), ?_⟩
  obtain ⟨t, ht, hr⟩ := h.rd
  by_cases hi' : tid = i
  · subst hi'
    refine ⟨(stepThread s t).2, step_self ht, (rd_own_step h t hr).mono (fun k v => ?_)⟩
    rw [step_getBlock s tid t ht]; exact Nat.le_refl _
  · exact ⟨t, by rw [step_other s hi']; exact ht, hr.mono (step_data_count_le s tid)⟩

theorem livesnap_run {lo hi : Nat} {bs0 : List Block} {r0 : List Res} {i : Nat} (sched : List Nat) :
    ∀ s, LiveSnapInv lo hi bs0 r0 i s → LiveSnapInv lo hi bs0 r0 i (run s sched) := by
  induction sched with
  | nil => intro s h; exact h
  | cons t ts ih => intro s h; exact ih _ (livesnap_step s t h)

theorem osum_live_eq (f : Block → Nat) (own : Nat → Owner) (lb : Nat) (hlive : ∀ i, own i = .live ↔ lb ≤ i) :
    ∀ (bs : List Block) (k : Nat), osum f isLive own bs k = ((bs.drop (lb - k)).map f).sum := by
  intro bs
  induction bs with
  | nil => intro k; simp [osum]
  | cons b bs ih =>
    intro k
    simp only [osum, ih (k + 1)]
    by_cases hk : lb ≤ k
    · have e1 : lb - k = 0 := by omega
      have e2 : lb - (k + 1) = 0 := by omega
      have : isLive (own k) = true := by rw [(hlive k).mpr hk]; rfl
      simp [e1, e2, this]
    · have e1 : lb - k = (lb - (k + 1)) + 1 := by omega
      have : isLive (own k) = false := by
        cases ho : own k with
        | live => exact absurd ((hlive k).mp ho) hk
        | det u => rfl
        | read => rfl
      rw [e1]
      simp [this]

/-- `pre`: the schedule up to the tail load of thread `i`'s `data_with`; `rest`: any continuation -/
theorem live_snapshot (B : Nat) (progs : List (List Call)) (pre rest : List Nat) (i : Nat) (t0 t1 : Thread)
    (h0 : (run (init B progs) pre).threads[i]? = some t0) (hpc : t0.pc = .dLoadTail)
    (h1 : (run (init B progs) (pre ++ i :: rest)).threads[i]? = some t1)
    (vs : List Nat) (hres : t1.results = t0.results ++ [.snapshot vs]) (v : Nat) :
    pubIn v isLive (grun (init B progs) own0 pre).2 (run (init B progs) pre) ≤ vs.count v := by
  have hg := reach_ginv B progs pre
  generalize (grun (init B progs) own0 pre).2 = own at hg ⊢
  have hrun : run (init B progs) (pre ++ i :: rest) = run (step (run (init B progs) pre) i) rest := run_append pre _ _
  rw [hrun] at h1
  generalize run (init B progs) pre = s at hg h0 h1 ⊢
  obtain ⟨lb, hlb, hlive, htn, hts⟩ := hg.live
  -- what the claim is about: published `v`s from the live bound upwards
  have hpub : pubIn v isLive own s = needFrom v s.blocks lb := by
    unfold pubIn needFrom
    rw [osum_live_eq _ own lb hlive s.blocks 0, Nat.sub_zero]
  rw [hpub]
  have hst := step_eq s i t0 h0
  have hthr := step_self h0
  cases ht : s.tail with
  | none =>
    -- empty bucket: the call returns at once, and nothing is live
    have hl := htn ht
    have hz : needFrom v s.blocks lb = 0 := needFrom_ge v _ _ (by omega)
    rw [hz]; exact Nat.zero_le _
  | some hi =>
    obtain ⟨hlo, hseg⟩ := hts hi ht
    have hhi := hg.base.inv.tail_valid hi ht
    have e2 : (stepThread s t0).2 = { t0 with pc := .dQuiesced hi } := by
      rw [stepThread_at_dLoadTail hpc, ht]
    have e1 : (stepThread s t0).1 = s := by rw [stepThread_at_dLoadTail hpc]
    have hblocks : (step s i).blocks = s.blocks := by rw [hst, e1]
    have hinv0 : LiveSnapInv lb hi s.blocks t0.results i (step s i) :=
      { base := astep_inv s i hg.base.inv
        len := by rw [hblocks]; exact Nat.le_refl _
        hi_lt := by omega
        seg := hseg
        links := fun k _ => by rw [hblocks]
        mono := fun k v => by rw [getBlock_eq_blk0, hblocks]; exact Nat.le_refl _
        rd := ⟨_, hthr, Or.inl ⟨by rw [e2], hi, hlo, Nat.le_refl _, Or.inl ⟨Or.inl (by rw [e2]), fun v => by
          rw [needFrom_ge v s.blocks (hi + 1) (by omega)]; exact Nat.zero_le _⟩⟩⟩ }
    have hinv := livesnap_run rest _ hinv0
    obtain ⟨t, ht', hr⟩ := hinv.rd
    rw [h1] at ht'; injection ht' with ht'; subst ht'
    rcases hr with ⟨hsame, _⟩ | ⟨vs', rest', hres', hv⟩
    · rw [hsame] at hres
      have := congrArg List.length hres
      simp at this
    · rw [hres'] at hres
      have h2 := List.append_cancel_left hres
      simp only [List.cons.injEq, Res.snapshot.injEq] at h2
      obtain ⟨rfl, _⟩ := h2
      exact hv v

theorem first_step_of_call (s0 : Sys) (s1 s2 : List Nat) (i : Nat) (t0 t1 : Thread)
    (h0 : (run s0 s1).threads[i]? = some t0) (h1 : (run s0 (s1 ++ s2)).threads[i]? = some t1)
    (hne : t1.results ≠ t0.results) :
    ∃ a b, s2 = a ++ i :: b ∧ (run s0 (s1 ++ a)).threads[i]? = some t0 := by
  obtain ⟨a, b, e, ha⟩ := first_step_split i s2 (run s0 s1) (by
    rw [← run_append, h0, h1]; intro e; cases e; exact hne rfl)
  exact ⟨a, b, e, by rw [run_append, ha, h0]⟩

/-- programs without clears: every block stays reachable from the tail -/
theorem pubIn_live_own0 (v : Nat) (s : Sys) : pubIn v isLive own0 s = pubCount v s := by
  unfold pubIn pubCount needFrom
  rw [osum_live_eq _ own0 0 (fun i => ⟨fun _ => Nat.zero_le _, fun _ => rfl⟩) s.blocks 0]

/-- a value published after `s1` is still published, and reachable from the tail, when the call loads the tail -/
theorem noclear_snapshot (B : Nat) (progs : List (List Call)) (hnc : ∀ p ∈ progs, Call.clear ∉ p) (s1 s2 : List Nat)
    (i : Nat) (t0 t1 : Thread)
    (h0 : (run (init B progs) s1).threads[i]? = some t0) (hpc : t0.pc = .dLoadTail)
    (h1 : (run (init B progs) (s1 ++ s2)).threads[i]? = some t1)
    (vs : List Nat) (hres : t1.results = t0.results ++ [.snapshot vs]) (v : Nat) :
    pubCount v (run (init B progs) s1) ≤ vs.count v := by
  obtain ⟨a, b, e, ha⟩ := first_step_of_call _ s1 s2 i t0 t1 h0 h1 (by rw [hres]; simp)
  subst e
  rw [← List.append_assoc] at h1
  have := live_snapshot B progs (s1 ++ a) b i t0 t1 ha hpc h1 vs hres v
  rw [grun_own0_noclear _ _ (init_noclrS B progs hnc), pubIn_live_own0, run_append] at this
  exact Nat.le_trans (pubCount_run_mono v a _) this

end MetricsVerif.Bucket
