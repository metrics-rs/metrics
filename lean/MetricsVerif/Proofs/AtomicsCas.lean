/-
C04: the CAS-loop machine (`Model/AtomicsCas.lean`) refines the single-RMW machine: every step either
leaves everything but a thread-private register untouched, or is exactly one step of the RMW machine.
-/
import MetricsVerif.Proofs.Atomics
import MetricsVerif.Model.AtomicsCas

namespace MetricsVerif.Atomics
variable {F : Type}

section
variable (A : Carrier F) {sh : Shape} {s : Sys F} {x : Nat × Bool} {t : Thread F} {c : Call F} {rest : List (Call F)}
  {u : Unit}

theorem casStep_none (sh : Shape) (hg : s.threads[x.1]? = none) : casStep A sh s x = s := by
  simp only [casStep, hg]

theorem casStep_done (sh : Shape) (hg : s.threads[x.1]? = some t) (hp : t.prog = []) : casStep A sh s x = s := by
  simp only [casStep, hg, casStepThread, hp, setAt_same _ _ _ hg]

theorem casStep_noop (sh : Shape) (hg : s.threads[x.1]? = some t) (hp : t.prog = c :: rest) (hh : c.h = none) :
    casStep A sh s x = { s with threads := setAt s.threads x.1 { prog := rest, tmp := none } } := by
  simp only [casStep, hg, casStepThread, hp, hh]

/-- a single instruction, or a compare-exchange on the value the cell holds that does not fail spuriously:
    the update takes effect and the call returns -/
theorem casStep_commit (hg : s.threads[x.1]? = some t) (hp : t.prog = c :: rest) (hh : c.h = some u)
    (hc : sh.rmw c.op = true ∨ (t.tmp = some s.cell ∧ x.2 = false)) :
    casStep A sh s x
      = { commit A s x.1 c.op s.cell with threads := setAt s.threads x.1 { prog := rest, tmp := none } } := by
  simp only [casStep, hg, casStepThread, hp, hh]
  cases hr : sh.rmw c.op with
  | true => rfl
  | false =>
    obtain ⟨ht, hx⟩ := hc.resolve_left fun h => Bool.false_ne_true (hr.symm.trans h)
    simp only [Bool.false_eq_true, if_false, ht, hx, and_self, if_true]
    rfl

/-- the load, a compare-exchange on a stale value, a spurious failure: only `prev` changes, to what the cell holds -/
theorem casStep_retry (hg : s.threads[x.1]? = some t) (hp : t.prog = c :: rest) (hh : c.h = some u)
    (hr : sh.rmw c.op = false) (hc : ¬(t.tmp = some s.cell ∧ x.2 = false)) :
    casStep A sh s x = { s with threads := setAt s.threads x.1 { t with tmp := some s.cell } } := by
  simp only [casStep, hg, casStepThread, hp, hh, hr, Bool.false_eq_true, if_false]
  cases ht : t.tmp with
  | none => rfl
  | some prev =>
    have hne : ¬(prev = s.cell ∧ x.2 = false) := fun h => hc ⟨by rw [ht, h.1], h.2⟩
    simp only [if_neg hne]

end

theorem casRun_cons (A : Carrier F) (sh : Shape) (s : Sys F) (x : Nat × Bool) (xs : List (Nat × Bool)) :
    casRun A sh s (x :: xs) = casRun A sh (casStep A sh s x) xs :=
  rfl

theorem erase_threads_get (s : Sys F) (tid : Nat) : (erase s).threads[tid]? = (s.threads[tid]?).map clr :=
  List.getElem?_map

theorem erase_init (c0 : Nat) (progs : List (List (Call F))) : erase (init c0 progs) = init c0 progs := by
  simp only [erase, init, List.map_map]
  congr 1

/-- one CAS-machine step is silent or is one RMW-machine step; the other two facts are what the liveness statements
    of `Props/C04.lean` need of a step -/
theorem cas_step_sim (A : Carrier F) (sh : Shape) (s : Sys F) (x : Nat × Bool) :
    (erase (casStep A sh s x) = erase s ∨ erase (casStep A sh s x) = step A allRmw (erase s) x.1)
    ∧ (∀ tid, x.1 ≠ tid → (casStep A sh s x).threads[tid]? = s.threads[tid]?)
    ∧ (((casStep A sh s x).log = s.log ∧ (casStep A sh s x).cell = s.cell)
        ∨ (casStep A sh s x).log.length = s.log.length + 1) := by
  cases hg : s.threads[x.1]? with
  | none => rw [casStep_none A sh hg]; exact ⟨.inl rfl, fun _ _ => rfl, .inl ⟨rfl, rfl⟩⟩
  | some t =>
    have hge : (erase s).threads[x.1]? = some (clr t) := by rw [erase_threads_get, hg]; rfl
    cases hp : t.prog with
    | nil => rw [casStep_done A sh hg hp]; exact ⟨.inl rfl, fun _ _ => rfl, .inl ⟨rfl, rfl⟩⟩
    | cons c rest =>
      have hpe : (clr t).prog = c :: rest := hp
      -- the thread list after the call has returned, on either machine
      have hret := (setAt_map clr s.threads x.1 { prog := rest, tmp := none }).symm
      cases hh : c.h with
      | none =>
        rw [casStep_noop A sh hg hp hh, step_noop A allRmw hge hpe hh]
        exact ⟨.inr (congrArg (Sys.mk _ · _ _) hret), fun _ => getElem?_setAt_ne _ _, .inl ⟨rfl, rfl⟩⟩
      | some u =>
        by_cases hc : sh.rmw c.op = true ∨ (t.tmp = some s.cell ∧ x.2 = false)
        · rw [casStep_commit A hg hp hh hc, step_rmw A hge hpe hh (rmw_of_all allRmw_all c.op)]
          exact ⟨.inr (congrArg (Sys.mk _ · _ _) hret), fun _ => getElem?_setAt_ne _ _, .inr rfl⟩
        · rw [casStep_retry A hg hp hh (Bool.eq_false_iff.2 fun h => hc (.inl h)) fun h => hc (.inr h)]
          exact ⟨.inl (congrArg (Sys.mk _ · _ _) (map_setAt_same hg rfl)), fun _ => getElem?_setAt_ne _ _, .inl ⟨rfl, rfl⟩⟩

/-- **refinement**: for every CAS-machine schedule there is an RMW-machine schedule — a subsequence of its thread
    ids: the steps at which an update took effect or a no-op call returned — that leads to the same cell, log,
    wrap flag and remaining programs -/
theorem cas_run_refines (A : Carrier F) (sh : Shape) :
    ∀ (sched : List (Nat × Bool)) (s : Sys F),
      ∃ sched' : List Nat, sched'.Sublist (sched.map Prod.fst)
        ∧ erase (casRun A sh s sched) = run A allRmw (erase s) sched' := by
  intro sched
  induction sched with
  | nil => exact fun _ => ⟨[], List.Sublist.refl _, rfl⟩
  | cons x xs ih =>
    intro s
    obtain ⟨sched', hsub, he⟩ := ih (casStep A sh s x)
    rcases (cas_step_sim A sh s x).1 with h | h
    · exact ⟨sched', List.Sublist.cons _ hsub, by rw [casRun_cons, ← h]; exact he⟩
    · exact ⟨x.1 :: sched', List.Sublist.cons_cons _ hsub, by rw [casRun_cons, run, List.foldl_cons, ← h]; exact he⟩

theorem erase_allDone (s : Sys F) : AllDone (erase s) ↔ AllDone s := by
  simp only [AllDone, erase, List.mem_map]
  constructor
  · intro h t ht; exact h (clr t) ⟨t, ht, rfl⟩
  · rintro h t' ⟨t, ht, rfl⟩; exact h t ht

theorem erase_pendingLen (s : Sys F) : pendingLen (erase s) = pendingLen s := by
  simp only [pendingLen, erase, List.map_map]
  rfl

theorem casRun_log (A : Carrier F) (sh : Shape) :
    ∀ (mid : List (Nat × Bool)) (s : Sys F), s.log.length ≤ (casRun A sh s mid).log.length
      ∧ ((casRun A sh s mid).log.length = s.log.length → (casRun A sh s mid).cell = s.cell)
  | [], _ => ⟨Nat.le_refl _, fun _ => rfl⟩
  | x :: xs, s => by
    obtain ⟨hle, hc⟩ := casRun_log A sh xs (casStep A sh s x)
    rw [casRun_cons]
    rcases (cas_step_sim A sh s x).2.2 with h | h
    · rw [h.1] at hle hc
      rw [h.2] at hc
      exact ⟨hle, hc⟩
    · rw [h] at hle
      exact ⟨Nat.le_of_succ_le hle, fun he => absurd (he ▸ hle) (Nat.not_succ_le_self _)⟩

theorem casRun_other_threads (A : Carrier F) (sh : Shape) (tid : Nat) :
    ∀ (mid : List (Nat × Bool)) (s : Sys F), (∀ x ∈ mid, x.1 ≠ tid) →
      (casRun A sh s mid).threads[tid]? = s.threads[tid]?
  | [], _, _ => rfl
  | x :: xs, s, hne => by
    rw [casRun_cons]
    exact (casRun_other_threads A sh tid xs _ fun y hy => hne y (List.mem_cons_of_mem _ hy)).trans
      ((cas_step_sim A sh s x).2.1 tid (hne x List.mem_cons_self))

end MetricsVerif.Atomics
