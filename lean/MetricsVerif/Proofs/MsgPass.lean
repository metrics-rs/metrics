import MetricsVerif.Model.MsgPass
/-! invariant of the publish/consume step machine: everything published was written before, everything a
    reader has seen so far was written, and no race flag is set when the orderings are release/acquire -/
namespace MetricsVerif.MsgPass

def Inv (s : Sys) : Prop :=
  (∀ w ∈ s.published, w ∈ s.written)
  ∧ (∀ (t : Nat) (seen : List Nat), s.pcs[t]? = some (PC.rRead seen) → ∀ w ∈ seen, w ∈ s.written)
  ∧ (∀ (t : Nat), s.pcs[t]? = some PC.wPublish → t ∈ s.written)
  ∧ s.uninit = false
  ∧ (s.ords.pubRelease = true → s.ords.obsAcquire = true → s.raced = false)

theorem init_pcs {o : Ords} {roles : List Bool} {t : Nat} {pc : PC} (h : (init o roles).pcs[t]? = some pc) :
    pc = .wWrite ∨ pc = .rObserve := by
  obtain ⟨b, _, rfl⟩ := Option.map_eq_some_iff.mp ((List.getElem?_map ..).symm.trans h)
  cases b <;> simp

theorem init_inv (o : Ords) (roles : List Bool) : Inv (init o roles) := by
  refine ⟨nofun, fun _ _ h => ?_, fun _ h => ?_, rfl, fun _ _ => rfl⟩ <;> rcases init_pcs h with e | e <;> cases e

theorem step_ords (s : Sys) (t : Nat) : (step s t).ords = s.ords := by
  unfold step; split <;> rfl

/-- the two clauses of `Inv` about program counters after thread `t` has moved to `pc` and the written set has grown to
    `w'`: they hold again if they hold of `pc` itself -/
theorem pcs_setPc {s : Sys} (h : Inv s) (t : Nat) (pc : PC) (w' : List Nat) (hmono : ∀ x ∈ s.written, x ∈ w')
    (hr : ∀ seen, pc = .rRead seen → ∀ w ∈ seen, w ∈ w') (hw : pc = .wPublish → t ∈ w') :
    (∀ (u : Nat) (seen : List Nat), (setPc s.pcs t pc)[u]? = some (.rRead seen) → ∀ w ∈ seen, w ∈ w')
    ∧ (∀ u : Nat, (setPc s.pcs t pc)[u]? = some .wPublish → u ∈ w') := by
  unfold setPc
  refine ⟨fun u seen hs w hm => ?_, fun u hs => ?_⟩ <;> rw [List.getElem?_set] at hs <;> split at hs
  · split at hs
    · exact hr seen (Option.some.inj hs) w hm
    · cases hs
  · exact hmono w (h.2.1 u seen hs w hm)
  · rename_i e
    split at hs
    · exact e ▸ hw (Option.some.inj hs)
    · cases hs
  · exact hmono u (h.2.2.1 u hs)

theorem step_inv (s : Sys) (t : Nat) (h : Inv s) : Inv (step s t) := by
  have ⟨hp, hr, hw, hu, hrace⟩ := h
  unfold step
  split
  · -- the slot write
    obtain ⟨h1, h2⟩ := pcs_setPc h t .wPublish (t :: s.written) (fun _ => List.mem_cons_of_mem _) nofun
      (fun _ => List.mem_cons_self)
    exact ⟨fun w hm => List.mem_cons_of_mem _ (hp w hm), h1, h2, hu, hrace⟩
  · -- the publishing RMW: the slot was written before
    rename_i hpc
    obtain ⟨h1, h2⟩ := pcs_setPc h t .done s.written (fun _ hm => hm) nofun nofun
    exact ⟨fun w hm => (List.mem_cons.mp hm).elim (fun e => e ▸ hw t hpc) (hp w), h1, h2, hu, hrace⟩
  · -- the observing load: what it sees was published, hence written
    obtain ⟨h1, h2⟩ := pcs_setPc h t (.rRead s.published) s.written (fun _ hm => hm)
      (fun _ e => by cases e; exact hp) nofun
    exact ⟨hp, h1, h2, hu, hrace⟩
  · -- the plain reads
    rename_i seen hpc
    obtain ⟨h1, h2⟩ := pcs_setPc h t .done s.written (fun _ hm => hm) nofun nofun
    refine ⟨hp, h1, h2, ?_, fun a b => ?_⟩
    · simp only [hu, Bool.false_or]
      rw [List.any_eq_false]
      intro w hm
      simp [hr t seen hpc w hm]
    · have a' : s.ords.pubRelease = true := a
      have b' : s.ords.obsAcquire = true := b
      simp [hrace a' b', a', b']
  · exact h

theorem run_inv (s : Sys) (sched : List Nat) (h : Inv s) : Inv (run s sched) := by
  induction sched generalizing s with
  | nil => exact h
  | cons t ts ih => exact ih _ (step_inv s t h)

theorem run_ords (s : Sys) (sched : List Nat) : (run s sched).ords = s.ords := by
  induction sched generalizing s with
  | nil => rfl
  | cons t ts ih => simp only [run, List.foldl_cons] at *; rw [ih, step_ords]

end MetricsVerif.MsgPass
