/-
Helper lemmas for the thread model of `metrics::Cow` (`Model/CowSend.lean`): the invariant that carries the
soundness proof of the `Arc` bounds — while `T` lacks `Send` or `Sync`, no value ever leaves the thread its `T`
objects were made on and no reference to it is ever handed out.
-/
import MetricsVerif.Model.CowSend

namespace MetricsVerif.CowSend

/-- every live value sits on the home thread of its cell and is lent to nobody; every destruction happened at home -/
def AtHome (s : St) : Prop :=
  (∀ x, some x ∈ s.vals → x.thr = x.cell.home ∧ x.lent = []) ∧ (∀ p ∈ s.destroyed, p.2 = p.1.home)

theorem atHome_init : AtHome init := ⟨fun _ hx => absurd hx List.not_mem_nil, fun _ hp => absurd hp List.not_mem_nil⟩

theorem getVal_mem {s : St} {h : Nat} {x : Handle} (hg : getVal s h = some x) : some x ∈ s.vals := by
  unfold getVal at hg
  split at hg
  · next y hy =>
    cases hg
    exact List.mem_of_getElem? hy
  · cases hg

theorem arc_admits_false {e : Elem} (h : (e.send && e.sync) = false) :
    arcBounds.send.admits e = false ∧ arcBounds.sync.admits e = false := by
  cases e with
  | mk a b => cases a <;> cases b <;> simp_all [arcBounds, Bound.admits]

theorem atHome_push {s : St} (hI : AtHome s) (c : Cell) (k : Kind) (hc : c.home = t) :
    (∀ x, some x ∈ (push s ⟨c, k, t, []⟩).vals → x.thr = x.cell.home ∧ x.lent = []) := by
  intro x hx
  simp only [push, List.mem_append, List.mem_singleton] at hx
  rcases hx with hx | hx
  · exact hI.1 x hx
  · cases hx; exact ⟨hc.symm, rfl⟩

/-- with the `Arc` bounds and a `T` that is not both `Send` and `Sync`, every step keeps every value at home -/
theorem step_atHome {e : Elem} (he : (e.send && e.sync) = false) {s : St} (hI : AtHome s) (op : Op) :
    AtHome (step arcBounds e s op) := by
  obtain ⟨hs, hy⟩ := arc_admits_false he
  cases op with
  | fromBorrowed t => exact ⟨atHome_push hI ⟨t, s.next⟩ .borrowed rfl, hI.2⟩
  | fromOwned t => exact ⟨atHome_push hI ⟨t, s.next⟩ .owned rfl, hI.2⟩
  | fromShared t keep => exact ⟨atHome_push hI ⟨t, s.next⟩ .shared rfl, hI.2⟩
  | send h t =>
    simp only [step]
    split
    · simp [hs]; exact hI
    · exact hI
  | lend h t =>
    simp only [step]
    split
    · simp [hy]; exact hI
    · exact hI
  | unlend h t =>
    simp only [step]
    split
    · next x hg =>
      have hx := hI.1 x (getVal_mem hg)
      refine ⟨?_, hI.2⟩
      intro z hz
      rcases List.mem_or_eq_of_mem_set hz with hz | hz
      · exact hI.1 z hz
      · cases hz
        exact ⟨hx.1, by simp [hx.2]⟩
    · exact hI
  | clone t h =>
    simp only [step]
    split
    · next x hg =>
      have hx := hI.1 x (getVal_mem hg)
      by_cases hu : canUse x t = true
      · have ht : x.thr = t := by
          simp [canUse, hx.2] at hu
          exact hu
        simp only [hu, if_true]
        split
        · exact ⟨atHome_push hI ⟨t, s.next⟩ .owned rfl, hI.2⟩
        · exact ⟨atHome_push hI x.cell x.kind (by rw [← hx.1, ht]), hI.2⟩
      · simp only [hu]
        exact hI
    · exact hI
  | drop t h =>
    simp only [step]
    split
    · next x hg =>
      have hx := hI.1 x (getVal_mem hg)
      by_cases hu : (x.thr == t && x.lent.isEmpty) = true
      · have ht : x.thr = t := by
          simp at hu
          exact hu.1
        have hvals : ∀ z, some z ∈ s.vals.set h none → z.thr = z.cell.home ∧ z.lent = [] := by
          intro z hz
          rcases List.mem_or_eq_of_mem_set hz with hz | hz
          · exact hI.1 z hz
          · cases hz
        have hdest : ∀ p ∈ (x.cell, t) :: s.destroyed, p.2 = p.1.home := by
          intro p hp
          rcases List.mem_cons.1 hp with hp | hp
          · subst hp
            show t = x.cell.home
            rw [← ht]; exact hx.1
          · exact hI.2 p hp
        simp only [hu, if_true]
        split
        · exact ⟨hvals, hI.2⟩
        · exact ⟨hvals, hdest⟩
        · split
          · exact ⟨hvals, hI.2⟩
          · exact ⟨hvals, hdest⟩
      · simp only [hu]
        exact hI
    · exact hI

theorem run_atHome {e : Elem} (he : (e.send && e.sync) = false) (ops : List Op) :
    ∀ s, AtHome s → AtHome (run arcBounds e s ops) := by
  induction ops with
  | nil => intro s hI; exact hI
  | cons op ops ih => intro s hI; exact ih _ (step_atHome he hI op)

/-- at home, every path to a cell starts on the cell's home thread -/
theorem reachers_atHome {s : St} (hI : AtHome s) (c : Cell) : ∀ t ∈ reachers s c, t = c.home := by
  intro t ht
  simp only [reachers, List.mem_append, List.mem_flatMap] at ht
  rcases ht with ht | ⟨o, ho, ht⟩
  · split at ht
    · simpa using ht
    · cases ht
  · cases o with
    | none => cases ht
    | some x =>
      have hx := hI.1 x ho
      simp only at ht
      split at ht
      · next hc =>
        have hc' : x.cell = c := by simpa using hc
        simp [hx.2] at ht
        rw [ht, hx.1, hc']
      · cases ht

theorem atHome_not_violates {s : St} (hI : AtHome s) (e : Elem) : violates e s = false := by
  have hr : racy e s = false := by
    simp only [racy, Bool.and_eq_false_imp]
    intro _
    rw [Bool.eq_false_iff]
    intro h
    simp only [List.any_eq_true] at h
    obtain ⟨c, _, t1, h1, t2, h2, hne⟩ := h
    have e1 := reachers_atHome hI c t1 h1
    have e2 := reachers_atHome hI c t2 h2
    simp [e1, e2] at hne
  have hm : misplaced e s = false := by
    simp only [misplaced, Bool.and_eq_false_imp]
    intro _
    rw [Bool.eq_false_iff]
    intro h
    simp only [Bool.or_eq_true, List.any_eq_true] at h
    rcases h with ⟨o, ho, h⟩ | ⟨p, hp, h⟩
    · cases o with
      | none => simp at h
      | some x =>
        have hx := hI.1 x ho
        simp [hx.1] at h
    · have := hI.2 p hp
      simp [this] at h
  simp [violates, hr, hm]

end MetricsVerif.CowSend
