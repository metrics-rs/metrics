/-
The histogram clause of C10 (`Props/C10Hist.lean`) on top of the bucket proofs of C05:

* a thread whose program contains no `clear` never hands anything to a clear callback (`NoDeliv`), so with recorder
  threads + ONE flusher everything `Bucket.delivered` counts was sent by the flusher (`delivered_eq_sentAll`);
* the final flush: once every recorder has finished, a `State::flush` of the histogram (`is_empty`; `clear_with` unless
  it answered `true`) leaves nothing reachable from the tail (`final_flush_drains`).
-/
import MetricsVerif.Model.StatsdHist
import MetricsVerif.Proofs.BucketClients
import MetricsVerif.Proofs.BucketEmptyLive

namespace MetricsVerif.Bucket

def NoDeliv (t : Thread) : Prop := NoClrT t ∧ t.results.flatMap clearedVals = []

theorem nodeliv_step (s : Sys) (t : Thread) (h : NoDeliv t) : NoDeliv (stepThread s t).2 := by
  refine ⟨noclr_step s t h.1, ?_⟩
  rcases (stepThread_teff s t).results with e | ⟨r, e, hk⟩
  · rw [e]; exact h.2
  · -- the call that returns is not a `clear_with`, so its result carries nothing cleared
    have hc := h.1.2
    rw [isClearPC_eq, hk] at hc
    rw [e, List.flatMap_append, h.2]
    cases r <;> first | rfl | cases hc

theorem flatMap_single {α β : Type} (g : α → List β) (l : List α) (f : Nat)
    (h : ∀ i t, i ≠ f → l[i]? = some t → g t = []) : l.flatMap g = (l[f]?).elim [] g := by
  induction l generalizing f with
  | nil => rfl
  | cons x xs ih =>
    cases f with
    | zero =>
      have hz : xs.flatMap g = [] := List.flatMap_eq_nil_iff.mpr (fun y hy => by
        obtain ⟨j, hj⟩ := List.getElem?_of_mem hy
        exact h (j + 1) y (Nat.succ_ne_zero j) hj)
      rw [List.flatMap_cons, hz, List.append_nil]; rfl
    | succ k =>
      rw [List.flatMap_cons, h 0 x (Nat.succ_ne_zero k).symm rfl, List.nil_append]
      exact ih k (fun i t hi ht => h (i + 1) t (by omega) ht)

/-- what `is_empty` tests, as a predicate on the state: the tail block and its predecessor have no claimed slot -/
def EmptyP (s : Sys) : Prop :=
  ∀ b, s.tail = some b → (getBlock s b).write = 0 ∧ ∀ n, (getBlock s b).next = some n → (getBlock s n).write = 0

/-- in a reachable state (`LWInv`: a block that is linked below another one has had a slot claimed) in which the tail
    block and its predecessor are unclaimed, a snapshot sees nothing -/
theorem visible_nil_of_empty (s : Sys) (hw : LWInv s) (he : EmptyP s) : visible s = [] := by
  cases ht : s.tail with
  | none => exact visible_of_tail_none s ht
  | some b =>
    obtain ⟨hwr, hnx⟩ := he b ht
    have hlen := hw.base.tail_valid b ht
    have hlt : b < s.blocks.length := by omega
    have hcl := hw.base.cells_len b _ (getBlock_get hlt)
    rw [hwr] at hcl
    have hdata : (getBlock s b).data = [] := by
      simp [Block.data, List.eq_nil_of_length_eq_zero (hcl.trans (Nat.zero_min _))]
    unfold visible
    rw [ht, ← hlen]
    simp only [chainData, hdata, List.nil_append]
    cases hn : (getBlock s b).next with
    | none => exact chainData_none s _
    | some n =>
      -- a linked predecessor has had a slot claimed
      have := hw.link b n (by rw [nextAt_getBlock hlt, hn])
      have := hnx n hn
      omega

end MetricsVerif.Bucket

namespace MetricsVerif.StatsdHist
open MetricsVerif.Bucket

theorem clearedOf_flatten_vals (rs : List Res) : (clearedOf rs).flatten = rs.flatMap clearedVals := by
  induction rs with
  | nil => rfl
  | cons r rest ih => cases r <;> simpa [clearedOf, clearedVals, List.flatMap_cons] using ih

theorem sentAll_eq (s : Sys) (f : Nat) : sentAll s f = (s.threads[f]?).elim [] (fun t => t.results.flatMap clearedVals) := by
  unfold sentAll flusherResults
  cases s.threads[f]? with
  | none => rfl
  | some t => exact clearedOf_flatten_vals t.results

theorem emptyAnswers_append (a b : List Res) : emptyAnswers (a ++ b) = emptyAnswers a ++ emptyAnswers b := by
  induction a with
  | nil => rfl
  | cons r rest ih => cases r <;> simp [emptyAnswers, ih]

/-- recorders + ONE flusher: what the bucket's clears delivered is what the flusher sent -/
theorem delivered_eq_sentAll (s : Sys) (f : Nat) (h : ∀ i, i ≠ f → ThreadAt NoDeliv s i) : delivered s = sentAll s f := by
  rw [delivered_eq, sentAll_eq]
  exact flatMap_single _ s.threads f (fun i t hi ht => (h i hi t ht).2)

/-- the recorder threads never deliver: only thread `recs.length`, the flusher, clears -/
theorem progsOf_nodeliv (B : Nat) (recs : List (List Nat)) (answers : List Bool) (i : Nat) (hi : i ≠ recs.length) :
    ThreadAt NoDeliv (init B (progsOf recs answers)) i := by
  refine threadAt_init B _ i (fun p hp => ⟨⟨?_, rfl⟩, rfl⟩)
  unfold progsOf at hp
  by_cases hlt : i < recs.length
  · rw [List.getElem?_append_left (by simpa using hlt), List.getElem?_map] at hp
    obtain ⟨vs, _, rfl⟩ := Option.map_eq_some_iff.mp hp
    simp [recCalls, mkThread]
  · rw [List.getElem?_eq_none (by simp; omega)] at hp; cases hp

def walkDone : PC → Bool
  | .cQuiesced _ | .cWait _ | .cRead _ | .cNext _ | .done => true
  | _ => false

/-- where the flusher can be during its last `State::flush` (`a` = what the flush program assumes `is_empty`
    answers), `r0` = its results before that flush -/
def FinalT (s : Sys) (r0 : List Res) (a : Bool) (t : Thread) : Prop :=
  (t.pc = .eLoadTail ∧ t.results = r0 ∧ t.calls = flushCalls [a])
  ∨ (∃ b, t.pc = .eLen b ∧ s.tail = some b ∧ t.results = r0 ∧ t.calls = flushCalls [a])
  ∨ (a = true ∧ t.pc = .done ∧ ∃ e, t.results = r0 ++ [.empty e] ∧ (e = true → EmptyP s))
  ∨ (t.pc = .cLoadTail ∧ t.calls = [.clear])
  ∨ (∃ b, t.pc = .cCas b ∧ s.tail = some b ∧ t.calls = [.clear])
  ∨ (s.tail = none ∧ walkDone t.pc = true ∧ (t.calls = [.clear] ∨ t.calls = []))

theorem FinalT.congr {r0 : List Res} {a : Bool} (s s' : Sys) (t : Thread) (h1 : s'.tail = s.tail) (h2 : s'.blocks = s.blocks)
    (h : FinalT s r0 a t) : FinalT s' r0 a t := by
  have he : EmptyP s → EmptyP s' := by
    intro hp
    unfold EmptyP getBlock at hp ⊢
    rw [h1, h2]; exact hp
  unfold FinalT at h ⊢
  rw [h1]
  rcases h with h | h | ⟨ha, hp, e, hr, hi⟩ | h | h | h
  · exact Or.inl h
  · exact Or.inr (Or.inl h)
  · exact Or.inr (Or.inr (Or.inl ⟨ha, hp, e, hr, fun x => he (hi x)⟩))
  · exact Or.inr (Or.inr (Or.inr (Or.inl h)))
  · exact Or.inr (Or.inr (Or.inr (Or.inr (Or.inl h))))
  · exact Or.inr (Or.inr (Or.inr (Or.inr (Or.inr h))))

/-- the `is_empty` of the last flush returns `e`: the flush is over (skipped) or goes on to its `clear_with` -/
theorem FinalT.answered {s : Sys} {r0 : List Res} {a : Bool} {t : Thread} (e : Bool) (hr : t.results = r0)
    (hc : t.calls = flushCalls [a]) (he : e = true → EmptyP s) : FinalT s r0 a (t.advance (.empty e)) := by
  cases a with
  | true =>
    exact Or.inr (Or.inr (Or.inl ⟨rfl, by simp [Thread.advance, hc, flushCalls, startPC], e, by simp [Thread.advance, hr], he⟩))
  | false =>
    exact Or.inr (Or.inr (Or.inr (Or.inl
      ⟨by simp [Thread.advance, hc, flushCalls, startPC, pcOfCall], by simp [Thread.advance, hc, flushCalls]⟩)))

/-- the tail is null and the flusher walks the chain it detached, or has finished -/
theorem FinalT.walk {s : Sys} {r0 : List Res} {a : Bool} {t : Thread} (htl : s.tail = none) (hw : walkDone t.pc = true)
    (hc : t.calls = [.clear] ∨ t.calls = []) : FinalT s r0 a t :=
  Or.inr (Or.inr (Or.inr (Or.inr (Or.inr ⟨htl, hw, hc⟩))))

/-- the end of the last `clear_with` -/
theorem FinalT.cleared {s : Sys} {r0 : List Res} {a : Bool} {t : Thread} (r : Res) (htl : s.tail = none)
    (hc : t.calls = [.clear] ∨ t.calls = []) : FinalT s r0 a (t.advance r) :=
  .walk htl (by rcases hc with h | h <;> simp [Thread.advance, h, startPC, walkDone])
    (by rcases hc with h | h <;> simp [Thread.advance, h])

theorem final_own_step {r0 : List Res} {a : Bool} (s : Sys) (t : Thread) (h : FinalT s r0 a t) :
    FinalT (stepThread s t).1 r0 a (stepThread s t).2 := by
  rcases h with ⟨hp, hr, hc⟩ | ⟨b, hp, htl, hr, hc⟩ | ⟨ha, hp, h⟩ | ⟨hp, hc⟩ | ⟨b, hp, htl, hc⟩ | ⟨htl, hw, hc⟩
  · -- is_empty: the tail load
    rw [stepThread_at_eLoadTail hp]
    cases htl : s.tail with
    | none => exact .answered true hr hc (fun _ b hb => by rw [htl] at hb; cases hb)
    | some b => exact Or.inr (Or.inl ⟨b, rfl, htl, hr, hc⟩)
  · -- is_empty: the decision
    obtain ⟨e, he, _, hem⟩ := eLen_result s t b hp
    rw [he]
    refine .answered e hr hc (fun x b' hb' => ?_)
    cases htl.symm.trans hb'
    exact hem x
  · rw [stepThread_at_done hp]
    exact Or.inr (Or.inr (Or.inl ⟨ha, hp, h⟩))
  · -- clear_with: the tail load
    rw [stepThread_at_cLoadTail hp]
    cases htl : s.tail with
    | none => exact .cleared _ htl (Or.inl hc)
    | some b => exact Or.inr (Or.inr (Or.inr (Or.inr (Or.inl ⟨b, rfl, htl, hc⟩))))
  · -- clear_with: the detach CAS (nobody else moves the tail any more: it succeeds)
    rw [stepThread_at_cCas hp, if_pos htl]
    exact .walk rfl rfl (Or.inl hc)
  · -- walking the detached chain / finished
    cases hp : t.pc with
    | cQuiesced blk => rw [stepThread_at_cWait (Or.inl hp)]; exact .walk htl (by simp only; split <;> rfl) hc
    | cWait blk => rw [stepThread_at_cWait (Or.inr hp)]; exact .walk htl (by simp only; split <;> rfl) hc
    | cRead blk => rw [stepThread_at_cRead hp]; exact .walk htl rfl hc
    | cNext blk =>
      rw [stepThread_at_cNext hp]
      cases (getBlock s blk).next with
      | none => exact .cleared _ htl hc
      | some n => exact .walk htl rfl hc
    | done => rw [stepThread_at_done hp]; exact .walk htl hw hc
    | _ => rw [hp] at hw; cases hw

structure FinalSys (s : Sys) (f : Nat) (r0 : List Res) (a : Bool) : Prop where
  others : ∀ i t, i ≠ f → s.threads[i]? = some t → t.pc = .done
  fl : ∃ t, s.threads[f]? = some t ∧ FinalT s r0 a t

theorem final_run (f : Nat) (r0 : List Res) (a : Bool) (sched : List Nat) (s : Sys) (h : FinalSys s f r0 a) :
    FinalSys (run s sched) f r0 a :=
  have h' := Solo.run (P := fun s t => FinalT s r0 a t) final_own_step FinalT.congr sched
    ⟨fun i t ht hi => h.others i t hi ht, h.fl⟩
  ⟨fun i t hi ht => h'.1 i t ht hi, h'.2⟩

/-- **the final flush drains the histogram**: in a reachable state `s0` in which every thread but the flusher `f` has
    finished and the flusher is about to start a `State::flush` (`is_empty`, then `clear_with` unless the flush is
    skipped: `flushCalls [a]`), run any schedule `post` until the flusher has finished; if its `is_empty` answered what
    the flush acted on (`a`), nothing is reachable from the tail afterwards. -/
theorem final_flush_drains (s0 : Sys) (f : Nat) (a : Bool) (t0 t1 : Thread) (post : List Nat) (hlw : LWInv s0)
    (hoth : ∀ i t, i ≠ f → s0.threads[i]? = some t → t.pc = .done)
    (h0 : s0.threads[f]? = some t0) (hpc : t0.pc = .eLoadTail) (hcalls : t0.calls = flushCalls [a])
    (h1 : (run s0 post).threads[f]? = some t1) (hdone : t1.pc = .done)
    (hans : emptyAnswers t1.results = emptyAnswers t0.results ++ [a]) : visible (run s0 post) = [] := by
  obtain ⟨t, ht, hT⟩ := (final_run f t0.results a post s0 ⟨hoth, t0, h0, Or.inl ⟨hpc, rfl, hcalls⟩⟩).fl
  cases h1.symm.trans ht
  rcases hT with ⟨hp, _⟩ | ⟨b, hp, _⟩ | ⟨ha, _, e, hr, hi⟩ | ⟨hp, _⟩ | ⟨b, hp, _⟩ | ⟨htl, _, _⟩
  · rw [hp] at hdone; cases hdone
  · rw [hp] at hdone; cases hdone
  · -- the flush was skipped: `is_empty` answered `true`, as assumed
    rw [hr, emptyAnswers_append] at hans
    have he : e = a := by simpa [emptyAnswers] using List.append_cancel_left hans
    exact visible_nil_of_empty _ (lwrun post s0 hlw) (hi (by rw [he, ha]))
  · rw [hp] at hdone; cases hdone
  · rw [hp] at hdone; cases hdone
  · exact visible_of_tail_none _ htl

end MetricsVerif.StatsdHist
