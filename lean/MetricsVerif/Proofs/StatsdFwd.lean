/-
The forwarder's client machine (`Model/StatsdFwd`): the shape invariant of every socket's history (only the last send
on a socket can have failed, and then the socket is closed), which payloads the receivers get whole, the send counters
of one flush cycle, and the Agent's de-framing of a stream socket's history.
-/
import MetricsVerif.Model.StatsdFwd

namespace MetricsVerif.StatsdFwd
open MetricsVerif.Statsd

theorem clientSend_ok_bytes {stream : Bool} {p : Bytes} {w : WriteRes} (h : (clientSend stream p w).ok = true) :
    (clientSend stream p w).bytes = p := by
  cases w with
  | full => rfl
  | fail k =>
    cases stream with
    | false => simp [clientSend] at h
    | true =>
      by_cases hp : p.isEmpty = true
      · simp [clientSend, hp]; exact List.isEmpty_iff.mp hp
      · simp [clientSend, hp] at h

theorem clientSend_torn {p : Bytes} {w : WriteRes} (h : (clientSend true p w).ok = false) :
    ∃ k, k < p.length ∧ (clientSend true p w).bytes = p.take k := by
  cases w with
  | full => simp [clientSend] at h
  | fail k =>
    by_cases hp : p.isEmpty = true
    · simp [clientSend, hp] at h
    · have hl : 0 < p.length := by
        cases p with
        | nil => simp at hp
        | cons a t => simp
      refine ⟨min k (p.length - 1), by omega, ?_⟩
      simp [clientSend, hp]

theorem clientSend_dgram_fail {p : Bytes} {w : WriteRes} (h : (clientSend false p w).ok = false) :
    (clientSend false p w).bytes = [] := by
  cases w with
  | full => simp [clientSend] at h
  | fail k => simp [clientSend]

/-- a chunk is what `Client::send` leaves for SOME payload satisfying `P` -/
def ChunkOf (P : Bytes → Prop) (stream : Bool) (ch : Chunk) : Prop := ∃ p w, P p ∧ ch = clientSend stream p w

/-- the live socket: every send on it returned `Ok` -/
def LiveOk (P : Bytes → Prop) (stream : Bool) (c : Conn) : Prop := ∀ ch ∈ c, ch.ok = true ∧ ChunkOf P stream ch

/-- a dropped socket: every send but the last returned `Ok`, the last one failed -/
def ClosedOk (P : Bytes → Prop) (stream : Bool) (c : Conn) : Prop :=
  ∃ pre last, c = pre ++ [last] ∧ LiveOk P stream pre ∧ last.ok = false ∧ ChunkOf P stream last

structure Inv (P : Bytes → Prop) (s : Fwd) : Prop where
  live : ∀ c, s.ready = some c → LiveOk P s.stream c
  closed : ∀ c ∈ s.closed, ClosedOk P s.stream c

theorem init_inv (P : Bytes → Prop) (stream : Bool) : Inv P (init stream) :=
  ⟨by intro c h; simp [init] at h, by intro c h; simp [init] at h⟩

theorem sendOn_ok {s : Fwd} {c : Conn} {p : Bytes} {w : WriteRes} (h : (clientSend s.stream p w).ok = true) :
    sendOn s c p w = ({ s with ready := some (c ++ [clientSend s.stream p w]) }, some p.length) := by
  unfold sendOn; simp [h]

theorem sendOn_fail {s : Fwd} {c : Conn} {p : Bytes} {w : WriteRes} (h : (clientSend s.stream p w).ok = false) :
    sendOn s c p w = ({ s with ready := none, closed := s.closed ++ [c ++ [clientSend s.stream p w]] }, none) := by
  unfold sendOn; simp [h]

theorem sendOn_stream (s : Fwd) (c : Conn) (p : Bytes) (w : WriteRes) : (sendOn s c p w).1.stream = s.stream := by
  cases h : (clientSend s.stream p w).ok
  · rw [sendOn_fail h]
  · rw [sendOn_ok h]

theorem trySend_stream (s : Fwd) (p : Bytes) (e : Env) : (trySend s p e).1.stream = s.stream := by
  unfold trySend
  split
  · exact sendOn_stream ..
  · split
    · exact sendOn_stream ..
    · rfl

theorem sendOn_inv {P : Bytes → Prop} {s : Fwd} {c : Conn} (h : Inv P s) (hc : LiveOk P s.stream c) {p : Bytes}
    (hp : P p) (w : WriteRes) : Inv P (sendOn s c p w).1 := by
  have hch : ChunkOf P s.stream (clientSend s.stream p w) := ⟨p, w, hp, rfl⟩
  cases hok : (clientSend s.stream p w).ok
  · rw [sendOn_fail hok]
    refine ⟨by intro c' hc'; simp at hc', ?_⟩
    intro c' hc'
    rcases List.mem_append.mp hc' with hm | hm
    · exact h.closed c' hm
    · simp only [List.mem_singleton] at hm; subst hm
      exact ⟨c, _, rfl, hc, hok, hch⟩
  · rw [sendOn_ok hok]
    refine ⟨?_, h.closed⟩
    intro c' hc'
    simp only [Option.some.injEq] at hc'
    subst hc'
    intro ch hmem
    rcases List.mem_append.mp hmem with hm | hm
    · exact hc ch hm
    · simp only [List.mem_singleton] at hm; subst hm; exact ⟨hok, hch⟩

theorem trySend_inv {P : Bytes → Prop} {s : Fwd} (h : Inv P s) {p : Bytes} (hp : P p) (e : Env) :
    Inv P (trySend s p e).1 := by
  unfold trySend
  split
  · next c hc => exact sendOn_inv h (h.live c hc) hp _
  · split
    · exact sendOn_inv h (by intro ch hm; cases hm) hp _
    · exact h

theorem run_inv {P : Bytes → Prop} : ∀ (ops : List (Bytes × Env)) (s : Fwd), Inv P s → (∀ op ∈ ops, P op.1) →
    Inv P (run s ops).1 := by
  intro ops
  induction ops with
  | nil => intro s h _; exact h
  | cons op ops ih =>
    intro s h hP
    obtain ⟨p, e⟩ := op
    simp only [run]
    exact ih _ (trySend_inv h (hP (p, e) (List.mem_cons_self ..)) e) (fun o ho => hP o (List.mem_cons_of_mem _ ho))

/-- the payloads whose `try_send` returned `Ok`, in order -/
def okSent : List (Bytes × Env) → List (Option Nat) → List Bytes
  | (p, _) :: ops, some _ :: os => p :: okSent ops os
  | _ :: ops, none :: os => okSent ops os
  | _, _ => []

theorem okSent_cons (p : Bytes) (e : Env) (ops : List (Bytes × Env)) (o : Option Nat) (os : List (Option Nat)) :
    okSent ((p, e) :: ops) (o :: os) = (if o.isSome then [p] else []) ++ okSent ops os := by
  cases o <;> rfl

theorem rxDgram_append (c : Conn) (ch : Chunk) :
    rxDgram (c ++ [ch]) = rxDgram c ++ (if ch.ok then [ch.bytes] else []) := by
  unfold rxDgram
  cases h : ch.ok <;> simp [List.filter_append, h]

/-- one `Client::send` on socket `c` (the live one, or a fresh one when disconnected): the whole payloads the
    receivers get grow by exactly this payload if the call returned `Ok`, and by nothing otherwise -/
theorem sendOn_received (s : Fwd) (c : Conn) (p : Bytes) (w : WriteRes) :
    (conns (sendOn s c p w).1).flatMap rxDgram
      = s.closed.flatMap rxDgram ++ rxDgram c ++ (if (sendOn s c p w).2.isSome then [p] else []) := by
  cases hok : (clientSend s.stream p w).ok
  · rw [sendOn_fail hok]
    simp [conns, List.flatMap_append, rxDgram_append, hok]
  · rw [sendOn_ok hok]
    simp [conns, List.flatMap_append, rxDgram_append, hok, clientSend_ok_bytes hok]

theorem trySend_received (s : Fwd) (p : Bytes) (e : Env) :
    (conns (trySend s p e).1).flatMap rxDgram
      = (conns s).flatMap rxDgram ++ (if (trySend s p e).2.isSome then [p] else []) := by
  unfold trySend
  split
  · next c hc => rw [sendOn_received]; simp [conns, hc, List.flatMap_append]
  · next hc =>
    split
    · rw [sendOn_received]; simp [conns, hc, rxDgram]
    · simp [conns, hc]

theorem run_received : ∀ (ops : List (Bytes × Env)) (s : Fwd),
    (conns (run s ops).1).flatMap rxDgram = (conns s).flatMap rxDgram ++ okSent ops (run s ops).2 := by
  intro ops
  induction ops with
  | nil => intro s; exact (List.append_nil _).symm
  | cons op ops ih =>
    intro s
    obtain ⟨p, e⟩ := op
    simp only [run]
    rw [ih, trySend_received, okSent_cons, List.append_assoc]

/-- total bytes of a list of payloads -/
def totalLen (ps : List Bytes) : Nat := (ps.map List.length).sum

theorem totalLen_cons (p : Bytes) (ps : List Bytes) : totalLen (p :: ps) = p.length + totalLen ps := rfl

theorem run_length : ∀ (ops : List (Bytes × Env)) (s : Fwd), (run s ops).2.length = ops.length := by
  intro ops
  induction ops with
  | nil => intro s; rfl
  | cons op ops ih => intro s; obtain ⟨p, e⟩ := op; simp only [run, List.length_cons]; rw [ih]

theorem cycle_state : ∀ (ops : List (Bytes × Env)) (s : Fwd) (c : SendCounts), (cycle s c ops).1 = (run s ops).1 := by
  intro ops
  induction ops with
  | nil => intro s c; rfl
  | cons op ops ih => intro s c; obtain ⟨p, e⟩ := op; simp only [cycle, run]; rw [ih]

/-- the payloads whose `try_send` returned `Err`, in order -/
def errSent : List (Bytes × Env) → List (Option Nat) → List Bytes
  | (p, _) :: ops, none :: os => p :: errSent ops os
  | _ :: ops, some _ :: os => errSent ops os
  | _, _ => []

/-- the counters after the loop, from ANY starting counters and ANY client state: the sent pair grew by the `Ok`
    payloads and their bytes, both dropped pairs by the `Err` payloads and theirs -/
theorem cycle_counts_from : ∀ (ops : List (Bytes × Env)) (s : Fwd) (c : SendCounts),
    (cycle s c ops).2 =
      ⟨c.packetsSent + (okSent ops (run s ops).2).length, c.bytesSent + totalLen (okSent ops (run s ops).2),
       c.packetsDropped + (errSent ops (run s ops).2).length,
       c.packetsDroppedWriter + (errSent ops (run s ops).2).length,
       c.bytesDropped + totalLen (errSent ops (run s ops).2),
       c.bytesDroppedWriter + totalLen (errSent ops (run s ops).2)⟩ := by
  intro ops
  induction ops with
  | nil => intro s c; rfl
  | cons op ops ih =>
    intro s c
    obtain ⟨p, e⟩ := op
    simp only [cycle, run, ih]
    cases (trySend s p e).2 <;>
      simp only [track, trackOk, trackFailed, okSent, errSent, List.length_cons, totalLen_cons, Nat.add_assoc,
        Nat.add_comm 1]

/-- every payload is in exactly one of the two lists -/
theorem okSent_errSent : ∀ (ops : List (Bytes × Env)) (os : List (Option Nat)), os.length = ops.length →
    (okSent ops os).length + (errSent ops os).length = ops.length
    ∧ totalLen (okSent ops os) + totalLen (errSent ops os) = totalLen (ops.map (·.1)) := by
  intro ops
  induction ops with
  | nil => intro os _; cases os <;> exact ⟨rfl, rfl⟩
  | cons op ops ih =>
    intro os h
    cases os with
    | nil => cases h
    | cons o os =>
      obtain ⟨h1, h2⟩ := ih os (Nat.succ.inj h)
      cases o with
      | none =>
        simp only [okSent, errSent, List.length_cons, List.map_cons, totalLen_cons, ← h1, ← h2]
        exact ⟨(Nat.add_assoc ..).symm, Nat.add_left_comm ..⟩
      | some n =>
        simp only [okSent, errSent, List.length_cons, List.map_cons, totalLen_cons, ← h1, ← h2]
        exact ⟨Nat.add_right_comm .., Nat.add_assoc ..⟩

/-- the four bytes are the base-256 digits of `n`: in Horner form each digit is rejoined by `Nat.mod_add_div` -/
theorem le32val_le32 (n : Nat) (h : n < 4294967296) :
    le32val (UInt8.ofNat (n % 256)) (UInt8.ofNat (n / 256 % 256)) (UInt8.ofNat (n / 65536 % 256))
      (UInt8.ofNat (n / 16777216 % 256)) = n := by
  have byte : ∀ m, (UInt8.ofNat (m % 256)).toNat = m % 256 := fun m => Nat.mod_mod m 256
  have top : n / 16777216 % 256 = n / 256 / 256 / 256 := by
    rw [Nat.mod_eq_of_lt (Nat.div_lt_of_lt_mul h), Nat.div_div_eq_div_mul, Nat.div_div_eq_div_mul]
  have horner : ∀ a b c d : Nat,
      a + 256 * b + 65536 * c + 16777216 * d = a + 256 * (b + 256 * (c + 256 * d)) := by
    intro a b c d
    simp only [Nat.mul_add, ← Nat.mul_assoc, Nat.add_assoc, Nat.reduceMul]
  rw [le32val, byte, byte, byte, byte, top, ← Nat.div_div_eq_div_mul n 256 256, horner,
    Nat.mod_add_div, Nat.mod_add_div, Nat.mod_add_div]

theorem deframeGo_nil (fuel : Nat) : deframeGo fuel [] = ([], []) := by
  cases fuel <;> simp [deframeGo]

theorem deframeGo_frame (b rest : Bytes) (hb : b.length < 4294967296) (fuel : Nat) :
    deframeGo (fuel + 1) (lpFrame b ++ rest) = (b :: (deframeGo fuel rest).1, (deframeGo fuel rest).2) := by
  simp only [lpFrame, le32, List.cons_append, List.nil_append, deframeGo]
  rw [le32val_le32 _ hb]
  simp [List.take_left', List.drop_left']

theorem deframeGo_torn (b : Bytes) (hb : b.length < 4294967296) (k : Nat) (hk : k < (lpFrame b).length) (fuel : Nat) :
    deframeGo fuel ((lpFrame b).take k) = ([], (lpFrame b).take k) := by
  cases fuel with
  | zero => rfl
  | succ fuel =>
    simp only [lpFrame, le32, List.cons_append, List.nil_append, List.length_cons] at hk ⊢
    match k, hk with
    | 0, _ => rfl
    | 1, _ => rfl
    | 2, _ => rfl
    | 3, _ => rfl
    | k + 4, hk =>
      simp only [List.take_succ_cons, deframeGo]
      rw [le32val_le32 _ hb, if_neg (by rw [List.length_take]; omega)]

/-- what can be left at the end of a connection: nothing, or a truncated lpFrame -/
def TornFrame (t : Bytes) : Prop := t = [] ∨ ∃ b k, b.length < 4294967296 ∧ k < (lpFrame b).length ∧ t = (lpFrame b).take k

theorem deframeGo_frames (t : Bytes) (ht : TornFrame t) : ∀ (bodies : List Bytes), (∀ b ∈ bodies, b.length < 4294967296) →
    ∀ fuel, bodies.length ≤ fuel → deframeGo fuel ((bodies.map lpFrame).flatten ++ t) = (bodies, t) := by
  intro bodies
  induction bodies with
  | nil =>
    intro _ fuel _
    simp only [List.map_nil, List.flatten_nil, List.nil_append]
    rcases ht with rfl | ⟨b, k, hb, hk, rfl⟩
    · exact deframeGo_nil fuel
    · exact deframeGo_torn b hb k hk fuel
  | cons b bodies ih =>
    intro hb fuel hf
    cases fuel with
    | zero => simp at hf
    | succ fuel =>
      simp only [List.map_cons, List.flatten_cons, List.append_assoc]
      rw [deframeGo_frame b _ (hb b (List.mem_cons_self ..)) fuel,
        ih (fun x hx => hb x (List.mem_cons_of_mem _ hx)) fuel (by simpa using hf)]

theorem lpFrame_length (b : Bytes) : (lpFrame b).length = b.length + 4 := by
  simp [lpFrame, le32]

theorem flatten_frames_length (bodies : List Bytes) : bodies.length ≤ ((bodies.map lpFrame).flatten).length := by
  induction bodies with
  | nil => simp
  | cons b bs ih => simp only [List.map_cons, List.flatten_cons, List.length_append, List.length_cons, lpFrame_length]; omega

/-- **the Agent's reader on a connection that carries whole frames and then at most one truncated lpFrame** reads
    exactly those frames' bodies and leaves the truncated one unread -/
theorem deframe_frames (bodies : List Bytes) (hb : ∀ b ∈ bodies, b.length < 4294967296) (t : Bytes) (ht : TornFrame t) :
    deframe ((bodies.map lpFrame).flatten ++ t) = (bodies, t) := by
  unfold deframe
  apply deframeGo_frames t ht bodies hb
  have := flatten_frames_length bodies
  simp only [List.length_append]; omega

/-- payloads as the writer emits them in length-prefixed mode -/
def IsFrame (p : Bytes) : Prop := ∃ b, b.length < 4294967296 ∧ p = lpFrame b

theorem frame_drop (b : Bytes) : (lpFrame b).drop 4 = b := by simp [lpFrame, le32]

theorem live_bytes {c : Conn} (h : LiveOk IsFrame true c) :
    c.map (·.bytes) = (c.map (fun ch => ch.bytes.drop 4)).map lpFrame
    ∧ ∀ b ∈ c.map (fun ch => ch.bytes.drop 4), b.length < 4294967296 := by
  induction c with
  | nil => simp
  | cons ch c ih =>
    obtain ⟨hok, p, w, ⟨b, hb, hp⟩, hch⟩ := h ch (List.mem_cons_self ..)
    have hbytes : ch.bytes = lpFrame b := by
      rw [hch] at hok ⊢; rw [clientSend_ok_bytes hok, hp]
    obtain ⟨ih1, ih2⟩ := ih (fun x hx => h x (List.mem_cons_of_mem _ hx))
    refine ⟨?_, ?_⟩
    · simp only [List.map_cons, hbytes, frame_drop]
      rw [ih1]
    · intro x hx
      simp only [List.map_cons, List.mem_cons] at hx
      rcases hx with rfl | hx
      · rw [hbytes, frame_drop]; exact hb
      · exact ih2 x hx

/-- **the Agent's reader on a run of successful sends of frames, followed by at most one truncated frame**, reads the
    bodies of exactly those sends and leaves the truncated one -/
theorem live_deframe {c : Conn} (h : LiveOk IsFrame true c) {t : Bytes} (ht : TornFrame t) :
    deframe (rxStream c ++ t) = ((rxDgram c).map (·.drop 4), t)
    ∧ ((rxDgram c).map (·.drop 4)).map lpFrame = rxDgram c := by
  obtain ⟨h1, h2⟩ := live_bytes h
  have hd : rxDgram c = c.map (·.bytes) := by rw [rxDgram, List.filter_eq_self.mpr fun ch hm => (h ch hm).1]
  rw [hd, List.map_map, rxStream, h1]
  exact ⟨deframe_frames _ h2 t ht, rfl⟩

end MetricsVerif.StatsdFwd
