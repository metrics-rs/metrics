/-
Helper lemmas for the concurrent `DebuggingRecorder` machine (`Model/DebuggingConc`): the invariant that ties
every handle held by any thread, every logged cell operation and `seen` to the registry's CURRENT map, and its
preservation by every step of every thread.
-/
import MetricsVerif.Model.DebuggingConc
import MetricsVerif.Proofs.Registry

namespace MetricsVerif.DebuggingConc
open MetricsVerif MetricsVerif.Registry

variable {K : Type}

theorem sameMetric_congr {ko : KeyOps K} (L : KeyLaws ko) (kd : Kind) {k k' : K} (h : ko.eqv k k' = true)
    (e : Kind × K) : sameMetric ko kd k' e = sameMetric ko kd k e := by
  unfold sameMetric
  cases hk : ko.eqv k e.2 with
  | true => rw [L.trans _ _ _ (L.symm _ _ h) hk]
  | false =>
    cases hk' : ko.eqv k' e.2 with
    | false => rfl
    | true => rw [L.trans _ _ _ h hk'] at hk; cases hk

theorem seenHas_congr {ko : KeyOps K} (L : KeyLaws ko) (seen : List (Kind × K)) (kd : Kind) {k k' : K}
    (h : ko.eqv k k' = true) : seenHas ko seen kd k' = seenHas ko seen kd k := by
  unfold seenHas
  congr 1
  funext e
  exact sameMetric_congr L kd h e

theorem seenHas_track_mono (ko : KeyOps K) (seen : List (Kind × K)) (kd kd' : Kind) (k k' : K)
    (h : seenHas ko seen kd' k' = true) : seenHas ko (track ko seen kd k) kd' k' = true := by
  unfold track
  split
  · exact h
  · unfold seenHas at h ⊢
    rw [List.any_append, h]; rfl

theorem seenHas_track_self {ko : KeyOps K} (L : KeyLaws ko) (seen : List (Kind × K)) (kd : Kind) (k : K) :
    seenHas ko (track ko seen kd k) kd k = true := by
  unfold track
  split
  · assumption
  · unfold seenHas
    rw [List.any_append]
    simp [sameMetric, L.refl]

/-- the part of the invariant that does not mention threads -/
structure GInv (ko : KeyOps K) (s : CSys K) : Prop where
  /-- the registry invariant of C06 (one entry per kind and key class, storages not shared) -/
  reg : Inv ko s.reg
  /-- one cell per storage the factory made -/
  len : s.cells.length = s.reg.next
  /-- every logged cell operation went through a key the registry holds -/
  logged : ∀ e ∈ s.ulog, readSection ko s.reg e.kd e.key ≠ none
  /-- the cell the registry holds for `(kd, k)` has seen exactly the operations logged for `(kd, k)` -/
  fold : ∀ kd k i, readSection ko s.reg kd k = some i → s.cells[i]? = some (foldCell kd (keyLog ko s.ulog kd k))
  /-- a key in the registry was tracked before (`track_metric` precedes `get_or_create_*`) -/
  tracked : ∀ kd k, readSection ko s.reg kd k ≠ none → seenHas ko s.seen kd k = true

/-- the part about one thread -/
structure TInv (ko : KeyOps K) (s : CSys K) (t : CThread K) : Prop where
  /-- **every handle is the cell the registry holds NOW for the handle's key** -/
  handles : ∀ h ∈ t.handles, readSection ko s.reg h.kd h.key = some h.id
  /-- inside `get_or_create_*` the key has been tracked -/
  pcs : (t.pc = .gocRead ∨ t.pc = .gocWrite) →
    ∃ kd k rest, t.calls = .register kd k :: rest ∧ seenHas ko s.seen kd k = true

structure CInv (ko : KeyOps K) (s : CSys K) : Prop where
  g : GInv ko s
  t : ∀ t ∈ s.threads, TInv ko s t

/-- the registry's map and `seen` only grow -/
structure Ext (ko : KeyOps K) (s s' : CSys K) : Prop where
  reads : ∀ kd k i, readSection ko s.reg kd k = some i → readSection ko s'.reg kd k = some i
  seen : ∀ kd k, seenHas ko s.seen kd k = true → seenHas ko s'.seen kd k = true

theorem Ext.refl (ko : KeyOps K) (s : CSys K) : Ext ko s s := ⟨fun _ _ _ h => h, fun _ _ h => h⟩

theorem Ext.trans {ko : KeyOps K} {a b c : CSys K} (h1 : Ext ko a b) (h2 : Ext ko b c) : Ext ko a c :=
  ⟨fun kd k i h => h2.reads kd k i (h1.reads kd k i h), fun kd k h => h2.seen kd k (h1.seen kd k h)⟩

theorem TInv.ext {ko : KeyOps K} {s s' : CSys K} {t : CThread K} (h : TInv ko s t) (e : Ext ko s s') : TInv ko s' t :=
  ⟨fun hd hm => e.reads _ _ _ (h.handles hd hm),
   fun hp => by obtain ⟨kd, k, rest, h1, h2⟩ := h.pcs hp; exact ⟨kd, k, rest, h1, e.seen _ _ h2⟩⟩

theorem TInv.advance {ko : KeyOps K} {s : CSys K} {t : CThread K} (h : TInv ko s t) : TInv ko s t.advance := by
  refine ⟨h.handles, fun hp => ?_⟩
  simp only [CThread.advance] at hp
  split at hp <;> rcases hp with hp | hp <;> cases hp

/-- the call returned a handle on the cell the registry holds for its key -/
theorem TInv.push {ko : KeyOps K} {s : CSys K} {t : CThread K} (h : TInv ko s t) {kd : Kind} {k : K} {i : Nat}
    (hr : readSection ko s.reg kd k = some i) :
    TInv ko s { t.advance with handles := t.handles ++ [{ kd, key := k, id := i }] } := by
  refine ⟨fun hd hm => ?_, h.advance.pcs⟩
  rcases List.mem_append.mp hm with hm | hm
  · exact h.handles hd hm
  · rw [List.mem_singleton.mp hm]; exact hr

theorem keyLog_append (ko : KeyOps K) (l : List (ULog K)) (e : ULog K) (kd : Kind) (k : K) :
    keyLog ko (l ++ [e]) kd k = keyLog ko l kd k ++ (if sameMetric ko kd k (e.kd, e.key) then [e.upd] else []) := by
  unfold keyLog
  rw [List.filter_append, List.map_append]
  congr 1
  by_cases h : sameMetric ko kd k (e.kd, e.key) = true <;> simp [h]

/-- **one operation on the cell the registry holds for `(kd, k)`** keeps the global invariant -/
theorem cellOp_ginv {ko : KeyOps K} (L : KeyLaws ko) (s : CSys K) (hg : GInv ko s) (kd : Kind) (k : K) (i : Nat)
    (u : Upd) (hr : readSection ko s.reg kd k = some i) : GInv ko (cellOp s kd k i u) := by
  have hc := hg.fold kd k i hr
  have hlt : i < s.cells.length := by
    rcases Nat.lt_or_ge i s.cells.length with h | h
    · exact h
    · rw [List.getElem?_eq_none h] at hc; cases hc
  refine ⟨hg.reg, ?_, ?_, ?_, hg.tracked⟩
  · simp only [cellOp, hc, setAt_length]; exact hg.len
  · intro e he
    simp only [cellOp, List.mem_append, List.mem_singleton] at he
    rcases he with he | rfl
    · exact hg.logged e he
    · simp only [cellOp]; rw [hr]; simp
  · intro kd' k' i' hr'
    change readSection ko s.reg kd' k' = some i' at hr'
    have hold := hg.fold kd' k' i' hr'
    simp only [cellOp, hc]
    rw [keyLog_append, getElem?_setAt]
    by_cases hi : i = i'
    · subst hi
      obtain ⟨h1, h2⟩ := read_inj L s.reg hg.reg hr hr'
      subst h1
      have hm : sameMetric ko kd k' (kd, k) = true := by simp [sameMetric, L.symm _ _ h2]
      simp only [hm, if_true, hlt, and_self]
      rw [hc] at hold
      injection hold with hold
      simp only [foldCell, List.foldl_append, List.foldl_cons, List.foldl_nil]
      simp only [foldCell] at hold
      rw [← hold]
    · have hm : sameMetric ko kd' k' (kd, k) = false := by
        cases hm : sameMetric ko kd' k' (kd, k) with
        | false => rfl
        | true =>
          simp only [sameMetric, Bool.and_eq_true, decide_eq_true_eq] at hm
          obtain ⟨h1, h2⟩ := hm
          subst h1
          have := readSection_congr L s.reg kd h2
          rw [this, hr'] at hr
          injection hr with hr
          exact absurd hr.symm hi
      simp [hm, hi, hold]

theorem cellOp_ext (ko : KeyOps K) (s : CSys K) (kd : Kind) (k : K) (i : Nat) (u : Upd) :
    Ext ko s (cellOp s kd k i u) := ⟨fun _ _ _ h => h, fun _ _ h => h⟩

theorem cellOp_threads (s : CSys K) (kd : Kind) (k : K) (i : Nat) (u : Upd) : (cellOp s kd k i u).threads = s.threads := rfl

theorem drain_ginv {ko : KeyOps K} (L : KeyLaws ko) (l : List (Kind × K)) : ∀ s : CSys K, GInv ko s →
    GInv ko (l.foldl (drainOne ko) s) ∧ Ext ko s (l.foldl (drainOne ko) s)
    ∧ (l.foldl (drainOne ko) s).threads = s.threads := by
  induction l with
  | nil => intro s hg; exact ⟨hg, Ext.refl ko s, rfl⟩
  | cons e es ih =>
    intro s hg
    simp only [List.foldl_cons]
    have h1 : GInv ko (drainOne ko s e) ∧ Ext ko s (drainOne ko s e) ∧ (drainOne ko s e).threads = s.threads := by
      unfold drainOne
      split
      · next hk hr => exact ⟨cellOp_ginv L s hg _ _ _ _ (hk ▸ hr), cellOp_ext ko s _ _ _ _, rfl⟩
      · exact ⟨hg, Ext.refl ko s, rfl⟩
    obtain ⟨a, b, c⟩ := ih _ h1.1
    exact ⟨a, h1.2.1.trans b, c.trans h1.2.2⟩

theorem create_ext {ko : KeyOps K} (L : KeyLaws ko) (s : CSys K) (hg : GInv ko s) (kd : Kind) (k : K) :
    Ext ko s (create ko s kd k).1 :=
  ⟨fun _ _ _ => write_keeps L s.reg hg.reg kd k, fun _ _ h => h⟩

/-- the write section (with the storage factory) keeps the global invariant -/
theorem create_ginv {ko : KeyOps K} (L : KeyLaws ko) (s : CSys K) (hg : GInv ko s) (kd : Kind) (k : K)
    (hseen : seenHas ko s.seen kd k = true) : GInv ko (create ko s kd k).1 := by
  cases hr : readSection ko s.reg kd k with
  | some i =>
    have hs : (create ko s kd k).1 = s := by
      unfold create
      simp only [write_present ko s.reg kd k i hr, Nat.sub_self, List.replicate_zero, List.append_nil]
    rw [hs]; exact hg
  | none =>
    obtain ⟨winv, _, wnext, wread⟩ := write_absent L s.reg hg.reg kd k hr
    have hc : (create ko s kd k).1
        = { s with reg := (writeSection ko s.reg kd k).1, cells := s.cells ++ [fresh kd] } := by
      simp only [create, wnext, Nat.add_sub_cancel_left]; rfl
    rw [hc]
    -- a lookup afterwards finds the new storage under the keys equal to `k` (which had none) and the old one elsewhere
    have hnew : ∀ kd' k' i, readSection ko (writeSection ko s.reg kd k).1 kd' k' = some i →
        (kd' = kd ∧ ko.eqv k k' = true ∧ i = s.reg.next) ∨ readSection ko s.reg kd' k' = some i := by
      intro kd' k' i h
      rw [wread] at h
      split at h
      · next hc => exact Or.inl ⟨hc.1, hc.2, (Option.some.inj h).symm⟩
      · exact Or.inr h
    refine ⟨winv, ?_, ?_, ?_, ?_⟩
    · show (s.cells ++ [fresh kd]).length = _
      rw [List.length_append, hg.len]; exact wnext.symm
    · intro e he
      cases h : readSection ko s.reg e.kd e.key with
      | none => exact absurd h (hg.logged e he)
      | some i => exact fun c => nomatch (write_keeps L s.reg hg.reg kd k h).symm.trans c
    · intro kd' k' i h
      show (s.cells ++ [fresh kd])[i]? = some (foldCell kd' (keyLog ko s.ulog kd' k'))
      rcases hnew kd' k' i h with ⟨rfl, h2, rfl⟩ | h
      · -- nothing was logged for a key the registry did not hold
        have hnil : keyLog ko s.ulog kd' k' = [] := by
          unfold keyLog
          rw [List.map_eq_nil_iff, List.filter_eq_nil_iff]
          intro e he hm
          simp only [sameMetric, Bool.and_eq_true, decide_eq_true_eq] at hm
          have h3 := hg.logged e he
          rw [hm.1, readSection_congr L s.reg kd' hm.2, readSection_congr L s.reg kd' h2, hr] at h3
          exact h3 rfl
        rw [hnil, ← hg.len, List.getElem?_append_right (Nat.le_refl _), Nat.sub_self]
        rfl
      · rw [List.getElem?_append_left (hg.len ▸ read_lt hg.reg h)]
        exact hg.fold kd' k' i h
    · intro kd' k' h
      show seenHas ko s.seen kd' k' = true
      cases h' : readSection ko (writeSection ko s.reg kd k).1 kd' k' with
      | none => exact absurd h' h
      | some i =>
        rcases hnew kd' k' i h' with ⟨rfl, h2, _⟩ | h''
        · rw [seenHas_congr L s.seen kd' h2]; exact hseen
        · exact hg.tracked kd' k' (by rw [h'']; exact fun c => nomatch c)

/-- **one step of one thread** keeps the global invariant and the thread's own, and the map and `seen` only grow -/
theorem stepThread_inv {ko : KeyOps K} (L : KeyLaws ko) (s : CSys K) (t : CThread K) (hg : GInv ko s)
    (ht : TInv ko s t) :
    GInv ko (stepThread ko s t).1 ∧ TInv ko (stepThread ko s t).1 (stepThread ko s t).2
    ∧ Ext ko s (stepThread ko s t).1 ∧ (stepThread ko s t).1.threads = s.threads := by
  unfold stepThread
  -- one bullet per arm of `stepThread`, in the model's order
  split
  -- `start`, no call left
  · exact ⟨hg, ⟨ht.handles, fun hp => by rcases hp with hp | hp <;> cases hp⟩, Ext.refl ko s, rfl⟩
  -- `start`, some call left
  · exact ⟨hg, ⟨ht.handles, fun hp => by rcases hp with hp | hp <;> cases hp⟩, Ext.refl ko s, rfl⟩
  -- `call`, `register kd k`: the key is tracked
  · next kd k rest hpc hcalls =>
    have hext : Ext ko s { s with seen := track ko s.seen kd k } :=
      ⟨fun _ _ _ h => h, fun kd' k' h => seenHas_track_mono ko s.seen kd kd' k k' h⟩
    refine ⟨⟨hg.reg, hg.len, hg.logged, hg.fold, fun kd' k' h => hext.seen _ _ (hg.tracked kd' k' h)⟩,
      ⟨ht.handles, fun _ => ⟨kd, k, rest, hcalls, seenHas_track_self L s.seen kd k⟩⟩, hext, rfl⟩
  -- `call`, `update h u`: the handle exists / does not
  · next h u rest hpc hcalls =>
    split
    · next hd hh =>
      have hr := ht.handles hd (List.mem_of_getElem? hh)
      exact ⟨cellOp_ginv L s hg _ _ _ u hr, (ht.advance).ext (cellOp_ext ko s _ _ _ _), cellOp_ext ko s _ _ _ _, rfl⟩
    · exact ⟨hg, ht.advance, Ext.refl ko s, rfl⟩
  -- `call`, `snapshot`
  · next rest hpc hcalls =>
    obtain ⟨a, b, c⟩ := drain_ginv L s.seen s hg
    exact ⟨a, ⟨(ht.advance.ext b).handles, (ht.advance.ext b).pcs⟩, b, c⟩
  -- `gocRead`, `register kd k`: the read section finds the cell / does not
  · next kd k rest hpc hcalls =>
    split
    · next i hr => exact ⟨hg, ht.push hr, Ext.refl ko s, rfl⟩
    · exact ⟨hg, ⟨ht.handles, fun _ => ht.pcs (Or.inl hpc)⟩, Ext.refl ko s, rfl⟩
  -- `gocWrite`, `register kd k`
  · next kd k rest hpc hcalls =>
    obtain ⟨kd', k', rest', h1, h2⟩ := ht.pcs (Or.inr hpc)
    cases hcalls.symm.trans h1
    have b := create_ext L s hg kd k
    exact ⟨create_ginv L s hg kd k h2, (ht.ext b).push (write_finds L s.reg hg.reg kd k), b, rfl⟩
  -- `done`, or a pc that does not fit the call
  · exact ⟨hg, ht, Ext.refl ko s, rfl⟩

theorem GInv.of_threads {ko : KeyOps K} {s : CSys K} (h : GInv ko s) (ts : List (CThread K)) :
    GInv ko { s with threads := ts } := ⟨h.reg, h.len, h.logged, h.fold, h.tracked⟩

theorem TInv.of_threads {ko : KeyOps K} {s : CSys K} {v : CThread K} (h : TInv ko s v) (ts : List (CThread K)) :
    TInv ko { s with threads := ts } v := ⟨h.handles, h.pcs⟩

theorem step_inv {ko : KeyOps K} (L : KeyLaws ko) (s : CSys K) (h : CInv ko s) (tid : Nat) :
    CInv ko (step ko s tid) ∧ Ext ko s (step ko s tid) := by
  unfold step
  split
  · exact ⟨h, Ext.refl ko s⟩
  · next t hget =>
    have htm : t ∈ s.threads := List.mem_of_getElem? hget
    obtain ⟨a, b, c, d⟩ := stepThread_inv L s t h.g (h.t t htm)
    dsimp only
    refine ⟨⟨a.of_threads _, ?_⟩, ⟨c.reads, c.seen⟩⟩
    intro u hu
    rcases mem_setAt hu with hu | hu
    · rw [hu]; exact b.of_threads _
    · rw [d] at hu
      exact ((h.t u hu).ext c).of_threads _

theorem run_inv {ko : KeyOps K} (L : KeyLaws ko) (sched : List Nat) : ∀ s : CSys K, CInv ko s →
    CInv ko (run ko s sched) ∧ Ext ko s (run ko s sched) := by
  induction sched with
  | nil => intro s h; exact ⟨h, Ext.refl ko s⟩
  | cons x xs ih =>
    intro s h
    obtain ⟨a, b⟩ := step_inv L s h x
    obtain ⟨c, d⟩ := ih _ a
    exact ⟨c, b.trans d⟩

theorem init_inv (ko : KeyOps K) (count : Nat) (hc : 0 < count) (progs : List (List (CCall K))) :
    CInv ko (CSys.init count progs) := by
  refine ⟨⟨new_inv ko count hc, rfl, (fun e he => by cases he), fun kd k i h => ?_, fun kd k h => ?_⟩, fun t ht => ?_⟩
  · simp only [CSys.init] at h; rw [readSection_new] at h; cases h
  · simp only [CSys.init] at h; rw [readSection_new] at h; exact absurd rfl h
  · simp only [CSys.init, List.mem_map] at ht
    obtain ⟨p, _, rfl⟩ := ht
    exact ⟨(fun hd hm => by cases hm), fun hp => by rcases hp with hp | hp <;> cases hp⟩

end MetricsVerif.DebuggingConc
