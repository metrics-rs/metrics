/-
The Prometheus histogram path on the bucket step machine, for `Props/C07Conc.lean`: the pushes of a program of recording
and draining threads; folded, being folded and pending together never exceed the claimed cells; the last drain pass, run
after every other thread has finished, leaves the bucket empty.
-/
import MetricsVerif.Model.PromConc
import MetricsVerif.Proofs.BucketClients

namespace MetricsVerif.PromConc
open MetricsVerif.Bucket

theorem count_push_progsOf (recs : List (List Nat)) (drains : List Nat) (v : Nat) :
    (progsOf recs drains).flatten.count (Call.push v) = (recorded recs).count v :=
  count_push_recorders recs (drains.map drainCalls) v (fun p hp hv => by
    obtain ⟨n, _, rfl⟩ := List.mem_map.mp hp
    cases (List.mem_replicate.mp hv).2)

/-- everything the clears have been handed (finished AND running ones) and what is still visible are disjoint parts of
    the claimed cells: `delivered_visible_le_cells` with the running clears included -/
theorem folded_visible_le_cells (B : Nat) (progs : List (List Call)) (sched : List Nat) (v : Nat) :
    (delivered (run (init B progs) sched)).count v + (inRunningClears (run (init B progs) sched)).count v
        + (visible (run (init B progs) sched)).count v
      ≤ cellsCount v (run (init B progs) sched) := by
  obtain ⟨hg, ha⟩ := grun_inv sched _ _ (init_ginv B progs) (init_gacc B progs)
  rw [grun_fst] at hg ha
  have h1 := Dsum_split (run (init B progs) sched) v
  have h2 := ha.le v
  have h3 := rsum_add_lsum_le_csum v (grun (init B progs) own0 sched).2 (run (init B progs) sched).blocks 0
  have h4 := visible_le_lsum hg v
  rw [cellsCount_eq]
  omega

/-- where the last drainer (program: one `clear_with`) can be, together with what the tail is then -/
def finalPhase (tail : Option Nat) (t : Thread) : Prop :=
  match t.pc with
  | .start => t.calls = [.clear]
  | .cLoadTail => t.calls = [.clear]
  | .cCas old => t.calls = [.clear] ∧ tail = some old
  | .cQuiesced _ => t.calls = [.clear] ∧ tail = none
  | .cWait _ => t.calls = [.clear] ∧ tail = none
  | .cRead _ => t.calls = [.clear] ∧ tail = none
  | .cNext _ => t.calls = [.clear] ∧ tail = none
  | .done => tail = none
  | _ => False

theorem finalPhase_step (s : Sys) (t : Thread) (h : finalPhase s.tail t) :
    finalPhase (stepThread s t).1.tail (stepThread s t).2 := by
  unfold finalPhase at h
  cases hp : t.pc with
  | start => rw [hp] at h; rw [stepThread_at_start hp]; simp [finalPhase, h, startPC, pcOfCall]
  | done => rw [hp] at h; rw [stepThread_at_done hp]; simp [finalPhase, hp, h]
  | cLoadTail =>
    rw [hp] at h; rw [stepThread_at_cLoadTail hp]
    cases ht : s.tail with
    | none => simp [finalPhase, Thread.advance, h, startPC]
    | some b => simp [finalPhase, h]
  | cCas old => rw [hp] at h; rw [stepThread_at_cCas hp]; simp [finalPhase, h.1, h.2]
  | cQuiesced blk => rw [hp] at h; rw [stepThread_at_cWait (Or.inl hp)]; simp only; split <;> simp [finalPhase, h.1, h.2]
  | cWait blk => rw [hp] at h; rw [stepThread_at_cWait (Or.inr hp)]; simp only; split <;> simp [finalPhase, h.1, h.2]
  | cRead blk => rw [hp] at h; rw [stepThread_at_cRead hp]; simp [finalPhase, h.1, h.2]
  | cNext blk =>
    rw [hp] at h; rw [stepThread_at_cNext hp]
    cases (getBlock s blk).next with
    | none => simp [finalPhase, Thread.advance, h.1, h.2, startPC]
    | some n => simp [finalPhase, h.1, h.2]
  | _ => rw [hp] at h; exact False.elim h

/-- all threads but `f` have finished, `f` is the last drain pass -/
structure FinalDrain (s : Sys) (f : Nat) : Prop where
  others : ∀ (i : Nat) (t : Thread), s.threads[i]? = some t → i ≠ f → t.pc = .done
  me : ∃ t, s.threads[f]? = some t ∧ finalPhase s.tail t

theorem finalDrain_run (f : Nat) (sched : List Nat) (s : Sys) (h : FinalDrain s f) : FinalDrain (run s sched) f :=
  have h' := Solo.run (P := fun s t => finalPhase s.tail t) finalPhase_step (fun _ _ _ ht _ hp => by rw [ht]; exact hp)
    sched ⟨h.others, h.me⟩
  ⟨h'.1, h'.2⟩

/-- once the last drain pass has finished too, the tail is null: nothing is left in the bucket -/
theorem finalDrain_tail_none (s : Sys) (f : Nat) (h : FinalDrain s f) (hq : quiescent s = true) : s.tail = none := by
  obtain ⟨t, hg, hph⟩ := h.me
  unfold finalPhase at hph
  rw [pc_done_of_quiescent hq hg] at hph
  exact hph

end MetricsVerif.PromConc
