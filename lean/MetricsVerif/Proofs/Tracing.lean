/-
The specification vocabulary of C17 and the lemmas that tie it to the model (`Model/Tracing.lean`): lookups in the
insertion-ordered maps, the invariants of reachable states (`Agree`, `NodupKeys`, `WF`), the exact order of what
`enhance_key` returns, and the pool invariant (`PoolClean`).

Specification vocabulary (used in the statements of `Props/C17.lean`):
* `lastAssign evs k`   the value of the *latest* assignment to `k` in a time-ordered list of assignments;
* `Chain`, `visibleSpec` the assignment histories a span can see, innermost level first: its own history,
                       then the history its parent had *when the span was created*, and so on; a name is
                       looked up in the innermost level that ever assigned it;
* `chainStep`, `runG`  how those histories evolve with the subscriber calls; `chainStep` takes from the model state
                       only which span is the parent (`resolveParent`), `runG` runs the model's `step` next to it;
                       neither reads the insertion-ordered field maps of the spans (nor does `visibleAt`, which
                       asks the state for the thread's current span only).
-/
import MetricsVerif.Model.Tracing

namespace MetricsVerif.Tracing

namespace FMap

@[simp] theorem get?_nil (k : Str) : get? [] k = none := rfl

theorem get?_cons (k' v' : Str) (r : FMap) (k : Str) :
    get? ((k', v') :: r) k = if k' = k then some v' else get? r k := rfl

theorem get?_insert (m : FMap) (k v k' : Str) :
    (insert m k v).get? k' = if k = k' then some v else m.get? k' := by
  induction m with
  | nil => simp [insert, get?]
  | cons x xs ih =>
    obtain ⟨kx, vx⟩ := x
    simp only [insert]
    by_cases hx : kx = k
    · subst hx
      simp only [if_true, get?]
      by_cases h : kx = k' <;> simp [h]
    · simp only [hx, if_false, get?, ih]
      by_cases h : kx = k'
      · subst h
        have : ¬ k = kx := fun e => hx e.symm
        simp [this]
      · simp [h]

theorem get?_insertIfAbsent (m : FMap) (k v k' : Str) :
    (insertIfAbsent m k v).get? k' = (m.get? k').or (if k = k' then some v else none) := by
  induction m with
  | nil => simp [insertIfAbsent, get?]
  | cons x xs ih =>
    obtain ⟨kx, vx⟩ := x
    simp only [insertIfAbsent]
    by_cases hx : kx = k
    · subst hx
      simp only [if_true, get?]
      by_cases h : kx = k' <;> simp [h]
    · simp only [hx, if_false, get?, ih]
      by_cases h : kx = k' <;> simp [h]

theorem keys_insert (m : FMap) (k v : Str) :
    (insert m k v).keys = if k ∈ m.keys then m.keys else m.keys ++ [k] := by
  induction m with
  | nil => simp [insert, keys]
  | cons x xs ih =>
    obtain ⟨kx, vx⟩ := x
    simp only [insert]
    by_cases hx : kx = k
    · subst hx; simp [keys]
    · have hx' : ¬ k = kx := fun e => hx e.symm
      simp only [hx, if_false]
      simp only [keys, List.map_cons, List.mem_cons, hx', false_or] at ih ⊢
      rw [ih]
      by_cases hm : k ∈ List.map Prod.fst xs <;> simp [hm]

/-- the two insertions differ in the value they keep, not in the keys -/
theorem keys_insertIfAbsent_eq (m : FMap) (k v : Str) : (insertIfAbsent m k v).keys = (insert m k v).keys := by
  induction m with
  | nil => rfl
  | cons x xs ih =>
    simp only [insertIfAbsent, insert]
    split
    · rfl
    · exact congrArg (x.1 :: ·) ih

theorem keys_insertIfAbsent (m : FMap) (k v : Str) :
    (insertIfAbsent m k v).keys = if k ∈ m.keys then m.keys else m.keys ++ [k] := by
  rw [keys_insertIfAbsent_eq, keys_insert]

theorem nodup_append_singleton {l : List Str} {k : Str} (h : l.Nodup) (hk : k ∉ l) : (l ++ [k]).Nodup := by
  rw [List.nodup_append]
  refine ⟨h, by simp, ?_⟩
  intro a ha b hb
  simp only [List.mem_singleton] at hb
  subst hb
  intro e
  subst e
  exact hk ha

theorem nodup_insert {m : FMap} (h : m.keys.Nodup) (k v : Str) : (insert m k v).keys.Nodup := by
  rw [keys_insert]
  split
  · exact h
  · next hk => exact nodup_append_singleton h hk

theorem nodup_insertIfAbsent {m : FMap} (h : m.keys.Nodup) (k v : Str) : (insertIfAbsent m k v).keys.Nodup :=
  keys_insertIfAbsent_eq m k v ▸ nodup_insert h k v

/-- a name has no value exactly when it is not a key -/
theorem get?_eq_none_iff {m : FMap} {k : Str} : m.get? k = none ↔ k ∉ m.keys := by
  induction m with
  | nil => exact ⟨fun _ => List.not_mem_nil, fun _ => rfl⟩
  | cons x xs ih =>
    obtain ⟨kx, vx⟩ := x
    rw [get?_cons, keys, List.map_cons, List.mem_cons, not_or, ← keys, ← ih]
    split
    · next e => exact ⟨nofun, fun h => absurd e.symm h.1⟩
    · next e => exact ⟨fun h => ⟨fun e' => e e'.symm, h⟩, (·.2)⟩

theorem get?_none_all_iff_nil (m : FMap) : (∀ k, m.get? k = none) ↔ m = [] := by
  constructor
  · intro h
    cases m with
    | nil => rfl
    | cons x xs =>
      obtain ⟨kx, vx⟩ := x
      have := h kx
      simp [get?] at this
  · intro h; subst h; intro k; rfl

theorem mem_iff_get? {m : FMap} (h : m.keys.Nodup) (k v : Str) : (k, v) ∈ m ↔ m.get? k = some v := by
  induction m with
  | nil => simp [get?]
  | cons x xs ih =>
    obtain ⟨kx, vx⟩ := x
    simp only [keys, List.map_cons, List.nodup_cons] at h
    simp only [List.mem_cons, get?, Prod.mk.injEq]
    by_cases hk : kx = k
    · subst hk
      simp only [if_true, Option.some.injEq, true_and]
      constructor
      · rintro (e | hm)
        · exact e.symm
        · exact absurd (List.mem_map_of_mem (f := Prod.fst) hm) h.1
      · intro e; exact Or.inl e.symm
    · have hk' : ¬ k = kx := fun e => hk e.symm
      simp only [hk, if_false, hk', false_and, false_or]
      exact ih h.2

/-- `retain` on a map with distinct keys: a key survives iff its (only) entry passes the predicate -/
theorem get?_filter {m : FMap} (h : m.keys.Nodup) (p : Str × Str → Bool) (k : Str) :
    get? (m.filter p) k = (m.get? k).bind (fun v => if p (k, v) then some v else none) := by
  induction m with
  | nil => rfl
  | cons x xs ih =>
    obtain ⟨kx, vx⟩ := x
    simp only [keys, List.map_cons, List.nodup_cons] at h
    by_cases hk : kx = k
    · subst hk
      have hnone : get? xs kx = none := get?_eq_none_iff.2 h.1
      by_cases hp : p (kx, vx)
      · simp [List.filter, hp, get?]
      · have := ih h.2
        rw [hnone] at this
        simp [List.filter, hp, get?, this]
    · by_cases hp : p (kx, vx)
      · simp [List.filter, hp, get?, hk, ih h.2]
      · simp [List.filter, hp, get?, hk, ih h.2]

theorem keys_filter_sublist (m : FMap) (p : Str × Str → Bool) : List.Sublist (keys (m.filter p)) m.keys := by
  simp only [keys]
  exact List.Sublist.map _ List.filter_sublist

theorem nodup_filter {m : FMap} (h : m.keys.Nodup) (p : Str × Str → Bool) : (keys (m.filter p)).Nodup :=
  List.Nodup.sublist (keys_filter_sublist m p) h

end FMap

/-- value of the latest assignment to `k` in a time-ordered assignment list -/
def lastAssign : List (Str × Str) → Str → Option Str
  | [], _ => none
  | (k', v) :: r, k => (lastAssign r k).or (if k' = k then some v else none)

/-- the assignments a list of span field values makes (`Empty` assigns nothing) -/
def rendered (fields : List (Str × Value)) : List (Str × Str) :=
  fields.filterMap (fun kv => kv.2.render.map (fun s => (kv.1, s)))

/-- histories visible from a span, innermost first -/
abbrev Chain := List (List (Str × Str))

/-- precedence: the innermost level that ever assigned `k` decides, by its latest assignment -/
def visibleSpec : Chain → Str → Option Str
  | [], _ => none
  | lvl :: r, k => (lastAssign lvl k).or (visibleSpec r k)

/-- a later `record()` appends to the span's own history -/
def recordChain (evs : List (Str × Str)) : Chain → Chain
  | [] => [evs]
  | lvl :: r => (lvl ++ evs) :: r

def parentChain (cs : List Chain) : Option Nat → Chain
  | none => []
  | some p => (cs[p]?).getD []

/-- evolution of the histories: a new span starts with its own assignments on top of a *snapshot* of its
    parent's chain; `record` extends only that span's own level; enter/exit change nothing -/
def chainStep (s : State) (cs : List Chain) : Op → List Chain
  | .newSpan t p fields => cs ++ [rendered fields :: parentChain cs (resolveParent s t p)]
  | .record _ id fields => modifyAt cs id (recordChain (rendered fields))
  | .enter _ _ => cs
  | .exit _ _ => cs

/-- model state and histories side by side -/
def runG (s : State) (cs : List Chain) : List Op → State × List Chain
  | [] => (s, cs)
  | op :: ops => runG (step s op) (chainStep s cs op) ops

/-- what the label filter lets through -/
def admitOpt (f : Filter) (name k : Str) : Option Str → Option Str
  | none => none
  | some v => if f.shouldInclude name k v then some v else none

/-- fields visible to an emission on thread `t` (none without a current span) -/
def visibleAt (s : State) (cs : List Chain) (t : Nat) (k : Str) : Option Str :=
  visibleSpec (parentChain cs (current s t)) k

@[simp] theorem lastAssign_nil (k : Str) : lastAssign [] k = none := rfl

theorem lastAssign_append (a b : List (Str × Str)) (k : Str) :
    lastAssign (a ++ b) k = (lastAssign b k).or (lastAssign a k) := by
  induction a with
  | nil => simp
  | cons x xs ih =>
    obtain ⟨kx, vx⟩ := x
    simp only [List.cons_append, lastAssign, ih]
    cases lastAssign b k <;> simp

theorem lastAssign_eq_get?_of_nodup {l : FMap} (h : l.keys.Nodup) (k : Str) : lastAssign l k = l.get? k := by
  induction l with
  | nil => rfl
  | cons x xs ih =>
    obtain ⟨kx, vx⟩ := x
    simp only [FMap.keys, List.map_cons, List.nodup_cons] at h
    simp only [lastAssign, FMap.get?, ih h.2]
    by_cases hk : kx = k
    · subst hk
      simp [FMap.get?_eq_none_iff.2 h.1]
    · simp [hk]

theorem get?_foldl_insertPair (evs : List (Str × Str)) (m : FMap) (k : Str) :
    (evs.foldl insertPair m).get? k = (lastAssign evs k).or (m.get? k) := by
  induction evs generalizing m with
  | nil => simp
  | cons e es ih =>
    obtain ⟨ke, ve⟩ := e
    simp only [List.foldl_cons, ih, insertPair, FMap.get?_insert, lastAssign]
    by_cases hk : ke = k
    · subst hk; cases lastAssign es ke <;> simp
    · cases lastAssign es k <;> simp [hk]

theorem nodup_foldl_insertPair (evs : List (Str × Str)) {m : FMap} (h : m.keys.Nodup) :
    (FMap.keys (evs.foldl insertPair m)).Nodup := by
  induction evs generalizing m with
  | nil => exact h
  | cons e es ih => exact ih (FMap.nodup_insert h _ _)

theorem foldl_visit (fields : List (Str × Value)) (m : FMap) :
    fields.foldl visit m = (rendered fields).foldl insertPair m := by
  induction fields generalizing m with
  | nil => rfl
  | cons x xs ih =>
    obtain ⟨kx, vx⟩ := x
    simp only [List.foldl_cons, rendered, List.filterMap_cons, visit]
    cases hv : vx.render with
    | none => simpa [rendered, hv] using ih m
    | some sv => simpa [rendered, hv, insertPair] using ih (m.insert kx sv)

theorem get?_fromRecord (fields : List (Str × Value)) (k : Str) :
    (fromRecord fields).get? k = lastAssign (rendered fields) k := by
  simp [fromRecord, foldl_visit, get?_foldl_insertPair]

theorem nodup_fromRecord (fields : List (Str × Value)) : (FMap.keys (fromRecord fields)).Nodup := by
  rw [fromRecord, foldl_visit]
  exact nodup_foldl_insertPair _ (by simp [FMap.keys])

theorem get?_extendFromLabels (self other : FMap) (k : Str) :
    (extendFromLabels self other).get? k = (self.get? k).or (other.get? k) := by
  unfold extendFromLabels
  induction other generalizing self with
  | nil => simp
  | cons e es ih =>
    obtain ⟨ke, ve⟩ := e
    simp only [List.foldl_cons, ih, insertIfAbsentPair, FMap.get?_insertIfAbsent, FMap.get?]
    by_cases hk : ke = k
    · subst hk; cases FMap.get? self ke <;> simp
    · cases FMap.get? self k <;> simp [hk]

theorem nodup_extendFromLabels {self : FMap} (h : self.keys.Nodup) (other : FMap) :
    (FMap.keys (extendFromLabels self other)).Nodup := by
  unfold extendFromLabels
  induction other generalizing self with
  | nil => exact h
  | cons e es ih => exact ih (FMap.nodup_insertIfAbsent h _ _)

theorem get?_extendFromLabelsOverwrite (self other : FMap) (k : Str) :
    (extendFromLabelsOverwrite self other).get? k = (lastAssign other k).or (self.get? k) :=
  get?_foldl_insertPair other self k

theorem nodup_extendFromLabelsOverwrite {self : FMap} (h : self.keys.Nodup) (other : FMap) :
    (FMap.keys (extendFromLabelsOverwrite self other)).Nodup :=
  nodup_foldl_insertPair other h

/-- `on_record` on one map, as a lookup function: the recorded values replace, everything else stays -/
theorem get?_record (m : FMap) (fields : List (Str × Value)) (k : Str) :
    (extendFromLabelsOverwrite m (fromRecord fields)).get? k = (lastAssign (rendered fields) k).or (m.get? k) := by
  rw [get?_extendFromLabelsOverwrite, lastAssign_eq_get?_of_nodup (nodup_fromRecord fields), get?_fromRecord]

/-- `on_new_span` as a lookup function: own fields first, then whatever the parent's map had -/
theorem get?_newSpanLabels (fields : List (Str × Value)) (parent : Option FMap) (k : Str) :
    (newSpanLabels fields parent).get? k
      = (lastAssign (rendered fields) k).or (match parent with | some pl => pl.get? k | none => none) := by
  cases parent with
  | none => simp [newSpanLabels, get?_fromRecord]
  | some pl => simp [newSpanLabels, get?_extendFromLabels, get?_fromRecord]

theorem nodup_newSpanLabels (fields : List (Str × Value)) (parent : Option FMap) :
    (FMap.keys (newSpanLabels fields parent)).Nodup := by
  cases parent with
  | none => exact nodup_fromRecord fields
  | some pl => exact nodup_extendFromLabels (nodup_fromRecord fields) pl

theorem length_modifyAt {α : Type} (l : List α) (i : Nat) (f : α → α) : (modifyAt l i f).length = l.length := by
  induction l generalizing i with
  | nil => rfl
  | cons x xs ih => cases i <;> simp [modifyAt, ih]

theorem getElem?_modifyAt {α : Type} (l : List α) (i j : Nat) (f : α → α) :
    (modifyAt l i f)[j]? = if j = i then (l[j]?).map f else l[j]? := by
  induction l generalizing i j with
  | nil => show none = _; split <;> rfl
  | cons x xs ih =>
    cases i with
    | zero => cases j <;> rfl
    | succ i =>
      cases j with
      | zero => rfl
      | succ j =>
        show (modifyAt xs i f)[j]? = _
        rw [ih]
        simp only [Nat.add_right_cancel_iff, List.getElem?_cons_succ]

theorem mem_modifyAt {α : Type} {l : List α} {i : Nat} {f : α → α} {y : α} (h : y ∈ modifyAt l i f) :
    y ∈ l ∨ ∃ x ∈ l, y = f x := by
  obtain ⟨j, hj⟩ := List.getElem?_of_mem h
  rw [getElem?_modifyAt] at hj
  split at hj
  · obtain ⟨x, hx, rfl⟩ := Option.map_eq_some_iff.1 hj
    exact .inr ⟨x, List.mem_of_getElem? hx, rfl⟩
  · exact .inl (List.mem_of_getElem? hj)

/-- every span's map answers lookups exactly as its history says -/
def Agree (spans : List FMap) (cs : List Chain) : Prop :=
  spans.length = cs.length ∧
  ∀ (i : Nat) (m : FMap) (c : Chain), spans[i]? = some m → cs[i]? = some c → ∀ k, m.get? k = visibleSpec c k

/-- every span's map has distinct keys (it is an `IndexMap`) -/
def NodupKeys (s : State) : Prop := ∀ m ∈ s.spans, (FMap.keys m).Nodup

/-- stacks only mention spans that exist -/
def WF (s : State) : Prop := ∀ t c, c ∈ s.stacks t → c.id < s.spans.length

theorem agree_init : Agree ([] : List FMap) [] := ⟨rfl, by intro i m c h; simp at h⟩

theorem visibleSpec_recordChain (evs : List (Str × Str)) (c : Chain) (k : Str) :
    visibleSpec (recordChain evs c) k = (lastAssign evs k).or (visibleSpec c k) := by
  cases c with
  | nil => simp [recordChain, visibleSpec]
  | cons lvl r =>
    simp only [recordChain, visibleSpec, lastAssign_append]
    cases lastAssign evs k <;> simp

theorem parentLabels_agree {s : State} {cs : List Chain} (h : Agree s.spans cs) (p : Option Nat) (k : Str) :
    (match parentLabels s p with | some pl => pl.get? k | none => none) = visibleSpec (parentChain cs p) k := by
  cases p with
  | none => simp [parentLabels, parentChain, visibleSpec]
  | some pid =>
    simp only [parentLabels, parentChain]
    by_cases hlt : pid < s.spans.length
    · have hlt' : pid < cs.length := h.1 ▸ hlt
      have e1 : s.spans[pid]? = some s.spans[pid] := List.getElem?_eq_getElem hlt
      have e2 : cs[pid]? = some cs[pid] := List.getElem?_eq_getElem hlt'
      rw [e1, e2]
      simpa using h.2 pid _ _ e1 e2 k
    · have hge : s.spans.length ≤ pid := Nat.le_of_not_lt hlt
      have hge' : cs.length ≤ pid := h.1 ▸ hge
      rw [List.getElem?_eq_none hge, List.getElem?_eq_none hge']
      simp [visibleSpec]

theorem agree_step {s : State} {cs : List Chain} (h : Agree s.spans cs) (op : Op) :
    Agree (step s op).spans (chainStep s cs op) := by
  cases op with
  | newSpan t p fields =>
    refine ⟨by simp [step, onNewSpan, chainStep, h.1], ?_⟩
    intro i m c hm hc k
    simp only [step, onNewSpan, chainStep] at hm hc
    by_cases hi : i < s.spans.length
    · rw [List.getElem?_append_left hi] at hm
      rw [List.getElem?_append_left (h.1 ▸ hi)] at hc
      exact h.2 i m c hm hc k
    · -- the new span: its map and its chain sit in the last slot of either list
      have hlen := (List.getElem?_eq_some_iff.1 hm).1
      rw [List.length_append, List.length_singleton] at hlen
      cases Nat.le_antisymm (Nat.le_of_lt_succ hlen) (Nat.le_of_not_lt hi)
      rw [List.getElem?_concat_length] at hm
      rw [h.1, List.getElem?_concat_length] at hc
      cases hm; cases hc
      rw [get?_newSpanLabels, visibleSpec, parentLabels_agree h]
  | record t id fields =>
    refine ⟨by simp [step, onRecord, chainStep, length_modifyAt, h.1], ?_⟩
    intro i m c hm hc k
    simp only [step, onRecord, chainStep, getElem?_modifyAt] at hm hc
    by_cases hi : i = id
    · simp only [hi, if_true, Option.map_eq_some_iff] at hm hc
      obtain ⟨m0, hm0, rfl⟩ := hm
      obtain ⟨c0, hc0, rfl⟩ := hc
      rw [get?_record, visibleSpec_recordChain, h.2 id m0 c0 hm0 hc0 k]
    · simp only [hi, if_false] at hm hc
      exact h.2 i m c hm hc k
  | enter t id =>
    simp only [step, chainStep]
    split <;> exact h
  | exit t id => exact h

theorem agree_runG (ops : List Op) {s : State} {cs : List Chain} (h : Agree s.spans cs) :
    Agree (runG s cs ops).1.spans (runG s cs ops).2 := by
  induction ops generalizing s cs with
  | nil => exact h
  | cons op ops ih => exact ih (agree_step h op)

theorem runG_fst (ops : List Op) (s : State) (cs : List Chain) : (runG s cs ops).1 = run s ops := by
  induction ops generalizing s cs with
  | nil => rfl
  | cons op ops ih => simp [runG, run, ih]

theorem nodupKeys_init : NodupKeys {} := by intro m hm; simp at hm

theorem nodupKeys_step {s : State} (h : NodupKeys s) (op : Op) : NodupKeys (step s op) := by
  cases op with
  | newSpan t p fields =>
    intro m hm
    simp only [step, onNewSpan, List.mem_append, List.mem_singleton] at hm
    rcases hm with hm | hm
    · exact h m hm
    · subst hm; exact nodup_newSpanLabels _ _
  | record t id fields =>
    intro m hm
    simp only [step, onRecord] at hm
    rcases mem_modifyAt hm with hm | ⟨m0, hm0, rfl⟩
    · exact h m hm
    · exact nodup_extendFromLabelsOverwrite (h m0 hm0) _
  | enter t id =>
    simp only [step]
    split
    · exact h
    · exact h
  | exit t id => exact h

theorem nodupKeys_run (ops : List Op) {s : State} (h : NodupKeys s) : NodupKeys (run s ops) := by
  induction ops generalizing s with
  | nil => exact h
  | cons op ops ih => exact ih (nodupKeys_step h op)

theorem mem_pop {st : Stack} {id : Nat} {c : Ctx} (h : c ∈ Stack.pop st id) : c ∈ st := by
  induction st with
  | nil => simp [Stack.pop] at h
  | cons x xs ih =>
    simp only [Stack.pop] at h
    split at h
    · exact List.mem_cons_of_mem _ h
    · simp only [List.mem_cons] at h ⊢
      rcases h with h | h
      · exact Or.inl h
      · exact Or.inr (ih h)

theorem current_mem {st : Stack} {id : Nat} (h : st.current = some id) : ∃ c ∈ st, c.id = id := by
  simp only [Stack.current, Option.map_eq_some_iff] at h
  obtain ⟨c, hc, rfl⟩ := h
  exact ⟨c, List.mem_of_find?_eq_some hc, rfl⟩

theorem wf_init : WF {} := by intro t c h; simp at h

theorem wf_step {s : State} (h : WF s) (op : Op) : WF (step s op) := by
  cases op with
  | newSpan t p fields =>
    intro u c hc
    have := h u c hc
    simp only [step, onNewSpan, List.length_append, List.length_singleton]
    omega
  | record t id fields =>
    intro u c hc
    simp only [step, onRecord, length_modifyAt]
    exact h u c hc
  | enter t id =>
    simp only [step]
    split
    · next hlt =>
      intro u c hc
      simp only [setStack] at hc ⊢
      split at hc
      · simp only [Stack.push, List.mem_cons] at hc
        rcases hc with hc | hc
        · subst hc; exact hlt
        · next hu => subst hu; exact h _ c hc
      · exact h u c hc
    · exact h
  | exit t id =>
    intro u c hc
    simp only [step, setStack] at hc ⊢
    split at hc
    · next hu => subst hu; exact h _ c (mem_pop hc)
    · exact h u c hc

theorem wf_run (ops : List Op) {s : State} (h : WF s) : WF (run s ops) := by
  induction ops generalizing s with
  | nil => exact h
  | cons op ops ih => exact ih (wf_step h op)

theorem current_lt {s : State} (h : WF s) {t id : Nat} (hc : current s t = some id) : id < s.spans.length := by
  obtain ⟨c, hm, rfl⟩ := current_mem hc
  exact h t c hm

theorem get?_enhanceLabels (f : Filter) (name : Str) {m : FMap} (hm : m.keys.Nodup)
    (labels : List (Str × Str)) (k : Str) :
    FMap.get? (enhanceLabels f name m labels) k = (lastAssign labels k).or (admitOpt f name k (m.get? k)) := by
  rw [enhanceLabels, get?_foldl_insertPair, FMap.get?_filter hm]
  cases h : FMap.get? m k with
  | none => simp [admitOpt]
  | some v =>
    simp only [admitOpt, admits, Option.bind_some]
    congr 1

theorem nodup_enhanceLabels (f : Filter) (name : Str) {m : FMap} (hm : m.keys.Nodup) (labels : List (Str × Str)) :
    (FMap.keys (enhanceLabels f name m labels)).Nodup :=
  nodup_foldl_insertPair labels (FMap.nodup_filter hm _)

/-- the thread that performs an op -/
def opThread : Op → Nat
  | .newSpan t _ _ => t
  | .record t _ _ => t
  | .enter t _ => t
  | .exit t _ => t

/-- the op is a `record()` on span `cur` -/
def recordsOn (cur : Option Nat) : Op → Prop
  | .record _ id _ => cur = some id
  | _ => False

theorem step_other_thread {s : State} (hwf : WF s) (t : Nat) (op : Op)
    (hop : opThread op ≠ t) (hrec : ¬ recordsOn (current s t) op) :
    (step s op).stacks t = s.stacks t
    ∧ parentLabels (step s op) (current s t) = parentLabels s (current s t) := by
  cases op with
  | newSpan u p fields =>
    refine ⟨rfl, ?_⟩
    cases hc : current s t with
    | none => rfl
    | some id =>
      exact List.getElem?_append_left (current_lt hwf hc)
  | record u id' fields =>
    refine ⟨rfl, ?_⟩
    cases hc : current s t with
    | none => rfl
    | some id =>
      have hne : id ≠ id' := by
        intro e; subst e
        exact hrec (by simp [recordsOn, hc])
      show (modifyAt s.spans id' _)[id]? = s.spans[id]?
      rw [getElem?_modifyAt, if_neg hne]
  | enter u id' =>
    have hne : ¬ t = u := fun e => hop e.symm
    simp only [step]
    split
    · exact ⟨if_neg hne, rfl⟩
    · exact ⟨rfl, rfl⟩
  | exit u id' => exact ⟨if_neg fun e => hop e.symm, rfl⟩

/-- the value the metric's own labels give to a span field, if any -/
def overrideBy (labels : List (Str × Str)) (kv : Str × Str) : Str × Str :=
  (kv.1, (FMap.get? labels kv.1).getD kv.2)

def notIn (base : FMap) (kv : Str × Str) : Bool := !(FMap.keys base).contains kv.1

theorem insert_of_not_mem {base : FMap} {k : Str} (v : Str) (h : k ∉ FMap.keys base) :
    FMap.insert base k v = base ++ [(k, v)] := by
  induction base with
  | nil => rfl
  | cons x xs ih =>
    obtain ⟨kx, vx⟩ := x
    simp only [FMap.keys, List.map_cons, List.mem_cons, not_or] at h
    have : ¬ kx = k := fun e => h.1 e.symm
    simp only [FMap.insert, this, if_false, List.cons_append]
    rw [ih h.2]

theorem map_replace_of_not_mem {base : FMap} {k : Str} (v : Str) (h : k ∉ FMap.keys base) :
    base.map (fun kv => if kv.1 = k then (kv.1, v) else kv) = base := by
  induction base with
  | nil => rfl
  | cons x xs ih =>
    obtain ⟨kx, vx⟩ := x
    simp only [FMap.keys, List.map_cons, List.mem_cons, not_or] at h
    have : ¬ kx = k := fun e => h.1 e.symm
    simp only [List.map_cons, this, if_false]
    rw [ih h.2]

theorem insert_of_mem {base : FMap} (hnd : (FMap.keys base).Nodup) {k : Str} (v : Str) (h : k ∈ FMap.keys base) :
    FMap.insert base k v = base.map (fun kv => if kv.1 = k then (kv.1, v) else kv) := by
  induction base with
  | nil => simp [FMap.keys] at h
  | cons x xs ih =>
    obtain ⟨kx, vx⟩ := x
    simp only [FMap.keys, List.map_cons, List.nodup_cons] at hnd
    by_cases hk : kx = k
    · subst hk
      simp only [FMap.insert, if_true, List.map_cons]
      rw [map_replace_of_not_mem v hnd.1]
    · simp only [FMap.keys, List.map_cons, List.mem_cons] at h
      have h' : k ∈ FMap.keys xs := by
        rcases h with h | h
        · exact absurd h.symm hk
        · exact h
      simp only [FMap.insert, hk, if_false, List.map_cons]
      rw [ih hnd.2 h']

theorem foldl_insertPair_eq (labels : List (Str × Str)) (hl : (FMap.keys labels).Nodup)
    (base : FMap) (hb : (FMap.keys base).Nodup) :
    labels.foldl insertPair base = base.map (overrideBy labels) ++ labels.filter (notIn base) := by
  induction labels generalizing base with
  | nil =>
    have : overrideBy [] = id := by
      funext kv
      simp [overrideBy, FMap.get?]
    simp [this]
  | cons x r ih =>
    obtain ⟨k, v⟩ := x
    simp only [FMap.keys, List.map_cons, List.nodup_cons] at hl
    have hkr : FMap.get? r k = none := FMap.get?_eq_none_iff.2 hl.1
    simp only [List.foldl_cons, insertPair]
    rw [ih hl.2 _ (FMap.nodup_insert hb k v)]
    by_cases hk : k ∈ FMap.keys base
    · rw [insert_of_mem hb v hk]
      have hkeys : FMap.keys (base.map (fun kv => if kv.1 = k then (kv.1, v) else kv)) = FMap.keys base := by
        simp only [FMap.keys, List.map_map]
        apply List.map_congr_left
        intro a _
        simp only [Function.comp]
        split <;> rfl
      have hfilt : List.filter (notIn (base.map (fun kv => if kv.1 = k then (kv.1, v) else kv))) r
          = List.filter (notIn base) ((k, v) :: r) := by
        have : notIn base (k, v) = false := by simp [notIn, hk]
        simp only [List.filter_cons, this]
        apply List.filter_congr
        intro a _
        simp only [notIn, hkeys]
      rw [hfilt, List.map_map]
      congr 1
      apply List.map_congr_left
      intro a _
      simp only [Function.comp, overrideBy]
      by_cases ha : a.1 = k
      · simp [ha, hkr, FMap.get?]
      · have : ¬ k = a.1 := fun e => ha e.symm
        simp [ha, FMap.get?, this]
    · rw [insert_of_not_mem v hk]
      have hnot : notIn base (k, v) = true := by simp [notIn, hk]
      simp only [List.map_append, List.map_cons, List.map_nil, List.filter_cons, hnot, if_true,
        List.append_assoc, List.singleton_append]
      have h1 : base.map (overrideBy r) = base.map (overrideBy ((k, v) :: r)) := by
        apply List.map_congr_left
        intro a ha
        have hne : ¬ k = a.1 := by
          intro e; apply hk; rw [e]; exact List.mem_map_of_mem (f := Prod.fst) ha
        simp [overrideBy, FMap.get?, hne]
      have h2 : overrideBy r (k, v) = (k, v) := by simp [overrideBy, hkr]
      have h3 : List.filter (notIn (base ++ [(k, v)])) r = List.filter (notIn base) r := by
        apply List.filter_congr
        intro a ha
        have hne : ¬ a.1 = k := by
          intro e; apply hl.1; rw [← e]; exact List.mem_map_of_mem (f := Prod.fst) ha
        simp [notIn, FMap.keys, hne]
      rw [h1, h2, h3]

theorem enhanceLabels_eq (f : Filter) (name : Str) {m : FMap} (hm : m.keys.Nodup)
    (labels : List (Str × Str)) (hl : (FMap.keys labels).Nodup) :
    enhanceLabels f name m labels
      = (m.filter (admits f name)).map (overrideBy labels) ++ labels.filter (notIn (m.filter (admits f name))) :=
  foldl_insertPair_eq labels hl _ (FMap.nodup_filter hm _)

/-- every free map of the pool is empty -/
def PoolClean (p : PState) : Prop := ∀ m ∈ p.pool, m = []

/-- what a pooled step does to the subscriber state if `Labels::default()` were always a fresh empty map -/
def baseStep (s : State) : POp → State
  | .base op => step s op
  | .close _ => s

theorem baseStep_foldl (ops : List POp) (s : State) : ops.foldl baseStep s = run s (baseOps ops) := by
  induction ops generalizing s with
  | nil => rfl
  | cons op ops ih =>
    cases op with
    | base o => simp [baseOps, baseStep, run, ih]
    | close id => simp [baseOps, baseStep, ih]

theorem pull_fst_of_clean {pool : List FMap} (h : ∀ m ∈ pool, m = []) : (pull pool).1 = [] := by
  cases pool with
  | nil => rfl
  | cons m r => simpa [pull] using h m (by simp)

theorem pull_snd_of_clean {pool : List FMap} (h : ∀ m ∈ pool, m = []) : ∀ m ∈ (pull pool).2, m = [] := by
  cases pool with
  | nil => intro m hm; simp [pull] at hm
  | cons m r => intro x hx; exact h x (by simp [pull] at hx; simp [hx])

theorem release_clean {pool : List FMap} (h : ∀ m ∈ pool, m = []) (x : FMap) : ∀ m ∈ release pool x, m = [] := by
  intro m hm
  simp only [release, List.mem_cons] at hm
  rcases hm with hm | hm
  · simpa [poolReset] using hm
  · exact h m hm

theorem newSpanLabelsIn_nil (fields : List (Str × Value)) (parent : Option FMap) :
    newSpanLabelsIn [] fields parent = newSpanLabels fields parent := by
  cases parent <;> rfl

/-- one pooled step from a clean pool: the pool stays clean and the subscriber state moves exactly as in the
    pool-free reading -/
theorem pstep_of_clean {p : PState} (h : PoolClean p) (op : POp) :
    PoolClean (pstep p op) ∧ (pstep p op).base = baseStep p.base op := by
  cases op with
  | base o =>
    cases o with
    | newSpan t par fields =>
      refine ⟨pull_snd_of_clean h, ?_⟩
      simp only [pstep, pOnNewSpan, baseStep, step, onNewSpan, pull_fst_of_clean h, newSpanLabelsIn_nil]
    | record t id fields =>
      refine ⟨release_clean (pull_snd_of_clean h) _, ?_⟩
      simp only [pstep, pOnRecord, baseStep, step, onRecord, pull_fst_of_clean h]
      rfl
    | enter t id => exact ⟨h, rfl⟩
    | exit t id => exact ⟨h, rfl⟩
  | close id =>
    refine ⟨?_, ?_⟩
    · simp only [pstep, pClose]
      split
      · split
        · exact h
        · exact release_clean h _
      · exact h
    · simp only [pstep, pClose, baseStep]
      split
      · split <;> rfl
      · rfl

theorem prun_of_clean (ops : List POp) {p : PState} (h : PoolClean p) :
    PoolClean (prun p ops) ∧ (prun p ops).base = ops.foldl baseStep p.base := by
  induction ops generalizing p with
  | nil => exact ⟨h, rfl⟩
  | cons op ops ih =>
    have h1 := pstep_of_clean h op
    have h2 := ih h1.1
    refine ⟨h2.1, ?_⟩
    simp only [prun, List.foldl_cons] at h2 ⊢
    rw [h2.2, h1.2]

/-- dropping a whole subscriber (every open span's `Labels` goes back) leaves the pool clean -/
theorem poolAfterDrop_clean {p : PState} (h : PoolClean p) : ∀ m ∈ poolAfterDrop p, m = [] := by
  unfold poolAfterDrop
  revert h
  unfold PoolClean
  generalize p.pool = pool
  generalize List.range p.base.spans.length = l
  intro h
  induction l generalizing pool with
  | nil => exact h
  | cons i l ih =>
    simp only [List.foldl_cons]
    apply ih
    split
    · exact h
    · split
      · exact release_clean h _
      · exact h

end MetricsVerif.Tracing
