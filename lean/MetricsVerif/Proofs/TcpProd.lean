/-
Lemmas about the producer / transport step machine `Model/TcpProd.lean` (C11): the inductive invariant of the
code's shape (`sendThenWake`); what a run of `try_send`s and a run of read-loop iterations do to the whole state
(`sendAll_of_room`, `tSteps_loop`); the invariant of the degenerate configuration `buffer_size(Some(0))`.
-/
import MetricsVerif.Model.TcpProd

namespace MetricsVerif.TcpProd

/-- every queued event is covered by a wake-up that is pending, by a transport thread that is still inside its
    read loop (it has not seen the channel empty yet), or by an emitter that is about to call `wake()` -/
def Covered (s : Sys) : Prop :=
  s.chan ≠ [] → s.wakePending = true ∨ s.tpc = .loop ∨ ∃ i, (s.ems i).pc = .wake

/-- nothing accepted by the channel is ever lost or reordered on its way into a batch -/
def Conserved (s : Sys) : Prop := s.accepted = s.delivered ++ s.buffered ++ s.chan

def IdleEmpty (s : Sys) : Prop := s.tpc = .idle → s.buffered = []

structure Inv (s : Sys) : Prop where
  shape : s.shape = .sendThenWake
  covered : Covered s
  conserved : Conserved s
  idleEmpty : IdleEmpty s

theorem setEm_ems_self (s : Sys) (i : Nat) (e : Em) : (s.setEm i e).ems i = e :=
  if_pos rfl

theorem setEm_ems_ne (s : Sys) (i j : Nat) (e : Em) (h : j ≠ i) : (s.setEm i e).ems j = s.ems j :=
  if_neg h

theorem inv_setEm_keep (s : Sys) (i : Nat) (e : Em) (h : Inv s) (hpc : (s.ems i).pc ≠ .wake) :
    Inv (s.setEm i e) := by
  refine ⟨h.shape, ?_, h.conserved, h.idleEmpty⟩
  intro hne
  rcases h.covered hne with hw | hl | ⟨j, hj⟩
  · exact Or.inl hw
  · exact Or.inr (Or.inl hl)
  · refine Or.inr (Or.inr ⟨j, ?_⟩)
    have hji : j ≠ i := by
      intro hji; subst hji; exact hpc hj
    rw [setEm_ems_ne s i j e hji]; exact hj

theorem emGate_inv (s : Sys) (i : Nat) (h : Inv s) (hpc : (s.ems i).pc = .gate) : Inv (emGate s i) := by
  have hnw : (s.ems i).pc ≠ .wake := by rw [hpc]; decide
  unfold emGate
  rw [h.shape]
  split <;> exact inv_setEm_keep s i _ h hnw

/-- `try_send`, then on to pc `wake`: if the event was taken, the emitter itself covers it -/
theorem emSend_inv (s : Sys) (i id : Nat) (h : Inv s) : Inv (emSend s i id) := by
  unfold emSend
  rw [h.shape]
  have hc (t : Sys) : Covered (t.setEm i { s.ems i with pc := .wake }) :=
    fun _ => Or.inr (Or.inr ⟨i, by rw [setEm_ems_self]⟩)
  show Inv ((s.trySend id).setEm i { s.ems i with pc := .wake })
  unfold Sys.trySend
  split
  · refine ⟨h.shape, hc _, ?_, h.idleEmpty⟩
    show s.accepted ++ [id] = s.delivered ++ s.buffered ++ (s.chan ++ [id])
    rw [h.conserved, List.append_assoc]
  · exact ⟨h.shape, hc _, h.conserved, h.idleEmpty⟩

theorem emWake_inv (s : Sys) (i : Nat) (h : Inv s) : Inv (emWake s i) := by
  unfold emWake
  split <;> exact ⟨h.shape, fun _ => Or.inl rfl, h.conserved, h.idleEmpty⟩

theorem emStep_inv (s : Sys) (i : Nat) (h : Inv s) : Inv (emStep s i) := by
  unfold emStep
  split
  · exact h
  · exact h
  · exact emGate_inv s i h ‹_›
  · exact emSend_inv s i _ h
  · exact emWake_inv s i h

theorem tIdle_inv (s : Sys) (h : Inv s) : Inv (tIdle s) := by
  unfold tIdle
  split
  · exact ⟨h.shape, fun _ => Or.inr (Or.inl rfl), h.conserved, fun ht => by cases ht⟩
  · exact h

theorem tLoop_inv (s : Sys) (h : Inv s) (hl : s.tpc = .loop) : Inv (tLoop s) := by
  have hfan : s.accepted = s.delivered ++ s.buffered ++ [] ++ s.chan := by rw [List.append_nil]; exact h.conserved
  unfold tLoop
  split
  · exact ⟨h.shape, fun _ => Or.inl rfl, hfan, fun _ => rfl⟩
  · cases hch : s.chan with
    | nil => exact ⟨h.shape, fun hne => absurd hch hne, hfan, fun _ => rfl⟩
    | cons id rest =>
      refine ⟨h.shape, fun _ => Or.inr (Or.inl hl), ?_, fun ht => absurd (hl.symm.trans ht) (by decide)⟩
      show s.accepted = s.delivered ++ (s.buffered ++ [id]) ++ rest
      rw [h.conserved, hch, List.append_assoc, List.append_assoc, List.append_assoc]; rfl

theorem tStep_inv (s : Sys) (h : Inv s) : Inv (tStep s) := by
  unfold tStep
  cases htp : s.tpc
  · exact tIdle_inv s h
  · exact tLoop_inv s h htp

theorem step_inv (s : Sys) (tid : Tid) (h : Inv s) : Inv (step s tid) := by
  cases tid with
  | em i => exact emStep_inv s i h
  | t => exact tStep_inv s h

theorem run_inv (s : Sys) (sched : List Tid) (h : Inv s) : Inv (run s sched) := by
  induction sched generalizing s with
  | nil => exact h
  | cons t' ts ih => exact ih _ (step_inv s t' h)

theorem init_inv (cap : Option Nat) (gate : Bool) (progs : List (List Nat)) :
    Inv (init .sendThenWake cap gate progs) :=
  ⟨rfl, fun hne => absurd rfl hne, rfl, fun _ => rfl⟩

theorem room_of {s : Sys} (h : s.cap = none ∨ ∃ n, s.cap = some n ∧ s.chan.length < n) : s.room = true := by
  unfold Sys.room
  rcases h with h | ⟨n, h, hn⟩ <;> rw [h]
  exact decide_eq_true hn

theorem trySend_of_room {s : Sys} (h : s.room = true) (id : Nat) :
    s.trySend id = { s with chan := s.chan ++ [id], accepted := s.accepted ++ [id] } :=
  if_pos h

theorem sendAll_of_room (ids : List Nat) (s : Sys)
    (h : s.cap = none ∨ ∃ n, s.cap = some n ∧ s.chan.length + ids.length ≤ n) :
    sendAll s ids = { s with chan := s.chan ++ ids, accepted := s.accepted ++ ids } := by
  induction ids generalizing s with
  | nil => rw [List.append_nil, List.append_nil]; rfl
  | cons id rest ih =>
    have hr : s.room = true :=
      room_of (h.imp_right fun ⟨n, hc, hn⟩ => ⟨n, hc, Nat.lt_of_lt_of_le (Nat.lt_add_of_pos_right (Nat.succ_pos _)) hn⟩)
    show sendAll (s.trySend id) rest = _
    rw [trySend_of_room hr, ih]
    · show ({ s with chan := s.chan ++ [id] ++ rest, accepted := s.accepted ++ [id] ++ rest } : Sys) = _
      rw [List.append_assoc, List.append_assoc]; rfl
    · exact h.imp_right fun ⟨n, hc, hn⟩ => ⟨n, hc, by
        show (s.chan ++ [id]).length + rest.length ≤ n
        rwa [List.length_append, List.length_singleton, Nat.add_assoc, Nat.add_comm 1]⟩

theorem tStep_loop {s : Sys} (h : s.tpc = .loop) : tStep s = tLoop s := by
  rw [tStep, h]

theorem tLoop_full {s : Sys} (h : s.limit ≤ s.buffered.length) : tLoop s = { s with wakePending := true }.fanout :=
  if_pos h

theorem tLoop_recv {s : Sys} {id : Nat} {rest : List Nat} (h : s.buffered.length < s.limit) (hch : s.chan = id :: rest) :
    tLoop s = { s with chan := rest, buffered := s.buffered ++ [id] } := by
  rw [tLoop, if_neg (Nat.not_le_of_lt h), hch]

theorem tLoop_empty {s : Sys} (h : s.buffered.length < s.limit) (hch : s.chan = []) : tLoop s = s.fanout := by
  rw [tLoop, if_neg (Nat.not_le_of_lt h), hch]

theorem tSteps_succ (k : Nat) (s : Sys) : tSteps (k + 1) s = tStep (tSteps k s) := by
  induction k generalizing s with
  | zero => rfl
  | succ k ih => exact ih (tStep s)

theorem tSteps_loop (k : Nat) (s : Sys) (hloop : s.tpc = .loop) (hk : k ≤ s.chan.length)
    (hl : s.buffered.length + k ≤ s.limit) :
    tSteps k s = { s with chan := s.chan.drop k, buffered := s.buffered ++ s.chan.take k } := by
  induction k generalizing s with
  | zero => rw [List.take_zero, List.append_nil]; rfl
  | succ k ih =>
    obtain ⟨id, rest, hch⟩ := List.exists_cons_of_length_pos (Nat.lt_of_lt_of_le (Nat.succ_pos k) hk)
    rw [tSteps, tStep_loop hloop, tLoop_recv (Nat.lt_of_lt_of_le (Nat.lt_add_of_pos_right (Nat.succ_pos k)) hl) hch, ih]
    · show ({ s with chan := rest.drop k, buffered := s.buffered ++ [id] ++ rest.take k } : Sys) = _
      rw [hch, List.append_assoc]; rfl
    · exact hloop
    · show k ≤ rest.length
      rw [hch] at hk
      exact Nat.le_of_succ_le_succ hk
    · show (s.buffered ++ [id]).length + k ≤ s.limit
      rwa [List.length_append, List.length_singleton, Nat.add_assoc, Nat.add_comm 1]

/-- `buffer_size(Some(0))`, a zero-capacity channel and a zero batch limit: nothing is ever accepted, buffered or
    delivered -/
def Zero (s : Sys) : Prop :=
  s.cap = some 0 ∧ s.chan = [] ∧ s.accepted = [] ∧ s.buffered = [] ∧ s.delivered = []

theorem trySend_zero (s : Sys) (id : Nat) (h : Zero s) : s.trySend id = s := by
  unfold Sys.trySend Sys.room
  rw [h.1]
  rfl

/-- the batch limit is reached at once -/
theorem zero_limit (s : Sys) (h : Zero s) : s.limit ≤ s.buffered.length := by
  unfold Sys.limit; rw [h.1, h.2.2.2.1]; exact Nat.le_refl 0

/-- `t` differs from `s` in the emitters' own state only, except that the wake-up flag may have been set -/
def EmOnly (s t : Sys) : Prop :=
  t.cap = s.cap ∧ t.chan = s.chan ∧ t.accepted = s.accepted ∧ t.buffered = s.buffered ∧
    t.delivered = s.delivered ∧ t.tpc = s.tpc ∧ (s.wakePending = true → t.wakePending = true)

/-- with a zero-capacity channel (`try_send` never succeeds) that is all an emitter's step does, in every shape -/
theorem emStep_zero_emOnly (s : Sys) (i : Nat) (h : Zero s) : EmOnly s (emStep s i) := by
  have same : EmOnly s s := ⟨rfl, rfl, rfl, rfl, rfl, rfl, id⟩
  unfold emStep
  split
  · exact same
  · exact same
  · unfold emGate
    split
    · exact same
    · cases s.shape <;> exact same
  · unfold emSend
    rw [trySend_zero s _ h]
    cases s.shape
    · exact same
    · exact same
    · show EmOnly s (if (s.ems i).needsWake then _ else _)
      split <;> exact same
  · unfold emWake
    cases s.shape <;> exact ⟨rfl, rfl, rfl, rfl, rfl, rfl, fun _ => rfl⟩

theorem emStep_zero (s : Sys) (i : Nat) (h : Zero s) : Zero (emStep s i) := by
  obtain ⟨h1, h2, h3, h4, h5, _⟩ := emStep_zero_emOnly s i h
  exact ⟨h1.trans h.1, h2.trans h.2.1, h3.trans h.2.2.1, h4.trans h.2.2.2.1, h5.trans h.2.2.2.2⟩

theorem tStep_zero (s : Sys) (h : Zero s) : Zero (tStep s) := by
  unfold tStep
  cases htp : s.tpc
  · show Zero (tIdle s)
    unfold tIdle
    split <;> exact h
  · show Zero (tLoop s)
    rw [tLoop_full (zero_limit s h)]
    refine ⟨h.1, h.2.1, h.2.2.1, rfl, ?_⟩
    show s.delivered ++ s.buffered = []
    rw [h.2.2.2.2, h.2.2.2.1]; rfl

theorem step_zero (s : Sys) (tid : Tid) (h : Zero s) : Zero (step s tid) := by
  cases tid with
  | em i => exact emStep_zero s i h
  | t => exact tStep_zero s h

theorem run_zero (s : Sys) (sched : List Tid) (h : Zero s) : Zero (run s sched) := by
  induction sched generalizing s with
  | nil => exact h
  | cons t' ts ih => exact ih _ (step_zero s t' h)

/-- with `Some(0)` the transport thread, once woken, re-arms its own wake-up in every pass: it never blocks
    in `poll` again (a busy loop) -/
def Spinning (s : Sys) : Prop := s.wakePending = true ∨ s.tpc = .loop

theorem step_spinning (s : Sys) (tid : Tid) (hz : Zero s) (h : Spinning s) : Spinning (step s tid) := by
  cases tid with
  | em i =>
    obtain ⟨_, _, _, _, _, ht, hw⟩ := emStep_zero_emOnly s i hz
    exact h.imp hw ht.trans
  | t =>
    show Spinning (tStep s)
    unfold tStep
    cases htp : s.tpc
    · show Spinning (tIdle s)
      unfold tIdle
      split
      · exact Or.inr rfl
      · rcases h with h | h
        · rename_i hn; exact absurd h hn
        · rw [htp] at h; cases h
    · show Spinning (tLoop s)
      rw [tLoop_full (zero_limit s hz)]
      exact Or.inl rfl

end MetricsVerif.TcpProd
