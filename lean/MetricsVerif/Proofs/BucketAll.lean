/-
C05, all thread kinds (pushers, snapshot readers, clearers, is_empty): the structural invariant and the value
accounting hold in EVERY interleaving — no slot is claimed twice or overwritten, every claimed slot holds the
argument of exactly one push, and readers only ever hand out published slots holding push arguments.
Programs of pushers only (last section) keep the whole chain reachable, so at quiescence a snapshot hands out
every claimed cell; with clearers that full statement is false: the known finding K-C05-K1 (a straggler's push on a
detached block).
-/
import MetricsVerif.Proofs.Bucket

namespace MetricsVerif.Bucket

/-- 1 for a thread at its publish step (slot claimed and written, not yet published), else 0 -/
def pubN (t : Thread) : Nat := match t.pc with | .pPublish _ _ => 1 | _ => 0
def wSum (s : Sys) : Nat := (s.blocks.map (fun b => wcount b.cells)).sum
def pSum (s : Sys) : Nat := (s.threads.map pubN).sum

/-- the cell a publishing thread points to is claimed by it and not yet published -/
def PubCell (blocks : List Block) (blk idx v : Nat) : Prop :=
  ∃ b, blocks[blk]? = some b ∧ b.cells[idx]? = some (.written v)

theorem wSum_set (s : Sys) (blk : Nat) (b b' : Block) (hg : s.blocks[blk]? = some b) :
    wSum (setBlock s blk b') + wcount b.cells = wSum s + wcount b'.cells :=
  sum_map_setAt (fun b : Block => wcount b.cells) s.blocks blk b' b hg

theorem pSum_set (s s' : Sys) (tid : Nat) (t t' : Thread) (hg : s.threads[tid]? = some t)
    (hth : s'.threads = s.threads) :
    pSum { s' with threads := setAt s'.threads tid t' } + pubN t = pSum s + pubN t' := by
  simp only [pSum, hth]; exact sum_map_setAt pubN s.threads tid t' t hg

theorem pubN_plain (t : Thread) (h : ∀ blk idx, t.pc ≠ .pPublish blk idx) : pubN t = 0 := by
  unfold pubN
  split
  · exact absurd ‹_› (h _ _)
  · rfl

theorem pubN_advance (t : Thread) (r : Res) : pubN (t.advance r) = 0 := pubN_plain _ (startPC_plain _).2

theorem PubCell.append {blocks : List Block} {blk idx v : Nat} (h : PubCell blocks blk idx v) (nb : Block) :
    PubCell (blocks ++ [nb]) blk idx v := by
  obtain ⟨b, hb, hc⟩ := h
  exact ⟨b, by rw [List.getElem?_append_left (lt_of_getElem?_some hb)]; exact hb, hc⟩

theorem PubCell.set_other {blocks : List Block} {blk idx v blk' : Nat} {b' : Block}
    (h : PubCell blocks blk idx v) (hne : blk ≠ blk') : PubCell (setAt blocks blk' b') blk idx v := by
  obtain ⟨b, hb, hc⟩ := h
  exact ⟨b, by rw [getElem?_setAt_ne _ _ (Ne.symm hne)]; exact hb, hc⟩

/-- per-thread invariant for arbitrary programs -/
structure ATI (blocks : List Block) (t : Thread) : Prop where
  push_head : isPusherPC t.pc = true → ∃ v rest, t.calls = .push v :: rest
  claim_lt : ∀ blk r, t.pc = .pClaim blk r → blk < blocks.length
  pub_cell : ∀ blk idx, t.pc = .pPublish blk idx → PubCell blocks blk idx (curVal t)

structure AInv (s : Sys) : Prop where
  tail_valid : ∀ b, s.tail = some b → b + 1 = s.blocks.length
  cells_len : ∀ (i : Nat) (b : Block), s.blocks[i]? = some b → b.cells.length = min b.write s.B
  thr : ∀ (i : Nat) (t : Thread), s.threads[i]? = some t → ATI s.blocks t
  distinct : ∀ (i j : Nat) (ti tj : Thread) (blk idx : Nat), i ≠ j → s.threads[i]? = some ti →
      s.threads[j]? = some tj → ti.pc = .pPublish blk idx → tj.pc ≠ .pPublish blk idx
  wp : wSum s = pSum s

theorem ATI.mono {bs bs' : List Block} {t : Thread} (h : ATI bs t) (hlen : bs.length ≤ bs'.length)
    (hcell : ∀ blk idx, t.pc = .pPublish blk idx → PubCell bs blk idx (curVal t) →
      PubCell bs' blk idx (curVal t)) : ATI bs' t :=
  { push_head := h.push_head
    claim_lt := fun blk r hp => Nat.lt_of_lt_of_le (h.claim_lt blk r hp) hlen
    pub_cell := fun blk idx hp => hcell blk idx hp (h.pub_cell blk idx hp) }

theorem ATI.set_block {bs : List Block} {u : Thread} {blk : Nat} {b b' : Block} (hu : ATI bs u)
    (hb : bs[blk]? = some b)
    (hkeep : ∀ idx, u.pc = .pPublish blk idx → b.cells[idx]? = some (.written (curVal u)) →
        b'.cells[idx]? = some (.written (curVal u))) : ATI (setAt bs blk b') u := by
  refine hu.mono (Nat.le_of_eq (setAt_length _ _ _).symm) ?_
  intro blk' idx' hpc hc
  by_cases hbb : blk' = blk
  · subst hbb
    obtain ⟨b0, hb0, hc0⟩ := hc
    obtain rfl : b = b0 := Option.some.inj (hb.symm.trans hb0)
    exact ⟨b', getElem?_setAt_self b' hb, hkeep idx' hpc hc0⟩
  · exact hc.set_other hbb

theorem ATI.of_plain {bs : List Block} {t : Thread}
    (hhead : isPusherPC t.pc = true → ∃ v rest, t.calls = .push v :: rest)
    (h1 : ∀ blk r, t.pc ≠ .pClaim blk r) (h2 : ∀ blk idx, t.pc ≠ .pPublish blk idx) : ATI bs t :=
  { push_head := hhead, claim_lt := fun blk r hp => absurd hp (h1 blk r),
    pub_cell := fun blk idx hp => absurd hp (h2 blk idx) }

theorem not_publish_of_reader {pc : PC} (h : isPusherPC pc = false) (b i : Nat) : pc ≠ .pPublish b i :=
  fun e => by rw [e] at h; cases h

theorem ATI.of_reader {bs : List Block} {t : Thread} (h : isPusherPC t.pc = false) : ATI bs t :=
  ATI.of_plain (fun hp => by rw [h] at hp; cases hp) (fun _ _ e => by rw [e] at h; cases h) (not_publish_of_reader h)

theorem ATI.advance {bs : List Block} (t : Thread) (r : Res) : ATI bs (t.advance r) :=
  ATI.of_plain (startPC_head _) (startPC_plain _).1 (startPC_plain _).2

theorem ainv_after {s : Sys} {tid : Nat} {t t' : Thread} {bs' : List Block} {tl' : Option Nat} (h : AInv s)
    (hg : s.threads[tid]? = some t)
    (tail_valid : ∀ b, tl' = some b → b + 1 = bs'.length)
    (cells_len : ∀ (i : Nat) (b : Block), bs'[i]? = some b → b.cells.length = min b.write s.B)
    (hnew : ATI bs' t')
    (hold : ∀ (i : Nat) (u : Thread), i ≠ tid → s.threads[i]? = some u → ATI bs' u)
    (hdist : ∀ blk idx, t'.pc = .pPublish blk idx → ∀ (j : Nat) (u : Thread), j ≠ tid → s.threads[j]? = some u →
        u.pc ≠ .pPublish blk idx)
    (wp : (bs'.map (fun b => wcount b.cells)).sum + pubN t = pSum s + pubN t') :
    AInv { B := s.B, blocks := bs', tail := tl', threads := setAt s.threads tid t' } := by
  refine { tail_valid := tail_valid, cells_len := cells_len, thr := ?_, distinct := ?_, wp := ?_ }
  · intro i u hu
    rcases threads_after hg i u hu with ⟨_, rfl⟩ | ⟨hi, hu'⟩
    · exact hnew
    · exact hold i u hi hu'
  · intro i j ti tj blk idx hij hi hj hpi
    rcases threads_after hg i ti hi with ⟨ei, rfl⟩ | ⟨hni, hi'⟩
    · rcases threads_after hg j tj hj with ⟨ej, rfl⟩ | ⟨hnj, hj'⟩
      · exact absurd (ei.trans ej.symm) hij
      · exact hdist blk idx hpi j tj hnj hj'
    · rcases threads_after hg j tj hj with ⟨ej, rfl⟩ | ⟨hnj, hj'⟩
      · exact fun hpj => hdist blk idx hpj i ti hni hi' hpi
      · exact h.distinct i j ti tj blk idx hij hi' hj' hpi
  · have := sum_map_setAt pubN s.threads tid t' t hg
    simp only [wSum, pSum] at wp ⊢
    omega

/-- for the steps that leave the blocks alone and move the thread between non-publish pcs (all reader / clearer
    steps, the pusher's tail loads and failed CASes); `tl' = none` is a clear's CAS -/
theorem ainv_same {s : Sys} {tid : Nat} {t t'' : Thread} {tl' : Option Nat} (h : AInv s)
    (hg : s.threads[tid]? = some t) (htl : tl' = s.tail ∨ tl' = none)
    (hnew : ATI s.blocks t'') (hp : ∀ blk idx, t''.pc ≠ .pPublish blk idx) (hp0 : ∀ blk idx, t.pc ≠ .pPublish blk idx) :
    AInv { B := s.B, blocks := s.blocks, tail := tl', threads := setAt s.threads tid t'' } := by
  refine ainv_after h hg ?_ h.cells_len hnew (fun i u _ hu => h.thr i u hu) (fun blk idx hp' => absurd hp' (hp blk idx))
    (by rw [pubN_plain t hp0, pubN_plain t'' hp]; exact h.wp)
  intro b hb
  rcases htl with e | e
  · exact h.tail_valid b (e ▸ hb)
  · rw [e] at hb; cases hb

theorem ainv_set {s : Sys} {tid : Nat} {t t' : Thread} {blk : Nat} {b b' : Block} (h : AInv s)
    (hg : s.threads[tid]? = some t) (hb : s.blocks[blk]? = some b)
    (hlen : b'.cells.length = min b'.write s.B) (hnew : ATI (setAt s.blocks blk b') t')
    (hkeep : ∀ (i : Nat) (u : Thread), i ≠ tid → s.threads[i]? = some u → ∀ idx, u.pc = .pPublish blk idx →
        b.cells[idx]? = some (.written (curVal u)) → b'.cells[idx]? = some (.written (curVal u)))
    (hdist : ∀ blk idx, t'.pc = .pPublish blk idx → ∀ (j : Nat) (u : Thread), j ≠ tid → s.threads[j]? = some u →
        u.pc ≠ .pPublish blk idx)
    (hw : wcount b'.cells + pubN t = wcount b.cells + pubN t') :
    AInv { B := s.B, blocks := setAt s.blocks blk b', tail := s.tail, threads := setAt s.threads tid t' } := by
  refine ainv_after h hg ?_ ?_ hnew (fun i u hi hu => (h.thr i u hu).set_block hb (hkeep i u hi hu)) hdist ?_
  · intro x hx; rw [setAt_length]; exact h.tail_valid x hx
  · intro i x hx
    rw [getElem?_setAt] at hx
    split at hx
    · obtain rfl := Option.some.inj hx; exact hlen
    · exact h.cells_len i x hx
  · have := sum_map_setAt (fun b => wcount b.cells) s.blocks blk b' b hb
    have hwp := h.wp
    simp only [wSum] at hwp
    omega

theorem Hop.ati {s : Sys} {t : Thread} {pc' : PC} (hop : Hop s t pc') (h : AInv s) (hT : ATI s.blocks t) :
    ATI s.blocks { t with pc := pc' } :=
  { push_head := fun hp => by
      rcases hop.kind with ⟨_, rfl⟩ | ⟨k, h1, h2⟩
      · exact startPC_head _ hp
      · rw [isPusherPC_eq, h2] at hp
        exact hT.push_head (by rw [isPusherPC_eq, h1]; exact hp)
    claim_lt := fun b r (hc : pc' = .pClaim b r) => by subst hc; have := h.tail_valid b hop.arrived; omega
    pub_cell := fun b i hc => absurd hc (hop.not_publish.2 b i) }

theorem astep_inv (s : Sys) (tid : Nat) (h : AInv s) : AInv (step s tid) := by
  refine step_cases s tid (fun _ => h) ?_
  intro t s' t' hg e
  have hT := h.thr tid t hg
  have hplain := (startPC_plain t.calls.tail).2
  cases e with
  | idle hp => rw [setAt_same _ _ _ hg]; exact h
  | hop pc' hop => exact ainv_same h hg (.inl rfl) (hop.ati h hT) hop.not_publish.2 hop.not_publish.1
  | ret r hr => exact ainv_same h hg (.inl rfl) (ATI.advance t r) hplain (not_publish_of_reader hr.reader.1)
  | read blk pc' hpc =>
    rcases hpc with ⟨hp, rfl⟩ | ⟨hp, rfl⟩ <;>
      exact ainv_same h hg (.inl rfl) (ATI.of_reader rfl) (not_publish_of_reader rfl) (by simp [hp])
  | detach old hp ht =>
    exact ainv_same h hg (.inr rfl) (ATI.of_reader rfl) (not_publish_of_reader rfl) (by simp [hp])
  | append r hpc =>
    -- a fresh, empty block becomes the tail; nobody points into it yet
    have hpc : isPusherPC t.pc = true ∧ ∀ b i, t.pc ≠ .pPublish b i := by
      rcases hpc with ⟨hp, _⟩ | ⟨old, hp, _⟩ <;> simp [hp, isPusherPC]
    refine ainv_after h hg (by rintro b ⟨⟩; simp) ?_ ?_ ?_ (fun _ _ hp => by cases hp) ?_
    · intro i b hb
      by_cases hi : i < s.blocks.length
      · rw [List.getElem?_append_left hi] at hb; exact h.cells_len i b hb
      · obtain rfl : i = s.blocks.length := by
          have := lt_of_getElem?_some hb; rw [List.length_append] at this
          exact Nat.le_antisymm (Nat.le_of_lt_succ this) (Nat.le_of_not_lt hi)
        obtain rfl := Option.some.inj (List.getElem?_concat_length.symm.trans hb)
        rfl
    · exact { push_head := fun _ => hT.push_head hpc.1,
              claim_lt := by rintro _ _ ⟨⟩; simp, pub_cell := fun _ _ hp => by cases hp }
    · exact fun i u _ hu => (h.thr i u hu).mono (by simp) (fun blk idx _ hc => hc.append _)
    · have hwp := h.wp
      rw [pubN_plain t hpc.2, pubN_plain _ (fun _ _ hp => by cases hp)]
      simp only [List.map_append, List.sum_append, List.map_cons, List.map_nil, List.sum_cons, List.sum_nil]
      exact hwp
  | claimOk blk r hp hw =>
    -- the claimed slot is the first free one: no other thread can be publishing it
    have hb := getBlock_get (hT.claim_lt blk r hp)
    have hwlen : (getBlock s blk).cells.length = (getBlock s blk).write := by rw [h.cells_len blk _ hb]; omega
    refine ainv_set h hg hb (by simp only [List.length_append, List.length_singleton, hwlen]; omega) ?_ ?_ ?_ ?_
    · refine { push_head := fun _ => hT.push_head (by rw [hp]; rfl), claim_lt := fun _ _ hpc => (by cases hpc),
               pub_cell := ?_ }
      rintro _ _ ⟨⟩
      refine ⟨_, getElem?_setAt_self _ hb, ?_⟩
      show ((getBlock s blk).cells ++ [Cell.written (curVal t)])[(getBlock s blk).write]? = _
      rw [← hwlen]; exact List.getElem?_concat_length
    · intro i u _ hu idx _ hc
      show ((getBlock s blk).cells ++ [Cell.written (curVal t)])[idx]? = _
      rw [List.getElem?_append_left (lt_of_getElem?_some hc)]; exact hc
    · rintro _ _ ⟨⟩ j u hj hu hpu
      obtain ⟨b0, hb0, hc0⟩ := (h.thr j u hu).pub_cell _ _ hpu
      obtain rfl := Option.some.inj (hb.symm.trans hb0)
      exact absurd (lt_of_getElem?_some hc0) (by omega)
    · have p1 : pubN { t with pc := PC.pPublish blk (getBlock s blk).write } = 1 := rfl
      have w1 : wcount [Cell.written (curVal t)] = 1 := rfl
      rw [pubN_plain t (by simp [hp]), p1, wcount_append, w1]
  | claimFull blk r pc' hp hw hpc' =>
    have hb := getBlock_get (hT.claim_lt blk r hp)
    have hclen := h.cells_len blk _ hb
    have h1 : ∀ blk r, pc' ≠ .pClaim blk r := by rcases hpc' with rfl | rfl <;> simp
    have h2 : ∀ blk idx, pc' ≠ .pPublish blk idx := by rcases hpc' with rfl | rfl <;> simp
    refine ainv_set h hg hb (by show (getBlock s blk).cells.length = min ((getBlock s blk).write + 1) s.B; omega)
      (ATI.of_plain (fun _ => hT.push_head (by rw [hp]; rfl)) h1 h2) (fun _ _ _ _ _ _ hc => hc)
      (fun blk' idx' hpc => absurd hpc (h2 blk' idx')) ?_
    rw [pubN_plain t (by simp [hp]), pubN_plain _ h2]
  | publish blk idx hp =>
    obtain ⟨b, hb, hc⟩ := hT.pub_cell blk idx hp
    rw [getBlock_eq hb]
    refine ainv_set h hg hb (by simp only [publishCell_length]; exact h.cells_len blk b hb) (ATI.advance t .pushed) ?_
      (fun blk' idx' hpc => absurd hpc (hplain blk' idx')) ?_
    · -- another publishing thread points to another cell of the block
      intro i u hi hu idx' hpu hcu
      have hne : idx ≠ idx' := by
        rintro rfl
        exact h.distinct tid i t u blk idx (Ne.symm hi) hg hu hp hpu
      show (publishCell b.cells idx)[idx']? = _
      rw [publishCell_get, if_neg hne]; exact hcu
    · have p0 : pubN t = 1 := by simp [pubN, hp]
      have hw := wcount_publish b.cells idx (curVal t) hc
      rw [p0, pubN_advance]; simp only; omega

theorem sum_map_mkThread (f : Thread → Nat) (h : ∀ p, f (mkThread p) = 0) (l : List (List Call)) :
    ((l.map mkThread).map f).sum = 0 :=
  sum_map_eq_zero_iff.2 (List.forall_mem_map.2 fun p _ => h p)

theorem init_ainv (B : Nat) (progs : List (List Call)) : AInv (init B progs) := by
  refine { tail_valid := fun _ h => (by cases h), cells_len := fun _ _ h => (by cases h), thr := ?_, distinct := ?_,
           wp := (sum_map_mkThread pubN (fun _ => rfl) progs).symm }
  · intro i t ht
    obtain ⟨p, _, rfl⟩ := init_thread ht
    exact ATI.of_plain (fun h => by cases h) (fun _ _ h => by cases h) (fun _ _ h => by cases h)
  · intro i j ti tj blk idx _ hi _ hpi
    obtain ⟨p, _, rfl⟩ := init_thread hi
    cases hpi

theorem run_inv {P : Sys → Prop} (hstep : ∀ s tid, P s → P (step s tid)) (sched : List Nat) :
    ∀ s, P s → P (run s sched) := by
  induction sched with
  | nil => exact fun _ h => h
  | cons t ts ih => exact fun s h => ih _ (hstep s t h)

theorem arun_inv (sched : List Nat) : ∀ s, AInv s → AInv (run s sched) := run_inv astep_inv sched

def cellsCount (v : Nat) (s : Sys) : Nat := (s.blocks.map (fun b => (b.cells.map Cell.val).count v)).sum

/-- pushes of `v` that thread `t` has not claimed a slot for yet -/
def todo (v : Nat) (t : Thread) : Nat :=
  match t.pc with
  | .pPublish _ _ => t.calls.tail.count (.push v)
  | _ => t.calls.count (.push v)

def todoSum (v : Nat) (s : Sys) : Nat := (s.threads.map (todo v)).sum

def cnt (v : Nat) (b : Block) : Nat := (b.cells.map Cell.val).count v
def csum (v : Nat) (bs : List Block) : Nat := (bs.map (cnt v)).sum

theorem cellsCount_eq (v : Nat) (s : Sys) : cellsCount v s = csum v s.blocks := rfl

theorem csum_append_one (v : Nat) (bs : List Block) (nb : Block) : csum v (bs ++ [nb]) = csum v bs + cnt v nb := by
  simp [csum]

theorem csum_append_empty (v : Nat) (bs : List Block) (nb : Block) (h : nb.cells = []) : csum v (bs ++ [nb]) = csum v bs := by
  rw [csum_append_one, cnt, h]; rfl

theorem csum_set (v : Nat) (bs : List Block) (blk : Nat) (b b' : Block) (hb : bs[blk]? = some b) :
    csum v (setAt bs blk b') + cnt v b = csum v bs + cnt v b' := sum_map_setAt (cnt v) bs blk b' b hb

theorem todoSum_set (v : Nat) (s : Sys) (tid : Nat) (t t' : Thread) (hg : s.threads[tid]? = some t) :
    ((setAt s.threads tid t').map (todo v)).sum + todo v t = todoSum v s + todo v t' :=
  sum_map_setAt (todo v) s.threads tid t' t hg

theorem todo_plain (v : Nat) (t : Thread) (h : ∀ b i, t.pc ≠ .pPublish b i) : todo v t = t.calls.count (.push v) := by
  unfold todo
  split
  · exact absurd ‹_› (h _ _)
  · rfl

theorem todo_advance (v : Nat) (t : Thread) (r : Res) : todo v (t.advance r) = t.calls.tail.count (.push v) :=
  todo_plain v _ (startPC_plain _).2

theorem todoSum_init (B : Nat) (progs : List (List Call)) (v : Nat) :
    todoSum v (init B progs) = progs.flatten.count (.push v) := by
  simp only [todoSum, init]
  induction progs with
  | nil => rfl
  | cons p ps ih =>
    simp only [List.map_cons, List.sum_cons, List.flatten_cons, List.count_append, ih]
    rfl

/-- thread-local: outside the push code the call being executed is not a push -/
def RH (t : Thread) : Prop := isPusherPC t.pc = false → t.pc ≠ .start → ∀ v, t.calls.head? ≠ some (.push v)

theorem RH_of_startPC (t : Thread) (h : t.pc = startPC t.calls) : RH t := by
  intro hp _ v hv
  cases hc : t.calls with
  | nil => simp [hc] at hv
  | cons c r =>
    obtain rfl : c = .push v := by simpa [hc] using hv
    rw [h, hc] at hp; cases hp

theorem RH.congr {t t' : Thread} (h : RH t) (hc : t'.calls = t.calls) (hp : isPusherPC t'.pc = isPusherPC t.pc)
    (hs : t.pc ≠ .start) : RH t' :=
  fun hp' _ => hc ▸ h (hp ▸ hp') hs

theorem TEff.rh {t t' : Thread} (e : TEff t t') (h : RH t) : RH t' := by
  cases e with
  | done => exact h
  | start | ret => exact RH_of_startPC _ rfl
  | goto pc' acc' k h1 h2 =>
    exact h.congr rfl (by rw [isPusherPC_eq, isPusherPC_eq, h1, h2]) (fun e => by rw [e] at h1; cases h1)

theorem count_tail_of_head (calls : List Call) (v : Nat) (hh : ∀ w, calls.head? ≠ some (.push w)) :
    calls.tail.count (.push v) = calls.count (.push v) := by
  cases calls with
  | nil => rfl
  | cons c r =>
    have : c ≠ .push v := fun e => hh v (by simp [e])
    simp [this]

theorem Eff.vals {s s' : Sys} {t t' : Thread} (e : Eff s t s' t') (v : Nat) (hT : ATI s.blocks t) (hR : RH t) :
    csum v s'.blocks + todo v t' = csum v s.blocks + todo v t ∧ csum v s.blocks ≤ csum v s'.blocks := by
  have plain : ∀ t'' : Thread, (∀ b i, t.pc ≠ .pPublish b i) → (∀ b i, t''.pc ≠ .pPublish b i) → t''.calls = t.calls →
      todo v t'' = todo v t := fun _ h0 h1 hc => by rw [todo_plain v _ h1, todo_plain v t h0, hc]
  have same : todo v t' = todo v t →
      csum v s.blocks + todo v t' = csum v s.blocks + todo v t ∧ csum v s.blocks ≤ csum v s.blocks :=
    fun e => ⟨by rw [e], Nat.le_refl _⟩
  have set : ∀ {blk : Nat} {b' : Block} (k : Nat), blk < s.blocks.length → cnt v b' = cnt v (getBlock s blk) + k →
      todo v t' + k = todo v t →
      csum v (setAt s.blocks blk b') + todo v t' = csum v s.blocks + todo v t ∧ csum v s.blocks ≤ csum v (setAt s.blocks blk b') := by
    intro blk b' k hlt hc ht
    have := csum_set v s.blocks blk _ b' (getBlock_get hlt)
    omega
  cases e with
  | idle => exact ⟨rfl, Nat.le_refl _⟩
  | hop pc' hop => exact same (plain _ hop.not_publish.1 hop.not_publish.2 rfl)
  | ret r hr =>
    obtain ⟨hp, hs, h0⟩ := hr.reader
    exact ⟨by rw [todo_advance, count_tail_of_head _ _ (hR hp hs), todo_plain v t h0], Nat.le_refl _⟩
  | read blk pc' hpc => rcases hpc with ⟨hp, rfl⟩ | ⟨hp, rfl⟩ <;> exact same (plain _ (by simp [hp]) (by simp) rfl)
  | detach old hp => exact same (plain _ (by simp [hp]) (by simp) rfl)
  | append r hpc =>
    show csum v (s.blocks ++ [_]) + _ = _ ∧ _ ≤ csum v (s.blocks ++ [_])
    rw [csum_append_empty v _ _ rfl]
    exact same (plain _ (by rcases hpc with ⟨hp, _⟩ | ⟨old, hp, _⟩ <;> simp [hp]) (by simp) rfl)
  | claimOk blk r hp hw =>
    -- the slot takes the argument of the call at the head of the program
    obtain ⟨w, rest, hrest⟩ := hT.push_head (by rw [hp]; rfl)
    have hcv : curVal t = w := by simp [curVal, hrest]
    refine set (if w = v then 1 else 0) (hT.claim_lt blk r hp) ?_ ?_
    · simp only [cnt, List.map_append, List.count_append, List.map_cons, List.map_nil, Cell.val, List.count_cons,
        List.count_nil, hcv, beq_iff_eq, Nat.zero_add]
    · rw [todo_plain v t (by simp [hp]), hrest]
      simp only [todo, List.tail_cons, List.count_cons, beq_iff_eq, Call.push.injEq]
  | claimFull blk r pc' hp _ hpc' =>
    exact set 0 (hT.claim_lt blk r hp) rfl (plain _ (by simp [hp]) (by rcases hpc' with rfl | rfl <;> simp) rfl)
  | publish blk idx hp =>
    refine set 0 (lt_of_getElem?_some (hT.pub_cell blk idx hp).choose_spec.1) ?_ ?_
    · simp only [cnt, publishCell_vals, Nat.add_zero]
    · rw [todo_advance]; simp only [todo, hp, Nat.add_zero]

theorem astep_vals (v : Nat) (s : Sys) (tid : Nat) (h : AInv s) (hr : ∀ (i : Nat) (t : Thread), s.threads[i]? = some t → RH t) :
    (cellsCount v (step s tid) + todoSum v (step s tid) = cellsCount v s + todoSum v s)
    ∧ cellsCount v s ≤ cellsCount v (step s tid) := by
  refine step_cases (P := fun x => cellsCount v x + todoSum v x = cellsCount v s + todoSum v s ∧
    cellsCount v s ≤ cellsCount v x) s tid (fun _ => ⟨rfl, Nat.le_refl _⟩) ?_
  intro t s' t' hg e
  obtain ⟨h1, h2⟩ := e.vals v (h.thr tid t hg) (hr tid t hg)
  have := todoSum_set v s tid t t' hg
  simp only [cellsCount_eq, todoSum] at this ⊢
  omega

structure AInv2 (s : Sys) : Prop where
  inv : AInv s
  rh : ∀ (i : Nat) (t : Thread), s.threads[i]? = some t → RH t

theorem astep_inv2 (s : Sys) (tid : Nat) (h : AInv2 s) : AInv2 (step s tid) :=
  ⟨astep_inv s tid h.inv, fun i => threadAt_step (fun s t => (stepThread_teff s t).rh) s tid i (h.rh i)⟩

theorem init_ainv2 (B : Nat) (progs : List (List Call)) : AInv2 (init B progs) := by
  refine ⟨init_ainv B progs, ?_⟩
  intro i t ht
  obtain ⟨p, _, rfl⟩ := init_thread ht
  exact fun _ hs => absurd rfl hs

theorem arun_inv2 (sched : List Nat) : ∀ s, AInv2 s → AInv2 (run s sched) := run_inv astep_inv2 sched

theorem arun_vals (v : Nat) (sched : List Nat) : ∀ s, AInv2 s →
    cellsCount v (run s sched) + todoSum v (run s sched) = cellsCount v s + todoSum v s := by
  induction sched with
  | nil => intro s _; rfl
  | cons t ts ih =>
    intro s h
    exact (ih _ (astep_inv2 s t h)).trans (astep_vals v s t h.inv h.rh).1

def resVals : Res → List Nat
  | .snapshot vs => vs
  | .cleared vs => vs
  | _ => []

/-- everything a thread has been handed by the bucket so far (current call and finished calls) -/
def seenVals (t : Thread) : List Nat := t.acc ++ t.results.flatMap resVals

theorem seen_advance (t : Thread) (r : Res) (v : Nat) (h : v ∈ seenVals (t.advance r)) :
    v ∈ t.results.flatMap resVals ∨ v ∈ resVals r := by
  simpa [seenVals, Thread.advance, List.flatMap_append] using h

theorem Eff.seen {s s' : Sys} {t t' : Thread} (e : Eff s t s' t') (v : Nat) (h : v ∈ seenVals t') :
    v ∈ seenVals t ∨ ∃ (blk : Nat) (b : Block), s.blocks[blk]? = some b ∧ v ∈ b.data := by
  -- a returning call hands out nothing, or what it has collected
  have keep : ∀ r, (resVals r = [] ∨ resVals r = t.acc) → v ∈ seenVals (t.advance r) → v ∈ seenVals t := by
    intro r hr hv
    rcases seen_advance t r v hv with h1 | h1
    · exact List.mem_append_right _ h1
    · rcases hr with e | e
      · rw [e] at h1; cases h1
      · rw [e] at h1; exact List.mem_append_left _ h1
  cases e with
  | idle | hop | detach | append | claimOk | claimFull => exact .inl h
  | ret r hr => exact .inl (keep r (by cases hr <;> simp [resVals]) h)
  | publish => exact .inl (keep _ (.inl rfl) h)
  | read blk pc' =>
    simp only [seenVals, List.mem_append] at h ⊢
    rcases h with (h1 | h1) | h1
    · exact .inl (.inl h1)
    · cases hb : s.blocks[blk]? with
      | none => simp [getBlock, hb, newBlock, Block.data] at h1
      | some b => rw [getBlock_eq hb] at h1; exact .inr ⟨blk, b, hb, h1⟩
    · exact .inl (.inr h1)

theorem cnt_pos_of_data {b : Block} {v : Nat} (h : v ∈ b.data) : 0 < cnt v b := by
  obtain ⟨c, hc, e⟩ := List.mem_map.mp h
  exact List.count_pos_iff.mpr (List.mem_map.mpr ⟨c, (List.takeWhile_sublist _).subset hc, e⟩)

/-- every value any thread has been handed sits in a claimed cell -/
def SeenOK (s : Sys) : Prop := ∀ (i : Nat) (t : Thread), s.threads[i]? = some t → ∀ v ∈ seenVals t, 0 < cellsCount v s

theorem astep_seen (s : Sys) (tid : Nat) (h : AInv2 s) (hs : SeenOK s) : SeenOK (step s tid) := by
  intro i u hu v hv
  suffices 0 < cellsCount v s from Nat.lt_of_lt_of_le this (astep_vals v s tid h.inv h.rh).2
  revert hu
  refine step_cases (P := fun x => x.threads[i]? = some u → 0 < cellsCount v s) s tid (fun _ hu => hs i u hu v hv) ?_
  intro t s' t' hg e hu
  rcases threads_after hg i u hu with ⟨_, rfl⟩ | ⟨_, hu'⟩
  · rcases e.seen v hv with h1 | ⟨blk, b, hb, hd⟩
    · exact hs tid t hg v h1
    · exact Nat.lt_of_lt_of_le (cnt_pos_of_data hd) (le_sum_map (cnt v) (List.mem_of_getElem? hb))
  · exact hs i u hu' v hv

theorem init_seen (B : Nat) (progs : List (List Call)) : SeenOK (init B progs) := by
  intro i t ht v hv
  obtain ⟨p, _, rfl⟩ := init_thread ht
  cases hv

theorem arun_seen (sched : List Nat) : ∀ s, AInv2 s → SeenOK s → SeenOK (run s sched) := by
  induction sched with
  | nil => intro s _ h; exact h
  | cons t ts ih => intro s h hs; exact ih _ (astep_inv2 s t h) (astep_seen s t h hs)

def isPushCall : Call → Bool
  | .push _ => true
  | _ => false

def PC.isPushPC : PC → Bool
  | .start | .pLoadTail | .pCasFirst | .pClaim _ _ | .pPublish _ _ | .pCasNew _ | .done => true
  | _ => false

/-- per-thread invariant of push-only programs -/
structure TI (blocks : List Block) (t : Thread) : Prop where
  calls_push : ∀ c ∈ t.calls, isPushCall c = true
  pc_push : t.pc.isPushPC = true
  active : t.pc ≠ .start → t.pc ≠ .done → t.calls ≠ []
  done_empty : t.pc = .done → t.calls = []
  claim_lt : ∀ blk r, t.pc = .pClaim blk r → blk < blocks.length
  casnew_lt : ∀ old, t.pc = .pCasNew old → old < blocks.length
  pub_cell : ∀ blk idx, t.pc = .pPublish blk idx → PubCell blocks blk idx (curVal t)

/-- invariant of push-only programs: `AInv` with every thread `TI`, and the whole chain reachable (`tail_last`, `links`) -/
structure PInv (s : Sys) : Prop where
  tail_nil : s.blocks = [] → s.tail = none
  tail_last : ∀ n, s.blocks.length = n + 1 → s.tail = some n
  links : ∀ (i : Nat) (b : Block), s.blocks[i]? = some b → b.next = (if i = 0 then none else some (i - 1))
  cells_len : ∀ (i : Nat) (b : Block), s.blocks[i]? = some b → b.cells.length = min b.write s.B
  thr : ∀ (i : Nat) (t : Thread), s.threads[i]? = some t → TI s.blocks t
  distinct : ∀ (i j : Nat) (ti tj : Thread) (blk idx : Nat), i ≠ j → s.threads[i]? = some ti → s.threads[j]? = some tj →
      ti.pc = .pPublish blk idx → tj.pc ≠ .pPublish blk idx
  wp : wSum s = pSum s

def PushOnly (progs : List (List Call)) : Prop := ∀ p ∈ progs, ∀ c ∈ p, isPushCall c = true

theorem isPushPC_cases {pc : PC} (h : pc.isPushPC = true) : pc = .start ∨ pc = .done ∨ isPusherPC pc = true := by
  cases pc <;> simp_all [PC.isPushPC, isPusherPC]

theorem head_push {calls : List Call} (h : ∀ c ∈ calls, isPushCall c = true) (hne : calls ≠ []) :
    ∃ v rest, calls = .push v :: rest := by
  cases calls with
  | nil => exact absurd rfl hne
  | cons c rest =>
    have := h c List.mem_cons_self
    cases c <;> first | exact ⟨_, _, rfl⟩ | cases this

theorem startPC_push (calls : List Call) (h : ∀ c ∈ calls, isPushCall c = true) :
    (calls = [] ∧ startPC calls = .done) ∨ (calls ≠ [] ∧ startPC calls = .pLoadTail) := by
  cases calls with
  | nil => exact .inl ⟨rfl, rfl⟩
  | cons c rest =>
    obtain ⟨v, _, e⟩ := head_push h (List.cons_ne_nil _ _)
    rw [e]; exact .inr ⟨List.cons_ne_nil _ _, rfl⟩

theorem TI.toATI {bs : List Block} {t : Thread} (h : TI bs t) : ATI bs t :=
  { push_head := fun hp => head_push h.calls_push
      (h.active (fun e => by rw [e] at hp; cases hp) (fun e => by rw [e] at hp; cases hp))
    claim_lt := h.claim_lt, pub_cell := h.pub_cell }

theorem TI.rh {bs : List Block} {t : Thread} (h : TI bs t) : RH t := fun hp hs v hv => by
  rcases isPushPC_cases h.pc_push with e | e | e
  · exact hs e
  · rw [h.done_empty e] at hv; cases hv
  · rw [e] at hp; cases hp

theorem TI.of {bs : List Block} {t : Thread} (hA : ATI bs t) (hR : RH t) (hc : ∀ c ∈ t.calls, isPushCall c = true)
    (hp : t.pc.isPushPC = true) (hn : ∀ old, t.pc = .pCasNew old → old < bs.length) : TI bs t :=
  { calls_push := hc, pc_push := hp, claim_lt := hA.claim_lt, casnew_lt := hn, pub_cell := hA.pub_cell
    active := fun h1 h2 => by
      rcases isPushPC_cases hp with e | e | e
      · exact absurd e h1
      · exact absurd e h2
      · obtain ⟨v, rest, e'⟩ := hA.push_head e
        rw [e']; exact List.cons_ne_nil _ _
    done_empty := fun hd => by
      cases hcs : t.calls with
      | nil => rfl
      | cons c r =>
        obtain ⟨v, _, e⟩ := head_push hc (by rw [hcs]; exact List.cons_ne_nil _ _)
        exact absurd (by rw [e]; rfl) (hR (by rw [hd]; rfl) (by rw [hd]; exact fun e => nomatch e) v) }

theorem TI.advance {bs : List Block} {t : Thread} (h : TI bs t) : TI bs (t.advance .pushed) := by
  have htail : ∀ c ∈ t.calls.tail, isPushCall c = true := fun c hc => h.calls_push c (List.mem_of_mem_tail hc)
  refine TI.of (ATI.advance t _) (RH_of_startPC _ rfl) htail ?_ ?_ <;>
    rcases startPC_push t.calls.tail htail with ⟨_, e⟩ | ⟨_, e⟩ <;> simp [Thread.advance, e, PC.isPushPC]

theorem tail_lt {s : Sys} (h : PInv s) {b : Nat} (ht : s.tail = some b) : b + 1 = s.blocks.length := by
  cases hb : s.blocks with
  | nil => rw [h.tail_nil hb] at ht; cases ht
  | cons x xs =>
    obtain rfl := Option.some.inj ((h.tail_last xs.length (by rw [hb]; rfl)).symm.trans ht)
    rfl

theorem PInv.toAInv2 {s : Sys} (h : PInv s) : AInv2 s :=
  ⟨{ tail_valid := fun _ hb => tail_lt h hb, cells_len := h.cells_len, thr := fun i t ht => (h.thr i t ht).toATI,
     distinct := h.distinct, wp := h.wp }, fun i t ht => (h.thr i t ht).rh⟩

/-- nothing has been detached: the blocks are linked downwards and the tail is the last one -/
def Chained (bs : List Block) (tl : Option Nat) : Prop :=
  (bs = [] → tl = none) ∧ (∀ n, bs.length = n + 1 → tl = some n) ∧
    ∀ (i : Nat) (b : Block), bs[i]? = some b → b.next = if i = 0 then none else some (i - 1)

theorem Chained.append {bs : List Block} {tl : Option Nat} (h : Chained bs tl) :
    Chained (bs ++ [{ newBlock with next := tl }]) (some bs.length) := by
  refine ⟨fun e => absurd e (by simp), fun n hn => by simp at hn; rw [hn], ?_⟩
  intro i b hb
  by_cases hi : i < bs.length
  · rw [List.getElem?_append_left hi] at hb; exact h.2.2 i b hb
  · obtain rfl : i = bs.length := by
      have := lt_of_getElem?_some hb; rw [List.length_append] at this
      exact Nat.le_antisymm (Nat.le_of_lt_succ this) (Nat.le_of_not_lt hi)
    obtain rfl : _ = b := Option.some.inj (List.getElem?_concat_length.symm.trans hb)
    cases bs with
    | nil => exact h.1 rfl
    | cons x xs => exact h.2.1 xs.length rfl

theorem Chained.set {bs : List Block} {tl : Option Nat} (h : Chained bs tl) {blk : Nat} {b' : Block}
    (hn : ∀ b, bs[blk]? = some b → b'.next = b.next) : Chained (setAt bs blk b') tl := by
  refine ⟨fun e => h.1 (List.eq_nil_of_length_eq_zero (by rw [← setAt_length bs blk b', e]; rfl)),
    fun n hl => h.2.1 n (by rw [← hl, setAt_length]), ?_⟩
  intro i x hx
  rw [getElem?_setAt] at hx
  split at hx
  · rename_i hi
    obtain rfl := Option.some.inj hx
    obtain ⟨rfl, hlt⟩ := hi
    rw [hn _ (List.getElem?_eq_getElem hlt)]; exact h.2.2 _ _ (List.getElem?_eq_getElem hlt)
  · exact h.2.2 i x hx

theorem Hop.pushPC {s : Sys} {t : Thread} {pc' : PC} (h : Hop s t pc') (hp : t.pc.isPushPC = true)
    (hc : ∀ c ∈ t.calls, isPushCall c = true) : pc'.isPushPC = true ∧ ∀ old, pc' ≠ .pCasNew old := by
  cases h with
  | start => rcases startPC_push t.calls hc with ⟨_, e⟩ | ⟨_, e⟩ <;> simp [e, PC.isPushPC]
  | dWait blk hp' | cWait blk hp' => rcases hp' with hp' | hp' <;> simp [hp', PC.isPushPC] at hp
  | _ => simp_all [PC.isPushPC]

theorem Ret.not_pushPC {s : Sys} {t : Thread} {r : Res} (h : Ret s t r) : t.pc.isPushPC = false := by
  cases h <;> simp [*, PC.isPushPC]

theorem Eff.pushOnly {s s' : Sys} {t t' : Thread} (e : Eff s t s' t') (hch : Chained s.blocks s.tail) (hT : TI s.blocks t) :
    s.blocks.length ≤ s'.blocks.length ∧ Chained s'.blocks s'.tail ∧ (∀ c ∈ t'.calls, isPushCall c = true)
      ∧ t'.pc.isPushPC = true ∧ ∀ old, t'.pc = .pCasNew old → old < s'.blocks.length := by
  have hpc := hT.pc_push
  have hset : ∀ (blk : Nat) (b' : Block) {R : Prop}, b'.next = (getBlock s blk).next → R →
      s.blocks.length ≤ (setBlock s blk b').blocks.length ∧ Chained (setBlock s blk b').blocks (setBlock s blk b').tail ∧ R :=
    fun _ _ _ hn r => ⟨Nat.le_of_eq (setAt_length _ _ _).symm, hch.set (fun b hb => by rw [hn, getBlock_eq hb]), r⟩
  cases e with
  | idle => exact ⟨Nat.le_refl _, hch, hT.calls_push, hpc, hT.casnew_lt⟩
  | hop pc' hop =>
    obtain ⟨h1, h2⟩ := hop.pushPC hpc hT.calls_push
    exact ⟨Nat.le_refl _, hch, hT.calls_push, h1, fun old e => absurd e (h2 old)⟩
  | ret r hr => rw [hr.not_pushPC] at hpc; cases hpc
  | read blk pc' hr => rcases hr with ⟨hp, _⟩ | ⟨hp, _⟩ <;> rw [hp] at hpc <;> cases hpc
  | detach old hp => rw [hp] at hpc; cases hpc
  | append r => exact ⟨by simp, hch.append, hT.calls_push, rfl, fun _ e => by cases e⟩
  | claimOk blk r hp => exact hset _ _ rfl ⟨hT.calls_push, rfl, fun _ e => by cases e⟩
  | claimFull blk r pc' hp _ hpc' =>
    refine hset _ _ rfl ⟨hT.calls_push, by rcases hpc' with rfl | rfl <;> rfl, ?_⟩
    rintro old rfl
    obtain rfl : old = blk := by rcases hpc' with e | e <;> cases e; rfl
    rw [setBlock_blocks, setAt_length]; exact hT.claim_lt _ r hp
  | publish blk idx hp =>
    have hadv := hT.advance
    exact hset _ _ rfl ⟨hadv.calls_push, hadv.pc_push, fun old e => by
      rw [setBlock_blocks, setAt_length]; exact hadv.casnew_lt old e⟩

theorem pstep_inv (s : Sys) (tid : Nat) (h : PInv s) : PInv (step s tid) := by
  have hA := astep_inv2 s tid h.toAInv2
  revert hA
  refine step_cases (P := fun x => AInv2 x → PInv x) s tid (fun _ _ => h) ?_
  intro t s' t' hg e hA
  obtain ⟨hlen, ⟨c1, c2, c3⟩, hc, hp, hn⟩ := e.pushOnly ⟨h.tail_nil, h.tail_last, h.links⟩ (h.thr tid t hg)
  refine { tail_nil := c1, tail_last := c2, links := c3, cells_len := hA.inv.cells_len, distinct := hA.inv.distinct,
           wp := hA.inv.wp, thr := fun i u hu => ?_ }
  have hu' := threads_after hg i u hu
  refine TI.of (hA.inv.thr i u hu) (hA.rh i u hu) ?_ ?_ ?_
  · rcases hu' with ⟨_, rfl⟩ | ⟨_, hu'⟩
    · exact hc
    · exact (h.thr i u hu').calls_push
  · rcases hu' with ⟨_, rfl⟩ | ⟨_, hu'⟩
    · exact hp
    · exact (h.thr i u hu').pc_push
  · rcases hu' with ⟨_, rfl⟩ | ⟨_, hu'⟩
    · exact hn
    · exact fun old e => Nat.lt_of_lt_of_le ((h.thr i u hu').casnew_lt old e) hlen

theorem init_pinv (B : Nat) (progs : List (List Call)) (hp : PushOnly progs) : PInv (init B progs) := by
  have hA := init_ainv2 B progs
  refine { tail_nil := fun _ => rfl, tail_last := fun _ h => (by cases h), links := fun _ _ h => (by cases h),
           cells_len := hA.inv.cells_len, distinct := hA.inv.distinct, wp := hA.inv.wp, thr := fun i t ht => ?_ }
  obtain ⟨p, hpm, rfl⟩ := init_thread ht
  exact TI.of (hA.inv.thr i _ ht) (hA.rh i _ ht) (hp p (List.mem_of_getElem? hpm)) rfl (fun _ e => by cases e)

theorem prun_inv (sched : List Nat) : ∀ s, PInv s → PInv (run s sched) := run_inv pstep_inv sched

theorem prun_vals (v : Nat) (sched : List Nat) : ∀ s, PInv s →
    cellsCount v (run s sched) + todoSum v (run s sched) = cellsCount v s + todoSum v s :=
  fun s h => arun_vals v sched s h.toAInv2

theorem quiescent_done {s : Sys} (hq : quiescent s = true) : ∀ t ∈ s.threads, t.pc = .done := by
  simpa only [quiescent, List.all_eq_true, beq_iff_eq] using hq

theorem pSum_zero_of_quiescent (s : Sys) (hq : quiescent s = true) : pSum s = 0 :=
  sum_map_eq_zero_iff.2 (fun t ht => by simp [pubN, quiescent_done hq t ht])

theorem chain_count (s : Sys) (v : Nat)
    (links : ∀ (i : Nat) (b : Block), s.blocks[i]? = some b → b.next = (if i = 0 then none else some (i - 1)))
    (nowr : ∀ b ∈ s.blocks, wcount b.cells = 0) :
    ∀ k, k < s.blocks.length → (chainData s (k + 1) (some k)).count v = csum v (s.blocks.take (k + 1)) := by
  intro k
  induction k with
  | zero =>
    intro hk
    have hb := List.getElem?_eq_getElem hk
    rw [List.take_add_one, hb]
    simp [chainData, getBlock_eq hb, data_of_no_written _ (nowr _ (List.mem_of_getElem? hb)), csum, cnt]
  | succ k ih =>
    intro hk
    have hb := List.getElem?_eq_getElem hk
    have hn : (s.blocks[k + 1]).next = some k := links (k + 1) _ hb
    rw [List.take_add_one, hb]
    show (List.count v ((getBlock s (k + 1)).data ++ chainData s (k + 1) (getBlock s (k + 1)).next))
      = csum v (s.blocks.take (k + 1) ++ [s.blocks[k + 1]])
    rw [getBlock_eq hb, hn, List.count_append, ih (by omega), data_of_no_written _ (nowr _ (List.mem_of_getElem? hb)),
      csum_append_one]
    exact Nat.add_comm _ _

theorem visible_count_of_quiescent (s : Sys) (h : PInv s) (hq : quiescent s = true) (v : Nat) :
    (visible s).count v = cellsCount v s := by
  have hw0 : wSum s = 0 := by rw [h.wp, pSum_zero_of_quiescent s hq]
  have nowr : ∀ b ∈ s.blocks, wcount b.cells = 0 := sum_map_eq_zero_iff.1 hw0
  unfold visible
  cases hb : s.blocks.length with
  | zero => simp [chainData, cellsCount, List.length_eq_zero_iff.mp hb]
  | succ n =>
    rw [h.tail_last n hb, chain_count s v h.links nowr n (by omega), ← hb, List.take_length]
    rfl

theorem todoSum_zero_of_quiescent (s : Sys) (h : PInv s) (hq : quiescent s = true) (v : Nat) : todoSum v s = 0 := by
  refine sum_map_eq_zero_iff.2 (fun t ht => ?_)
  obtain ⟨i, hi⟩ := List.getElem?_of_mem ht
  have hd := quiescent_done hq t ht
  simp [todo, hd, (h.thr i t hi).done_empty hd]

end MetricsVerif.Bucket
