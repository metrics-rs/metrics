/-
The concurrent reservoir machine (`Model/ReservoirConc.lean`): what one grant does, case by case (`cstep_cases`); the
invariant of every reachable state (`CInv`); a drain whose swap finds no push in flight on the retiring side (`QInv`).
Property statements live in `Props/C16.lean`.
-/
import MetricsVerif.Proofs.Reservoir
import MetricsVerif.Model.ReservoirConc

namespace MetricsVerif.Reservoir

theorem forall_mem_set {α} {P : α → Prop} {l : List α} (h : ∀ a ∈ l, P a) (i : Nat) {b : α} (hb : P b) :
    ∀ a ∈ l.set i b, P a := by
  intro a ha
  rcases List.mem_or_eq_of_mem_set ha with h1 | rfl
  · exact h a h1
  · exact hb

theorem getElem?_set_cases {α} {l : List α} {i j : Nat} {b a : α} (h : (l.set i b)[j]? = some a) :
    (j = i ∧ a = b) ∨ (j ≠ i ∧ l[j]? = some a) := by
  rw [List.getElem?_set] at h
  split at h
  · next e =>
    split at h
    · exact .inl ⟨e.symm, (Option.some.inj h).symm⟩
    · cases h
  · next e => exact .inr ⟨Ne.symm e, h⟩

@[simp] theorem side_true (a : ASR) : a.side true = a.primary := rfl
@[simp] theorem side_false (a : ASR) : a.side false = a.secondary := rfl
@[simp] theorem setSide_true (a : ASR) (r : Res) : a.setSide true r = { a with primary := r } := rfl
@[simp] theorem setSide_false (a : ASR) (r : Res) : a.setSide false r = { a with secondary := r } := rfl

theorem active_eq_side (a : ASR) : a.active = a.side a.usePrimary := rfl

theorem side_setSide (a : ASR) (q p : Bool) (r : Res) : (a.setSide q r).side p = if q = p then r else a.side p := by
  cases q <;> cases p <;> rfl

@[simp] theorem setSide_usePrimary (a : ASR) (q : Bool) (r : Res) : (a.setSide q r).usePrimary = a.usePrimary := by
  cases q <;> rfl

@[simp] theorem storeAt_slots_length (r : Res) (idx v c : Nat) : (r.storeAt idx v c).slots.length = r.slots.length := by
  rw [storeAt_eq]; exact stepSlots_length _ _ _

@[simp] theorem storeAt_count (r : Res) (idx v c : Nat) : (r.storeAt idx v c).count = r.count := by
  rw [storeAt_eq]

@[simp] theorem storeAt_panicked (r : Res) (idx v c : Nat) : (r.storeAt idx v c).panicked = r.panicked := by
  rw [storeAt_eq]

/-- What one grant does: the state it leads to, the entry it adds to the claim log (`claimEntry`), and whether it is a
    step of `consume` (`noConsumeStep`).  `stay`: no such thread, a finished thread, a consumer that finds the lock
    taken.  Then the three steps of `push` and the three of `consume` (`forget`: the closure leaks the `Drain`). -/
theorem cstep_cases {s : Sys} {t : Nat} {P : Sys → Option (Nat × Nat) → Bool → Prop}
    (stay : ∀ b, P s none b)
    (select : ∀ th v c rest, s.threads[t]? = some th → th.prog = .push v c :: rest → th.pc = .idle →
      P (s.setThread t { th with pc := .selected s.asr.usePrimary }) none true)
    (claim : ∀ th v c rest p, s.threads[t]? = some th → th.prog = .push v c :: rest → th.pc = .selected p →
      P (({ s with asr := s.asr.setSide p (s.asr.side p).claim.1 } : Sys).setThread t
          { th with pc := .claimed p (s.asr.side p).claim.2 }) (some (v, c)) true)
    (store : ∀ th v c rest p idx, s.threads[t]? = some th → th.prog = .push v c :: rest → th.pc = .claimed p idx →
      P (({ s with asr := s.asr.setSide p ((s.asr.side p).storeAt idx v c) } : Sys).setThread t
          { prog := rest, pc := .idle, asked := th.asked ++ [(s.asr.side p).askedAt idx] }) none true)
    (swap : ∀ th (forget : Bool) rest, s.threads[t]? = some th → th.prog = (if forget then .consumeForget else .consume) :: rest →
      th.pc = .idle → s.locked = false →
      P (({ s with locked := true, asr := { s.asr with usePrimary := !s.asr.usePrimary } } : Sys).setThread t
          { th with pc := .reading s.asr.usePrimary s.asr.active.drain.unsampled s.asr.active.drain.len [] }) none false)
    (read : ∀ th (forget : Bool) rest p u len vals, s.threads[t]? = some th →
      th.prog = (if forget then .consumeForget else .consume) :: rest → th.pc = .reading p u len vals → vals.length < len →
      P (s.setThread t { th with pc := .reading p u len (vals ++ [(s.asr.side p).slots.getD vals.length 0]) }) none false)
    (finish : ∀ th (forget : Bool) rest p u len vals, s.threads[t]? = some th →
      th.prog = (if forget then .consumeForget else .consume) :: rest → th.pc = .reading p u len vals → ¬ vals.length < len →
      P (({ s with locked := false, asr := (if forget then s.asr else s.asr.setSide p (s.asr.side p).reset),
                   drains := s.drains ++ [(t, DrainOut.mk vals u len)] } : Sys).setThread t
          { th with prog := rest, pc := .idle }) none false) :
    P (cstep s t) (claimEntry s t) (noConsumeStep s t) := by
  unfold cstep claimEntry noConsumeStep
  cases hget : s.threads[t]? with
  | none => exact stay _
  | some th =>
    obtain ⟨prog, pc, asked⟩ := th
    have consume : ∀ (forget : Bool) rest, prog = (if forget then COp.consumeForget else .consume) :: rest →
        P (consumeStep s t ⟨prog, pc, asked⟩ forget rest) none false := by
      intro forget rest hprog
      cases pc with
      | idle =>
        cases hl : s.locked with
        | true => simp only [consumeStep, hl, if_true]; exact stay _
        | false => simp only [consumeStep, hl]; exact swap _ forget rest hget hprog rfl hl
      | selected p => exact stay _
      | claimed p idx => exact stay _
      | reading p u len vals =>
        by_cases hlt : vals.length < len
        · simp only [consumeStep, hlt, if_true]; exact read _ forget rest p u len vals hget hprog rfl hlt
        · simp only [consumeStep, hlt, if_false]; exact finish _ forget rest p u len vals hget hprog rfl hlt
    cases prog with
    | nil => exact stay _
    | cons op rest =>
      cases op with
      | push v c =>
        cases pc with
        | idle => exact select _ v c rest hget rfl rfl
        | selected p => exact claim _ v c rest p hget rfl rfl
        | claimed p idx => exact store _ v c rest p idx hget rfl rfl
        | reading p u len vals => exact stay _
      | consume => exact consume false rest rfl
      | consumeForget => exact consume true rest rfl

theorem crun_cons (s : Sys) (t : Nat) (sched : List Nat) : crun s (t :: sched) = crun (cstep s t) sched := rfl

theorem init_idle (cap : Nat) (progs : List (List COp)) : ∀ th ∈ (Sys.init cap progs).threads, th.pc = .idle := by
  intro th hth
  obtain ⟨_, _, rfl⟩ := List.mem_map.mp hth
  rfl

theorem init_active (cap : Nat) (progs : List (List COp)) : (Sys.init cap progs).asr.active = Res.new cap := rfl

/-- a drain in progress announced `min (count it loaded) cap` values and has read no more than that -/
def PC.rdOk (cap : Nat) : PC → Prop
  | .reading _ u len vals => len = min u cap ∧ vals.length ≤ len
  | _ => True

structure CInv (cap : Nat) (s : Sys) : Prop where
  sides : ∀ p, (s.asr.side p).slots.length = cap ∧ (s.asr.side p).panicked = false
  rd : ∀ th ∈ s.threads, th.pc.rdOk cap
  dr : ∀ td ∈ s.drains, td.2.len = min td.2.unsampled cap ∧ td.2.values.length = td.2.len

theorem CInv.okP {cap : Nat} {s : Sys} (h : CInv cap s) : s.asr.primary.panicked = false := (h.sides true).2
theorem CInv.okS {cap : Nat} {s : Sys} (h : CInv cap s) : s.asr.secondary.panicked = false := (h.sides false).2

theorem CInv.init (cap : Nat) (progs : List (List COp)) : CInv cap (Sys.init cap progs) := by
  refine ⟨fun p => ?_, fun th hth => ?_, fun _ h => absurd h List.not_mem_nil⟩
  · cases p <;> exact ⟨new_slots_length cap, rfl⟩
  · obtain ⟨_, _, rfl⟩ := List.mem_map.mp hth
    trivial

theorem sides_setSide {cap : Nat} {a : ASR} (h : ∀ p, (a.side p).slots.length = cap ∧ (a.side p).panicked = false)
    (q : Bool) {r : Res} (hr : r.slots.length = cap ∧ r.panicked = false) (p : Bool) :
    ((a.setSide q r).side p).slots.length = cap ∧ ((a.setSide q r).side p).panicked = false := by
  rw [side_setSide]
  split
  · exact hr
  · exact h p

theorem CInv.step {cap : Nat} {s : Sys} (h : CInv cap s) (t : Nat) : CInv cap (cstep s t) := by
  refine cstep_cases (P := fun s' _ _ => CInv cap s') (fun _ => h) ?_ ?_ ?_ ?_ ?_ ?_
  · intro th v c rest _ _ _
    exact ⟨h.sides, forall_mem_set h.rd t trivial, h.dr⟩
  · intro th v c rest p _ _ _
    exact ⟨sides_setSide h.sides p (h.sides p), forall_mem_set h.rd t trivial, h.dr⟩
  · intro th v c rest p idx _ _ _
    exact ⟨sides_setSide h.sides p (by simpa using h.sides p), forall_mem_set h.rd t trivial, h.dr⟩
  · intro th forget rest _ _ _ _
    refine ⟨h.sides, forall_mem_set h.rd t ⟨?_, Nat.zero_le _⟩, h.dr⟩
    rw [drain_len, drain_unsampled, active_eq_side, (h.sides _).1]
  · intro th forget rest p u len vals hget _ hpc hlt
    have hr := h.rd th (List.mem_of_getElem? hget)
    rw [hpc] at hr
    refine ⟨h.sides, forall_mem_set h.rd t ⟨hr.1, ?_⟩, h.dr⟩
    rw [List.length_append, List.length_singleton]
    exact hlt
  · intro th forget rest p u len vals hget _ hpc hlt
    have hr := h.rd th (List.mem_of_getElem? hget)
    rw [hpc] at hr
    refine ⟨?_, forall_mem_set h.rd t trivial, ?_⟩
    · cases forget
      · exact sides_setSide h.sides p (h.sides p)
      · exact h.sides
    · intro td hmem
      rcases List.mem_append.mp hmem with h1 | h1
      · exact h.dr td h1
      · rw [List.mem_singleton.mp h1]
        exact ⟨hr.1, Nat.le_antisymm hr.2 (Nat.le_of_not_lt hlt)⟩

theorem CInv.run {cap : Nat} {s : Sys} (h : CInv cap s) (sched : List Nat) : CInv cap (crun s sched) := by
  induction sched generalizing s with
  | nil => exact h
  | cons t sched ih => exact ih (h.step t)

theorem take_snoc_getD (l : List Nat) (k : Nat) (h : k < l.length) : l.take k ++ [l.getD k 0] = l.take (k + 1) := by
  rw [List.take_add_one, List.getD_eq_getElem?_getD, List.getElem?_eq_getElem h]
  rfl

/-- thread `t` is draining side `p`, whose state at the swap was `S0`; nobody else is inside a push on that side or
    inside another drain -/
structure QInv (s : Sys) (t : Nat) (p : Bool) (S0 : Res) (u len : Nat) (rest : List COp) : Prop where
  locked : s.locked = true
  up : s.asr.usePrimary = !p
  side : s.asr.side p = S0
  lenle : len ≤ S0.slots.length
  others : ∀ i th, s.threads[i]? = some th → i ≠ t →
    th.midPushOn p = false ∧ ∀ q u' l vs, th.pc ≠ .reading q u' l vs
  me : ∃ vals asked, s.threads[t]? = some { prog := .consume :: rest, pc := .reading p u len vals, asked := asked }
    ∧ vals = S0.slots.take vals.length ∧ vals.length ≤ len

/-- the thread a grant goes to is the drainer or one of the others -/
theorem QInv.thread {s : Sys} {t : Nat} {p : Bool} {S0 : Res} {u len : Nat} {rest : List COp}
    (h : QInv s t p S0 u len rest) {i : Nat} {th : Thread} (hget : s.threads[i]? = some th) :
    (i = t ∧ ∃ vals asked, th = { prog := .consume :: rest, pc := .reading p u len vals, asked := asked }
      ∧ vals = S0.slots.take vals.length ∧ vals.length ≤ len)
    ∨ (i ≠ t ∧ th.midPushOn p = false ∧ ∀ q u' l vs, th.pc ≠ .reading q u' l vs) := by
  by_cases hit : i = t
  · obtain ⟨vals, asked, hme, hv⟩ := h.me
    rw [← hit, hget] at hme
    exact .inl ⟨hit, vals, asked, Option.some.inj hme, hv⟩
  · exact .inr ⟨hit, h.others i th hget hit⟩

/-- a step of another thread that stays off side `p` and starts no drain -/
theorem QInv.other {s : Sys} {t : Nat} {p : Bool} {S0 : Res} {u len : Nat} {rest : List COp}
    (h : QInv s t p S0 u len rest) {i : Nat} (hi : i ≠ t) {a' : ASR} (hup : a'.usePrimary = s.asr.usePrimary)
    (hside : a'.side p = s.asr.side p) {th' : Thread} (hmid : th'.midPushOn p = false)
    (hnr : ∀ q u' l vs, th'.pc ≠ .reading q u' l vs) :
    QInv (({ s with asr := a' } : Sys).setThread i th') t p S0 u len rest := by
  refine ⟨h.locked, hup.trans h.up, hside.trans h.side, h.lenle, ?_, ?_⟩
  · intro j thj hj hne
    rcases getElem?_set_cases hj with ⟨_, rfl⟩ | ⟨_, h0⟩
    · exact ⟨hmid, hnr⟩
    · exact h.others j thj h0 hne
  · obtain ⟨vals, asked, hme, hv⟩ := h.me
    exact ⟨vals, asked, (List.getElem?_set_ne hi).trans hme, hv⟩

theorem QInv.step {s : Sys} {t : Nat} {p : Bool} {S0 : Res} {u len : Nat} {rest : List COp}
    (h : QInv s t p S0 u len rest) (i : Nat) :
    (QInv (cstep s i) t p S0 u len rest ∧ (cstep s i).drains = s.drains)
    ∨ (cstep s i).drains = s.drains ++ [(t, DrainOut.mk (S0.slots.take len) u len)] := by
  refine cstep_cases (P := fun s' _ _ => (QInv s' t p S0 u len rest ∧ s'.drains = s.drains)
    ∨ s'.drains = s.drains ++ [(t, DrainOut.mk (S0.slots.take len) u len)]) (fun _ => .inl ⟨h, rfl⟩) ?_ ?_ ?_ ?_ ?_ ?_
  · intro th v c rest' hget hprog hpc
    rcases h.thread hget with ⟨_, _, _, rfl, _⟩ | ⟨hne, _, _⟩
    · cases hprog
    · exact .inl ⟨h.other hne rfl rfl (by simp [Thread.midPushOn, h.up]) (by simp), rfl⟩
  · intro th v c rest' q hget hprog hpc
    rcases h.thread hget with ⟨_, _, _, rfl, _⟩ | ⟨hne, hmid, _⟩
    · cases hprog
    · have hq : ¬ q = p := by simpa [Thread.midPushOn, hpc] using hmid
      exact .inl ⟨h.other hne (setSide_usePrimary _ _ _) (by rw [side_setSide, if_neg hq])
        (by simpa [Thread.midPushOn] using hq) (by simp), rfl⟩
  · intro th v c rest' q idx hget hprog hpc
    rcases h.thread hget with ⟨_, _, _, rfl, _⟩ | ⟨hne, hmid, _⟩
    · cases hprog
    · have hq : ¬ q = p := by simpa [Thread.midPushOn, hpc] using hmid
      exact .inl ⟨h.other hne (setSide_usePrimary _ _ _) (by rw [side_setSide, if_neg hq]) rfl (by simp), rfl⟩
  · intro th forget rest' _ _ _ hfree
    rw [h.locked] at hfree
    cases hfree
  · intro th forget rest' q u' l vs hget _ hpc hlt
    rcases h.thread hget with ⟨rfl, vals, asked, rfl, hv, hle⟩ | ⟨_, _, hnr⟩
    · obtain ⟨rfl, rfl, rfl, rfl⟩ := PC.reading.inj hpc
      have hk : vals.length < S0.slots.length := Nat.lt_of_lt_of_le hlt h.lenle
      refine .inl ⟨⟨h.locked, h.up, h.side, h.lenle, ?_, _, asked,
        List.getElem?_set_self (List.getElem?_eq_some_iff.mp hget).1, ?_, ?_⟩, rfl⟩
      · intro j thj hj hne
        exact h.others j thj ((List.getElem?_set_ne (Ne.symm hne)).symm.trans hj) hne
      · rw [h.side, List.length_append, List.length_singleton, ← take_snoc_getD _ _ hk, ← hv]
      · rw [List.length_append, List.length_singleton]
        exact hlt
    · exact absurd hpc (hnr q u' l vs)
  · intro th forget rest' q u' l vs hget _ hpc hlt
    rcases h.thread hget with ⟨rfl, vals, asked, rfl, hv, hle⟩ | ⟨_, _, hnr⟩
    · obtain ⟨rfl, rfl, rfl, rfl⟩ := PC.reading.inj hpc
      have e : vals.length = len := Nat.le_antisymm hle (Nat.le_of_not_lt hlt)
      right
      show s.drains ++ [(i, DrainOut.mk vals u len)] = _
      rw [hv, e]
    · exact absurd hpc (hnr q u' l vs)

theorem cstep_drains (s : Sys) (i : Nat) : ∃ tail, (cstep s i).drains = s.drains ++ tail := by
  have keep : ∃ tail, s.drains = s.drains ++ tail := ⟨[], (List.append_nil _).symm⟩
  refine cstep_cases (P := fun s' _ _ => ∃ tail, s'.drains = s.drains ++ tail) (fun _ => keep) ?_ ?_ ?_ ?_ ?_ ?_
  · intros; exact keep
  · intros; exact keep
  · intros; exact keep
  · intros; exact keep
  · intros; exact keep
  · intros; exact ⟨_, rfl⟩

theorem crun_drains (s : Sys) (sched : List Nat) : ∃ tail, (crun s sched).drains = s.drains ++ tail := by
  induction sched generalizing s with
  | nil => exact ⟨[], (List.append_nil _).symm⟩
  | cons t sched ih =>
    obtain ⟨t1, h1⟩ := cstep_drains s t
    obtain ⟨t2, h2⟩ := ih (cstep s t)
    exact ⟨t1 ++ t2, by rw [crun_cons, h2, h1, List.append_assoc]⟩

theorem QInv.run {s : Sys} {t : Nat} {p : Bool} {S0 : Res} {u len : Nat} {rest : List COp}
    (h : QInv s t p S0 u len rest) (sched : List Nat) :
    (crun s sched).drains = s.drains
    ∨ ∃ tail, (crun s sched).drains = s.drains ++ [(t, DrainOut.mk (S0.slots.take len) u len)] ++ tail := by
  induction sched generalizing s with
  | nil => exact .inl rfl
  | cons i sched ih =>
    rw [crun_cons]
    rcases h.step i with ⟨h', e⟩ | e
    · rw [← e]
      exact ih h'
    · obtain ⟨tail, e2⟩ := crun_drains (cstep s i) sched
      exact .inr ⟨tail, by rw [e2, e]⟩

theorem QInv.start (s0 : Sys) (t : Nat) (asked : List (Option Nat)) (rest : List COp)
    (hth : s0.threads[t]? = some { prog := .consume :: rest, pc := .idle, asked := asked })
    (hfree : s0.locked = false)
    (hq : ∀ (i : Nat) (th : Thread), s0.threads[i]? = some th →
      th.midPushOn s0.asr.usePrimary = false ∧ ∀ q u l vs, th.pc ≠ .reading q u l vs) :
    QInv (cstep s0 t) t s0.asr.usePrimary s0.asr.active s0.asr.active.drain.unsampled s0.asr.active.drain.len rest
    ∧ (cstep s0 t).drains = s0.drains := by
  unfold cstep
  rw [hth]
  simp only [threadStep, consumeStep, hfree, Bool.false_eq_true, if_false]
  refine ⟨⟨rfl, rfl, rfl, ?_, ?_, [], asked, List.getElem?_set_self (List.getElem?_eq_some_iff.mp hth).1, rfl,
    Nat.zero_le _⟩, rfl⟩
  · rw [drain_len]
    exact Nat.min_le_right _ _
  · intro i th hi hne
    exact hq i th ((List.getElem?_set_ne (Ne.symm hne)).symm.trans hi)

end MetricsVerif.Reservoir
