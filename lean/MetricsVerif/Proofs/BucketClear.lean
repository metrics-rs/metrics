/-
C05, clears under ANY interleaving: a value is never delivered more often than it was pushed.

Ghost ownership of blocks (`live` = reachable from the tail, `det tid` = detached by the running clear of
thread `tid` and not yet read, `read` = handed to a clear callback) is threaded through the step machine
(`grun`, defined in `Model/BucketGhost.lean`); its first projection is the plain `run`.  The invariant (`GInv`) says
that the live chain and every running clear's remaining chain are contiguous, disjoint index ranges that end in a
`next = none` block, so a block is read by at most one clear, at most once.  On top of it: what clears were handed
is bounded by the cells of the blocks marked `read` (`GAcc`), and what a snapshot would see is the published prefixes
of the live blocks (`visible_count`).
-/
import MetricsVerif.Proofs.BucketAll
import MetricsVerif.Model.BucketGhost

namespace MetricsVerif.Bucket

/-- what a running clear still has to read: blocks up to `blk` (inclusive or not) of its detached chain -/
def claim : PC → Option (Nat × Bool)
  | .cQuiesced b => some (b, true)
  | .cWait b => some (b, true)
  | .cRead b => some (b, true)
  | .cNext b => some (b, false)
  | _ => none

theorem grun_fst (sched : List Nat) : ∀ s own, (grun s own sched).1 = run s sched := by
  induction sched with
  | nil => intro s own; rfl
  | cons t ts ih => intro s own; simp only [grun, run, List.foldl_cons]; exact ih _ _

def nextAt (bs : List Block) (i : Nat) : Option (Option Nat) := (bs[i]?).map Block.next

/-- block `k` of a list (`newBlock` beyond its end); `getBlock s k` is `blk0 s.blocks k` (`getBlock_eq_blk0`) -/
def blk0 (bs0 : List Block) (k : Nat) : Block := (bs0[k]?).getD newBlock

theorem getBlock_eq_blk0 (s : Sys) (k : Nat) : getBlock s k = blk0 s.blocks k := rfl

/-- same length, same links, cells only grow -/
def Sim (bs bs' : List Block) : Prop :=
  bs'.length = bs.length ∧ (∀ i, nextAt bs' i = nextAt bs i) ∧ ∀ i v, cnt v (blk0 bs i) ≤ cnt v (blk0 bs' i)

theorem Sim.refl (bs : List Block) : Sim bs bs := ⟨rfl, fun _ => rfl, fun _ _ => Nat.le_refl _⟩

theorem Sim.setAt_getBlock (s : Sys) (blk : Nat) (b' : Block) (hn : b'.next = (getBlock s blk).next)
    (hc : ∀ v, cnt v (getBlock s blk) ≤ cnt v b') : Sim s.blocks (setAt s.blocks blk b') := by
  refine ⟨setAt_length _ _ _, ?_, ?_⟩
  · intro i
    unfold nextAt
    rw [getElem?_setAt]
    split
    · rename_i h
      obtain ⟨rfl, hlt⟩ := h
      rw [getBlock_get hlt, Option.map_some, Option.map_some, hn]
    · rfl
  · intro i v
    show cnt v (getBlock s i) ≤ cnt v (getBlock (setBlock s blk b') i)
    rw [getBlock_setBlock]
    split
    · rename_i h
      rw [← h.1]; exact hc v
    · exact Nat.le_refl _

def clearedVals : Res → List Nat
  | .cleared vs => vs
  | _ => []

theorem delivered_eq (s : Sys) : delivered s = s.threads.flatMap (fun t => t.results.flatMap clearedVals) := by
  unfold delivered
  congr 1

/-- what thread `t` has been handed by clears: finished clears plus the running one -/
def dl (t : Thread) : List Nat := t.results.flatMap clearedVals ++ (if (claim t.pc).isSome then t.acc else [])

theorem claim_startPC (calls : List Call) : claim (startPC calls) = none := by
  cases calls with
  | nil => rfl
  | cons c r => cases c <;> rfl

theorem dl_advance (t : Thread) (r : Res) (v : Nat) :
    (dl (t.advance r)).count v = (t.results.flatMap clearedVals).count v + (clearedVals r).count v := by
  have : claim (startPC t.calls.tail) = none := claim_startPC _
  simp [dl, this, Thread.advance, List.flatMap_append, List.count_append]

theorem dl_of_none (t : Thread) (h : claim t.pc = none) (v : Nat) :
    (dl t).count v = (t.results.flatMap clearedVals).count v := by
  simp [dl, h]

/-- effects of one step, as far as block ownership is concerned -/
inductive GEff (s : Sys) (t : Thread) : List Block → Option Nat → Thread → Prop
  | quiet (bs' : List Block) (t' : Thread) : Sim s.blocks bs' → claim t'.pc = claim t.pc →
      (∀ tid own, gownT s t tid own = own) → (∀ v, (dl t').count v = (dl t).count v) → GEff s t bs' s.tail t'
  | append (nb : Block) (t' : Thread) : nb.cells = [] → claim t.pc = none → claim t'.pc = none →
      (∀ tid own, gownT s t tid own = own) → (∀ v, (dl t').count v = (dl t).count v) → nb.next = s.tail →
      GEff s t (s.blocks ++ [nb]) (some s.blocks.length) t'
  | detach (old : Nat) : t.pc = .cCas old → s.tail = some old → GEff s t s.blocks none { t with pc := .cQuiesced old }
  | read (blk : Nat) : t.pc = .cRead blk →
      GEff s t s.blocks s.tail { t with acc := t.acc ++ (getBlock s blk).data, pc := .cNext blk }
  | nextNone (blk : Nat) : t.pc = .cNext blk → (getBlock s blk).next = none →
      GEff s t s.blocks s.tail (t.advance (.cleared t.acc))
  | nextSome (blk n : Nat) : t.pc = .cNext blk → (getBlock s blk).next = some n →
      GEff s t s.blocks s.tail { t with pc := .cQuiesced n }

theorem gownT_eq {s : Sys} {t : Thread} (h1 : ∀ old, t.pc = .cCas old → s.tail ≠ some old) (h2 : ∀ blk, t.pc ≠ .cRead blk)
    (tid : Nat) (own : Nat → Owner) : gownT s t tid own = own := by
  unfold gownT
  split
  · exact if_neg (h1 _ ‹_›)
  · exact absurd ‹_› (h2 _)
  · rfl

theorem gownT_of_detach {s : Sys} {t : Thread} {old : Nat} (hp : t.pc = .cCas old) (ht : s.tail = some old) (tid : Nat)
    (own : Nat → Owner) :
    gownT s t tid own = fun i => if i < s.blocks.length ∧ own i = .live then .det tid else own i := by
  unfold gownT; rw [hp]; exact if_pos ht

theorem gownT_of_read {s : Sys} {t : Thread} {blk : Nat} (hp : t.pc = .cRead blk) (tid : Nat) (own : Nat → Owner) :
    gownT s t tid own = fun i => if i = blk then .read else own i := by
  unfold gownT; rw [hp]

theorem Hop.gown {s : Sys} {t : Thread} {pc' : PC} (h : Hop s t pc') : ∀ tid own, gownT s t tid own = own :=
  gownT_eq (by cases h <;> grind) (by cases h <;> grind)

theorem Ret.gown {s : Sys} {t : Thread} {r : Res} (h : Ret s t r) : ∀ tid own, gownT s t tid own = own :=
  gownT_eq (by cases h <;> grind) (by cases h <;> grind)

theorem Hop.claim {s : Sys} {t : Thread} {pc' : PC} (h : Hop s t pc') :
    claim pc' = claim t.pc ∨ ∃ blk n, t.pc = .cNext blk ∧ (getBlock s blk).next = some n ∧ pc' = .cQuiesced n := by
  cases h with
  | start hp => exact .inl (by rw [hp]; exact claim_startPC _)
  | dWait blk hp | cWait blk hp => rcases hp with hp | hp <;> split <;> simp [hp, Bucket.claim]
  | _ => simp_all [Bucket.claim]

theorem Ret.claim {s : Sys} {t : Thread} {r : Res} (h : Ret s t r) :
    claim t.pc = none ∧ clearedVals r = [] ∨ ∃ blk, t.pc = .cNext blk ∧ (getBlock s blk).next = none ∧ r = .cleared t.acc := by
  cases h <;> simp [*, Bucket.claim, clearedVals]

theorem Eff.geff {s s' : Sys} {t t' : Thread} (e : Eff s t s' t') : GEff s t s'.blocks s'.tail t' := by
  have quiet : ∀ (bs' : List Block) (pc' : PC), Sim s.blocks bs' → claim t.pc = none → claim pc' = none →
      (∀ tid own, gownT s t tid own = own) → GEff s t bs' s.tail { t with pc := pc' } := fun _ _ hs h0 h1 hg =>
    .quiet _ _ hs (h1.trans h0.symm) hg (fun v => by simp only [dl, h0, h1])
  cases e with
  | idle hp =>
    exact .quiet _ _ (Sim.refl _) rfl (gownT_eq (by simp [hp]) (by simp [hp])) (fun _ => rfl)
  | hop pc' hop =>
    rcases hop.claim with hc | ⟨blk, n, hp, hn, rfl⟩
    · exact .quiet _ _ (Sim.refl _) hc hop.gown (fun v => by simp only [dl, hc])
    · exact .nextSome blk n hp hn
  | ret r hr =>
    rcases hr.claim with ⟨hc, hr0⟩ | ⟨blk, hp, hn, rfl⟩
    · refine .quiet _ _ (Sim.refl _) (by rw [hc]; exact claim_startPC _) hr.gown ?_
      intro v; rw [dl_advance, dl_of_none t hc, hr0]; rfl
    · exact .nextNone blk hp hn
  | read blk pc' hpc =>
    rcases hpc with ⟨hp, rfl⟩ | ⟨hp, rfl⟩
    · exact .quiet _ _ (Sim.refl _) (by rw [hp]; rfl) (gownT_eq (by simp [hp]) (by simp [hp]))
        (fun v => by simp [dl, hp, claim])
    · exact .read blk hp
  | detach old hp ht => exact .detach old hp ht
  | append r hpc =>
    have hc : claim t.pc = none := by rcases hpc with ⟨hp, _⟩ | ⟨old, hp, _⟩ <;> rw [hp] <;> rfl
    refine .append _ _ rfl hc rfl (gownT_eq ?_ ?_) (fun v => by simp only [dl, hc]; rfl) rfl
    · rcases hpc with ⟨hp, _⟩ | ⟨old, hp, _⟩ <;> simp [hp]
    · rcases hpc with ⟨hp, _⟩ | ⟨old, hp, _⟩ <;> simp [hp]
  | claimOk blk r hp =>
    exact quiet _ _ (Sim.setAt_getBlock s blk _ rfl (fun v => by simp [cnt, List.count_append])) (by rw [hp]; rfl) rfl
      (gownT_eq (by simp [hp]) (by simp [hp]))
  | claimFull blk r pc' hp _ hpc' =>
    exact quiet _ _ (Sim.setAt_getBlock s blk _ rfl (fun _ => Nat.le_refl _)) (by rw [hp]; rfl)
      (by rcases hpc' with rfl | rfl <;> rfl) (gownT_eq (by simp [hp]) (by simp [hp]))
  | publish blk idx hp =>
    have hc : claim t.pc = none := by rw [hp]; rfl
    refine .quiet _ _ (Sim.setAt_getBlock s blk _ rfl (fun v => by simp [cnt, publishCell_vals]))
      (by rw [hc]; exact claim_startPC _) (gownT_eq (by simp [hp]) (by simp [hp])) ?_
    intro v; rw [dl_advance, dl_of_none t hc]; rfl

theorem stepThread_geff (s : Sys) (t : Thread) :
    GEff s t (stepThread s t).1.blocks (stepThread s t).1.tail (stepThread s t).2 := (stepThread_eff s t).geff

/-- blocks `lo ..= hi` are linked downwards and `lo` is the end of the chain -/
def Seg (bs : List Block) (lo hi : Nat) : Prop :=
  nextAt bs lo = some none ∧ ∀ i, lo < i → i ≤ hi → nextAt bs i = some (some (i - 1))

/-- the owner map agrees with `claim` of clearer `tid`'s pc: with claim `(blk, incl)` the blocks marked `det tid` are a
    linked segment `bt ..` up to `blk`, `blk` itself included exactly when `incl` -/
def COK (s : Sys) (own : Nat → Owner) (tid : Nat) : Option (Nat × Bool) → Prop
  | none => ∀ i, own i ≠ .det tid
  | some (blk, incl) => blk < s.blocks.length ∧ ∃ bt, bt ≤ blk
      ∧ (∀ i, own i = .det tid ↔ (bt ≤ i ∧ (i < blk ∨ (incl = true ∧ i = blk)))) ∧ Seg s.blocks bt blk

/-- `live`: the live blocks are the ones from some `lb` upwards and form the chain below the tail -/
structure GInv (s : Sys) (own : Nat → Owner) : Prop where
  base : AInv2 s
  live : ∃ lb, lb ≤ s.blocks.length ∧ (∀ i, own i = .live ↔ lb ≤ i) ∧ (s.tail = none → lb = s.blocks.length)
      ∧ (∀ b, s.tail = some b → lb ≤ b ∧ Seg s.blocks lb b)
  clr : ∀ (tid : Nat) (t : Thread), s.threads[tid]? = some t → COK s own tid (claim t.pc)

theorem nextAt_append_lt (bs : List Block) (nb : Block) (i : Nat) (h : i < bs.length) :
    nextAt (bs ++ [nb]) i = nextAt bs i := by
  unfold nextAt; rw [List.getElem?_append_left h]

theorem nextAt_append_len (bs : List Block) (nb : Block) : nextAt (bs ++ [nb]) bs.length = some nb.next := by
  unfold nextAt; simp

theorem nextAt_some_lt {bs : List Block} {i : Nat} {x : Option Nat} (h : nextAt bs i = some x) : i < bs.length := by
  unfold nextAt at h
  cases hb : bs[i]? with
  | none => rw [hb] at h; cases h
  | some b => exact lt_of_getElem?_some hb

theorem nextAt_getBlock {s : Sys} {i : Nat} (h : i < s.blocks.length) : nextAt s.blocks i = some (getBlock s i).next := by
  have hb : s.blocks[i]? = some s.blocks[i] := List.getElem?_eq_getElem h
  unfold nextAt; rw [hb, getBlock_eq hb]; rfl

theorem Seg.mono_blocks {bs bs' : List Block} {lo hi : Nat} (h : Seg bs lo hi) (hhi : lo ≤ hi)
    (hn : ∀ i, i ≤ hi → nextAt bs' i = nextAt bs i) : Seg bs' lo hi :=
  ⟨by rw [hn lo hhi]; exact h.1, fun i h1 h2 => by rw [hn i h2]; exact h.2 i h1 h2⟩

theorem COK.congr {s s' : Sys} {own own' : Nat → Owner} {u : Nat} {c : Option (Nat × Bool)}
    (h : COK s own u c) (hlen : s.blocks.length ≤ s'.blocks.length)
    (hn : ∀ i, i < s.blocks.length → nextAt s'.blocks i = nextAt s.blocks i)
    (hown : ∀ i, own' i = .det u ↔ own i = .det u) : COK s' own' u c := by
  cases c with
  | none => intro i hi; exact h i ((hown i).mp hi)
  | some p =>
    obtain ⟨blk, incl⟩ := p
    obtain ⟨hlt, bt, hbt, hr, hseg⟩ := h
    refine ⟨Nat.lt_of_lt_of_le hlt hlen, bt, hbt, fun i => (hown i).trans (hr i), ?_⟩
    exact hseg.mono_blocks hbt (fun i hi => hn i (by omega))

theorem claim_eq_some_incl {pc : PC} {blk : Nat} (h : claim pc = some (blk, true)) :
    pc = .cQuiesced blk ∨ pc = .cWait blk ∨ pc = .cRead blk := by
  cases pc <;> simp [claim] at h <;> simp [h]

theorem gown_eq {s : Sys} {tid : Nat} {t : Thread} (hg : s.threads[tid]? = some t) (own : Nat → Owner) :
    gown s own tid = gownT s t tid own := by
  unfold gown; rw [hg]

theorem gown_none {s : Sys} {tid : Nat} (hg : s.threads[tid]? = none) (own : Nat → Owner) : gown s own tid = own := by
  unfold gown; rw [hg]

theorem gstep_cases {P : Sys → (Nat → Owner) → Prop} (s : Sys) (own : Nat → Owner) (tid : Nat)
    (hnone : s.threads[tid]? = none → P s own)
    (hsome : ∀ t bs' tl' t', s.threads[tid]? = some t → GEff s t bs' tl' t' →
      P { B := s.B, blocks := bs', tail := tl', threads := setAt s.threads tid t' } (gownT s t tid own)) :
    P (step s tid) (gown s own tid) := by
  cases hg : s.threads[tid]? with
  | none => rw [step_none hg, gown_none hg]; exact hnone hg
  | some t => rw [step_eq s tid t hg, gown_eq hg]; exact hsome t _ _ _ hg (stepThread_geff s t)

theorem Seg.next_top {s : Sys} {lo hi : Nat} (h : Seg s.blocks lo hi) (hle : lo ≤ hi) (hlt : hi < s.blocks.length) :
    (getBlock s hi).next = if lo = hi then none else some (hi - 1) := by
  have e := nextAt_getBlock hlt
  split
  · subst lo; exact Option.some.inj (e.symm.trans h.1)
  · exact Option.some.inj (e.symm.trans (h.2 hi (by omega) (Nat.le_refl _)))

/-- ownership after a detach by `tid`: the live range `lb ..< len` becomes `tid`'s, nothing else changes -/
theorem detach_own {own : Nat → Owner} {tid lb old len : Nat} (hol : old + 1 = len) (hlb : lb ≤ len)
    (hlive : ∀ i, own i = .live ↔ lb ≤ i) (hnone : ∀ i, own i ≠ .det tid) (i : Nat) :
    ((if i < len ∧ own i = .live then Owner.det tid else own i) = .live ↔ len ≤ i)
    ∧ (∀ u, u ≠ tid → ((if i < len ∧ own i = .live then Owner.det tid else own i) = .det u ↔ own i = .det u))
    ∧ ((if i < len ∧ own i = .live then Owner.det tid else own i) = .det tid ↔
        lb ≤ i ∧ (i < old ∨ (true = true ∧ i = old))) := by
  -- by cases on `i < len ∧ own i = .live`: a block taken was live (`hlive i`), the others were not `tid`'s (`hnone i`)
  have := hlive i
  have := hnone i
  split <;> grind

/-- ownership after `tid` read block `blk` of its range `bt ..= blk`: only that block changes hands -/
theorem read_own {own : Nat → Owner} {tid bt blk : Nat}
    (hr : ∀ i, own i = .det tid ↔ bt ≤ i ∧ (i < blk ∨ (true = true ∧ i = blk))) (hbt : bt ≤ blk) (i : Nat) :
    ((if i = blk then Owner.read else own i) = .live ↔ own i = .live)
    ∧ (∀ u, u ≠ tid → ((if i = blk then Owner.read else own i) = .det u ↔ own i = .det u))
    ∧ ((if i = blk then Owner.read else own i) = .det tid ↔ bt ≤ i ∧ (i < blk ∨ (false = true ∧ i = blk))) := by
  -- by cases on `i = blk`: block `blk` was `tid`'s (`hr blk`), for the others `hr i` is the claim
  have := hr i
  have := hr blk
  split <;> grind

/-- the range a clear still has to read, after it moved from block `blk` (read) to `blk - 1` -/
theorem range_down {bt blk i : Nat} (h : bt < blk) :
    bt ≤ i ∧ (i < blk ∨ (false = true ∧ i = blk)) ↔ bt ≤ i ∧ (i < blk - 1 ∨ (true = true ∧ i = blk - 1)) := by
  simp only [Bool.false_eq_true, false_and, or_false, true_and]; omega

theorem gstep_inv (s : Sys) (own : Nat → Owner) (tid : Nat) (h : GInv s own) : GInv (step s tid) (gown s own tid) := by
  refine gstep_cases (P := fun x o => AInv2 x → GInv x o) s own tid (fun _ _ => h) ?_ (astep_inv2 s tid h.base)
  intro t bs' tl' t' hg eff hbase
  obtain ⟨lb, hlb, hlive, htn, hts⟩ := h.live
  have hct := h.clr tid t hg
  have htv := h.base.inv.tail_valid
  -- other threads keep their claims when links below the old length and their `det` marks are unchanged
  have others : ∀ (own' : Nat → Owner), s.blocks.length ≤ bs'.length →
      (∀ i, i < s.blocks.length → nextAt bs' i = nextAt s.blocks i) →
      (∀ u, u ≠ tid → ∀ i, own' i = .det u ↔ own i = .det u) →
      COK { B := s.B, blocks := bs', tail := tl', threads := setAt s.threads tid t' } own' tid (claim t'.pc) →
      ∀ (j : Nat) (u : Thread), (setAt s.threads tid t')[j]? = some u →
        COK { B := s.B, blocks := bs', tail := tl', threads := setAt s.threads tid t' } own' j (claim u.pc) := by
    intro own' hlen hn hown hself j u hu
    rcases threads_after hg j u hu with ⟨rfl, rfl⟩ | ⟨hj, hu'⟩
    · exact hself
    · exact (h.clr j u hu').congr hlen hn (hown j hj)
  cases eff with
  | quiet bs' t' hsim hcl hgo hdl =>
    rw [hgo]
    obtain ⟨hl, hnx, _⟩ := hsim
    refine ⟨hbase, ⟨lb, hl ▸ hlb, hlive, fun e => hl ▸ htn e, ?_⟩, ?_⟩
    · intro b hb
      obtain ⟨h1, h2⟩ := hts b hb
      exact ⟨h1, h2.mono_blocks h1 (fun i _ => hnx i)⟩
    · refine others own (Nat.le_of_eq hl.symm) (fun i _ => hnx i) (fun _ _ _ => Iff.rfl) ?_
      rw [hcl]
      exact hct.congr (Nat.le_of_eq hl.symm) (fun i _ => hnx i) (fun _ => Iff.rfl)
  | append nb t' hcells hc0 hc1 hgo hdl hnb =>
    rw [hgo]
    refine ⟨hbase, ⟨lb, ?_, hlive, (fun e => nomatch e), ?_⟩, ?_⟩
    · rw [List.length_append]; omega
    · -- the new tail extends the live segment, or starts one if the tail was null
      rintro b ⟨⟩
      cases ht : s.tail with
      | none =>
        obtain rfl := htn ht
        exact ⟨Nat.le_refl _, by rw [nextAt_append_len, hnb, ht], fun i h1 h2 => by omega⟩
      | some old =>
        obtain ⟨h1, h2⟩ := hts old ht
        have hol := htv old ht
        refine ⟨by omega, by rw [nextAt_append_lt _ _ _ (by omega)]; exact h2.1, fun i hi1 hi2 => ?_⟩
        by_cases hi : i < s.blocks.length
        · rw [nextAt_append_lt _ _ _ hi]; exact h2.2 i hi1 (by omega)
        · obtain rfl : i = s.blocks.length := by omega
          rw [nextAt_append_len, hnb, ht, ← hol]; rfl
    · refine others own (by simp) (fun i hi => nextAt_append_lt _ _ _ hi) (fun _ _ _ => Iff.rfl) ?_
      rw [hc1]; rw [hc0] at hct; exact hct
  | detach old hp ht =>
    -- the whole live segment becomes this clear's chain
    have hol := htv old ht
    obtain ⟨h1, h2⟩ := hts old ht
    rw [gownT_of_detach hp ht]; rw [hp] at hct
    have hown := detach_own hol hlb hlive hct
    refine ⟨hbase, ⟨s.blocks.length, Nat.le_refl _, fun i => (hown i).1, fun _ => rfl, (fun b hb => nomatch hb)⟩, ?_⟩
    refine others _ (Nat.le_refl _) (fun _ _ => rfl) (fun u hu i => (hown i).2.1 u hu) ?_
    exact ⟨by show old < s.blocks.length; omega, lb, h1, fun i => (hown i).2.2, h2⟩
  | read blk hp =>
    rw [gownT_of_read hp]; rw [hp] at hct
    obtain ⟨hlt, bt, hbt, hr, hseg⟩ := hct
    have hown := read_own hr hbt
    refine ⟨hbase, ⟨lb, hlb, fun i => ((hown i).1).trans (hlive i), htn, hts⟩, ?_⟩
    refine others _ (Nat.le_refl _) (fun _ _ => rfl) (fun u hu i => (hown i).2.1 u hu) ?_
    exact ⟨hlt, bt, hbt, fun i => (hown i).2.2, hseg⟩
  | nextNone blk hp hn =>
    -- the chain ended: nothing is left of this clear's range
    rw [gownT_eq (by simp [hp]) (by simp [hp])]
    rw [hp] at hct
    obtain ⟨hlt, bt, hbt, hr, hseg⟩ := hct
    refine ⟨hbase, ⟨lb, hlb, hlive, htn, hts⟩, ?_⟩
    refine others own (Nat.le_refl _) (fun _ _ => rfl) (fun _ _ _ => Iff.rfl) ?_
    rw [show claim (t.advance (.cleared t.acc)).pc = none from claim_startPC _]
    intro i hi
    have hnx := hseg.next_top hbt hlt
    have hb : bt = blk := Decidable.byContradiction fun e => by rw [hn, if_neg e] at hnx; cases hnx
    obtain ⟨h1, h2 | ⟨h2, _⟩⟩ := (hr i).mp hi
    · omega
    · cases h2
  | nextSome blk n hp hn =>
    -- the walk moves one block down its range
    rw [gownT_eq (by simp [hp]) (by simp [hp])]
    rw [hp] at hct
    obtain ⟨hlt, bt, hbt, hr, hseg⟩ := hct
    refine ⟨hbase, ⟨lb, hlb, hlive, htn, hts⟩, ?_⟩
    refine others own (Nat.le_refl _) (fun _ _ => rfl) (fun _ _ _ => Iff.rfl) ?_
    have hnx := hseg.next_top hbt hlt
    have hne : bt ≠ blk := fun e => by rw [hn, if_pos e] at hnx; cases hnx
    rw [hn, if_neg hne] at hnx
    obtain rfl := Option.some.inj hnx
    exact ⟨Nat.lt_of_le_of_lt (Nat.sub_le _ _) hlt, bt, by omega, fun i => (hr i).trans (range_down (by omega)),
      hseg.1, fun i h1 h2 => hseg.2 i h1 (by omega)⟩

def isDet : Owner → Bool
  | .det _ => true
  | _ => false

def isLive : Owner → Bool
  | .live => true
  | _ => false

def isRead : Owner → Bool
  | .read => true
  | _ => false

/-- sum of `f` over the blocks whose owner satisfies `p` (block `i` of the list has index `k + i`) -/
def osum (f : Block → Nat) (p : Owner → Bool) (own : Nat → Owner) : List Block → Nat → Nat
  | [], _ => 0
  | b :: bs, k => (if p (own k) = true then f b else 0) + osum f p own bs (k + 1)

/-- what position `i` contributes to `osum f p own bs k` -/
def ow (f : Block → Nat) (p : Owner → Bool) (own : Nat → Owner) (bs : List Block) (k i : Nat) : Nat :=
  if p (own (k + i)) = true then f (blk0 bs i) else 0

theorem ow_cons (f : Block → Nat) (p : Owner → Bool) (own : Nat → Owner) (b : Block) (bs : List Block) (k i : Nat) :
    ow f p own (b :: bs) k (i + 1) = ow f p own bs (k + 1) i := by
  unfold ow blk0
  rw [show k + (i + 1) = k + 1 + i by omega, List.getElem?_cons_succ]

theorem ow_nil {f : Block → Nat} (hf : f newBlock = 0) (p : Owner → Bool) (own : Nat → Owner) (k i : Nat) :
    ow f p own [] k i = 0 := by
  unfold ow blk0; simp [hf]

/-- position by position no more weight: no larger sum (the lists may differ in length) -/
theorem osum_le {f f' : Block → Nat} {p p' : Owner → Bool} {own own' : Nat → Owner} (hf' : f' newBlock = 0) :
    ∀ (bs bs' : List Block) (k : Nat), (∀ i, ow f p own bs k i ≤ ow f' p' own' bs' k i) →
      osum f p own bs k ≤ osum f' p' own' bs' k := by
  intro bs
  induction bs with
  | nil => intro bs' k _; exact Nat.zero_le _
  | cons b bs ih =>
    intro bs' k h
    have h0 := h 0
    simp only [ow, blk0, Nat.add_zero, List.getElem?_cons_zero, Option.getD_some] at h0
    cases bs' with
    | nil =>
      have hr := ih [] (k + 1) (fun i => by
        have := h (i + 1); rw [ow_cons, ow_nil hf'] at this; rw [ow_nil hf']; exact this)
      simp only [List.getElem?_nil, Option.getD_none, hf', ite_self] at h0
      simp only [osum] at hr ⊢
      omega
    | cons b' bs' =>
      have hr := ih bs' (k + 1) (fun i => by rw [← ow_cons f p own b, ← ow_cons f' p' own' b']; exact h (i + 1))
      simp only [List.getElem?_cons_zero, Option.getD_some] at h0
      simp only [osum]
      omega

theorem osum_congr {f f' : Block → Nat} {p p' : Owner → Bool} {own own' : Nat → Owner} (hf : f newBlock = 0)
    (hf' : f' newBlock = 0) (bs bs' : List Block) (k : Nat) (h : ∀ i, ow f p own bs k i = ow f' p' own' bs' k i) :
    osum f p own bs k = osum f' p' own' bs' k :=
  Nat.le_antisymm (osum_le hf' bs bs' k (fun i => Nat.le_of_eq (h i)))
    (osum_le hf bs' bs k (fun i => Nat.le_of_eq (h i).symm))

theorem osum_mark {f : Block → Nat} (hf : f newBlock = 0) (p : Owner → Bool) (own own' : Nat → Owner) (j : Nat)
    (hj : p (own j) = false) (hj' : p (own' j) = true) (hoth : ∀ i, i ≠ j → p (own' i) = p (own i)) :
    ∀ (bs : List Block) (k : Nat), k ≤ j → j < k + bs.length →
      osum f p own' bs k = osum f p own bs k + f (blk0 bs (j - k)) := by
  intro bs
  induction bs with
  | nil => intro k h1 h2; simp at h2; omega
  | cons b bs ih =>
    intro k h1 h2
    simp only [osum]
    by_cases hk : k = j
    · subst hk
      rw [osum_congr hf hf bs bs (k + 1) (fun i => by unfold ow; rw [hoth (k + 1 + i) (by omega)]),
        hj, hj', Nat.sub_self]
      simp [blk0]; omega
    · rw [hoth k hk, ih (k + 1) (by omega) (by simp only [List.length_cons] at h2; omega),
        show j - k = (j - (k + 1)) + 1 by omega]
      simp only [blk0, List.getElem?_cons_succ]; omega

theorem osum_partition (f : Block → Nat) (own : Nat → Owner) : ∀ (bs : List Block) (k : Nat),
    (bs.map f).sum = osum f isRead own bs k + osum f isLive own bs k + osum f isDet own bs k := by
  intro bs
  induction bs with
  | nil => intro k; rfl
  | cons b bs ih =>
    intro k
    have := ih (k + 1)
    simp only [osum, List.map_cons, List.sum_cons] at this ⊢
    cases h : own k <;> simp [isRead, isLive, isDet] <;> omega

theorem osum_all (f : Block → Nat) (own : Nat → Owner) : ∀ (bs : List Block) (k : Nat),
    osum f (fun _ => true) own bs k = (bs.map f).sum := by
  intro bs
  induction bs with
  | nil => intro k; rfl
  | cons b bs ih => intro k; simp only [osum, ih, if_true, List.map_cons, List.sum_cons]

theorem osum_zero {f : Block → Nat} (hf : f newBlock = 0) (p : Owner → Bool) (own : Nat → Owner) (bs : List Block) (k : Nat)
    (h : ∀ i, i < bs.length → p (own (k + i)) = false) : osum f p own bs k = 0 := by
  refine Nat.le_zero.mp (osum_le (f' := f) (p' := p) (own' := own) hf bs [] k (fun i => ?_))
  rw [ow_nil hf]
  unfold ow blk0
  by_cases hi : i < bs.length
  · simp [h i hi]
  · rw [List.getElem?_eq_none (by omega)]; simp [hf]

theorem isRead_iff {o : Owner} : isRead o = true ↔ o = .read := by cases o <;> simp [isRead]

theorem isLive_iff {o : Owner} : isLive o = true ↔ o = .live := by cases o <;> simp [isLive]

theorem ow_le {f f' : Block → Nat} {p p' : Owner → Bool} {own own' : Nat → Owner} {bs bs' : List Block} {k i : Nat}
    (h : p (own (k + i)) = true → p' (own' (k + i)) = true ∧ f (blk0 bs i) ≤ f' (blk0 bs' i)) :
    ow f p own bs k i ≤ ow f' p' own' bs' k i := by
  unfold ow
  split
  · obtain ⟨h1, h2⟩ := h ‹_›
    rw [if_pos h1]; exact h2
  · exact Nat.zero_le _

/-- cells holding `v` in the blocks marked `read` -/
def rsum (v : Nat) (own : Nat → Owner) (bs : List Block) (k : Nat) : Nat := osum (cnt v) isRead own bs k

/-- cells holding `v` in the blocks marked `live` -/
def lsum (v : Nat) (own : Nat → Owner) (bs : List Block) (k : Nat) : Nat := osum (cnt v) isLive own bs k

theorem rsum_eq_osum (v : Nat) (own : Nat → Owner) (bs : List Block) (k : Nat) :
    rsum v own bs k = osum (cnt v) isRead own bs k := rfl

theorem lsum_eq_osum (v : Nat) (own : Nat → Owner) (bs : List Block) (k : Nat) :
    lsum v own bs k = osum (cnt v) isLive own bs k := rfl

theorem rsum_add_lsum_le_csum (v : Nat) (own : Nat → Owner) : ∀ (bs : List Block) (k : Nat),
    rsum v own bs k + lsum v own bs k ≤ csum v bs := by
  intro bs k
  have := osum_partition (cnt v) own bs k
  unfold rsum lsum csum
  omega

theorem count_data_le (v : Nat) (b : Block) : b.data.count v ≤ cnt v b := by
  unfold Block.data cnt
  exact ((List.takeWhile_sublist _).map _).count_le _

/-- pcs at which a thread is walking a chain and may hold collected values -/
def walk : PC → Bool
  | .dQuiesced _ | .dWait _ | .dRead _ | .dNext _ | .cQuiesced _ | .cWait _ | .cRead _ | .cNext _ => true
  | _ => false

def AccNil (t : Thread) : Prop := walk t.pc = false → t.acc = []

theorem AccNil_advance (t : Thread) (r : Res) : AccNil (t.advance r) := fun _ => rfl

theorem Hop.walking {s : Sys} {t : Thread} {pc' : PC} (h : Hop s t pc') (hw : walk pc' = false) : walk t.pc = false := by
  cases h with
  | start hp => rw [hp]; rfl
  | dWait blk hp | cWait blk hp => split at hw <;> cases hw
  | _ => simp_all [walk]

theorem Eff.accNil {s s' : Sys} {t t' : Thread} (e : Eff s t s' t') (h : AccNil t) : AccNil t' := by
  cases e with
  | idle => exact h
  | hop pc' hop => exact fun hw => h (hop.walking hw)
  | ret | publish => exact AccNil_advance _ _
  | read blk pc' hpc => rcases hpc with ⟨_, rfl⟩ | ⟨_, rfl⟩ <;> exact fun hw => nomatch hw
  | detach => exact fun hw => nomatch hw
  | append r hpc => rcases hpc with ⟨hp, _⟩ | ⟨old, hp, _⟩ <;> exact fun _ => h (by rw [hp]; rfl)
  | claimOk blk r hp | claimFull blk r pc' hp => exact fun _ => h (by rw [hp]; rfl)

def Dsum (v : Nat) (s : Sys) : Nat := (s.threads.map (fun t => (dl t).count v)).sum

structure GAcc (s : Sys) (own : Nat → Owner) : Prop where
  accnil : ∀ (i : Nat) (t : Thread), s.threads[i]? = some t → AccNil t
  le : ∀ v, Dsum v s ≤ rsum v own s.blocks 0

theorem gstep_acc (s : Sys) (own : Nat → Owner) (tid : Nat) (h : GInv s own) (ha : GAcc s own) :
    GAcc (step s tid) (gown s own tid) := by
  refine ⟨fun i => threadAt_step (fun s t => (stepThread_eff s t).accNil) s tid i (ha.accnil i), ?_⟩
  refine gstep_cases (P := fun x o => ∀ v, Dsum v x ≤ rsum v o x.blocks 0) s own tid (fun _ => ha.le) ?_
  intro t bs' tl' t' hg eff v
  have hle := ha.le v
  have hD := sum_map_setAt (fun t => (dl t).count v) s.threads tid t' t hg
  show ((setAt s.threads tid t').map (fun t => (dl t).count v)).sum ≤ rsum v (gownT s t tid own) bs' 0
  simp only [Dsum] at hle
  -- what the thread has been handed grows by no more than the cells newly marked `read`
  suffices ∃ k, (dl t').count v ≤ (dl t).count v + k
      ∧ rsum v own s.blocks 0 + k ≤ rsum v (gownT s t tid own) bs' 0 by
    obtain ⟨k, h1, h2⟩ := this
    omega
  have keep : ∀ {own' : Nat → Owner} {bs' : List Block}, (∀ j, own j = .read → own' j = .read) →
      (∀ i, cnt v (blk0 s.blocks i) ≤ cnt v (blk0 bs' i)) → rsum v own s.blocks 0 ≤ rsum v own' bs' 0 := fun hm hc =>
    osum_le rfl _ _ 0 (fun i => ow_le (fun hr => ⟨isRead_iff.mpr (hm _ (isRead_iff.mp hr)), hc i⟩))
  cases eff with
  | quiet bs' t' hsim hcl hgo hdl =>
    rw [hgo]
    exact ⟨0, Nat.le_of_eq (hdl v), keep (fun _ hj => hj) (fun i => hsim.2.2 i v)⟩
  | append nb t' hcells hc0 hc1 hgo hdl hnb =>
    rw [hgo]
    refine ⟨0, Nat.le_of_eq (hdl v), keep (fun _ hj => hj) (fun i => ?_)⟩
    unfold blk0
    by_cases hi : i < s.blocks.length
    · rw [List.getElem?_append_left hi]; exact Nat.le_refl _
    · rw [List.getElem?_eq_none (Nat.le_of_not_lt hi)]; exact Nat.zero_le _
  | detach old hp ht =>
    rw [gownT_of_detach hp ht]
    have hacc : t.acc = [] := ha.accnil tid t hg (by rw [hp]; rfl)
    refine ⟨0, Nat.le_of_eq (by simp [dl, hp, claim, hacc]), keep (fun j hj => ?_) (fun _ => Nat.le_refl _)⟩
    show (if _ then _ else _) = _
    rw [if_neg (by rw [hj]; exact fun c => nomatch c.2)]; exact hj
  | read blk hp =>
    -- the block read changes hands from `det tid` to `read`; the callback gets its published prefix
    rw [gownT_of_read hp]
    obtain ⟨hlt, bt, hbt, hr, hseg⟩ := hp ▸ h.clr tid t hg
    have hown : own blk = .det tid := (hr blk).mpr ⟨hbt, Or.inr ⟨rfl, rfl⟩⟩
    refine ⟨cnt v (getBlock s blk), ?_, Nat.le_of_eq ?_⟩
    · have := count_data_le v (getBlock s blk)
      simp [dl, hp, claim, List.count_append]; omega
    · exact (osum_mark rfl isRead own _ blk (by rw [hown]; rfl) (by simp [isRead]) (fun i hi => by simp [hi])
        s.blocks 0 (Nat.zero_le _) (by omega)).symm
  | nextNone blk hp hn =>
    rw [gownT_eq (by simp [hp]) (by simp [hp])]
    exact ⟨0, Nat.le_of_eq (by rw [dl_advance]; simp [dl, hp, claim, clearedVals, List.count_append]), Nat.le_refl _⟩
  | nextSome blk n hp hn =>
    rw [gownT_eq (by simp [hp]) (by simp [hp])]
    exact ⟨0, Nat.le_of_eq (by simp [dl, hp, claim]), Nat.le_refl _⟩

theorem init_ginv (B : Nat) (progs : List (List Call)) : GInv (init B progs) own0 := by
  refine ⟨init_ainv2 B progs, ⟨0, Nat.zero_le _, fun i => ⟨fun _ => Nat.zero_le _, fun _ => rfl⟩, fun _ => rfl,
    (fun _ hb => nomatch hb)⟩, fun tid t ht => ?_⟩
  obtain ⟨p, _, rfl⟩ := init_thread ht
  exact fun i hi => nomatch hi

theorem init_gacc (B : Nat) (progs : List (List Call)) : GAcc (init B progs) own0 := by
  refine ⟨fun i t ht => ?_, fun v => Nat.le_of_eq (sum_map_mkThread _ (fun _ => rfl) progs)⟩
  obtain ⟨p, _, rfl⟩ := init_thread ht
  exact fun _ => rfl

theorem grun_inv (sched : List Nat) : ∀ s own, GInv s own → GAcc s own →
    GInv (grun s own sched).1 (grun s own sched).2 ∧ GAcc (grun s own sched).1 (grun s own sched).2 := by
  induction sched with
  | nil => intro s own h ha; exact ⟨h, ha⟩
  | cons t ts ih =>
    intro s own h ha
    simp only [grun]
    exact ih _ _ (gstep_inv s own t h) (gstep_acc s own t h ha)

theorem delivered_count_le_Dsum (s : Sys) (v : Nat) : (delivered s).count v ≤ Dsum v s := by
  rw [delivered_eq]
  unfold Dsum
  induction s.threads with
  | nil => simp
  | cons t ts ih =>
    simp only [List.flatMap_cons, List.count_append, List.map_cons, List.sum_cons]
    have : (t.results.flatMap clearedVals).count v ≤ (dl t).count v := by
      simp [dl, List.count_append]
    omega

theorem osum_append_one (f : Block → Nat) (p : Owner → Bool) (own : Nat → Owner) (b : Block) :
    ∀ (bs : List Block) (k : Nat),
    osum f p own (bs ++ [b]) k = osum f p own bs k + (if p (own (k + bs.length)) = true then f b else 0) := by
  intro bs
  induction bs with
  | nil => intro k; simp [osum]
  | cons x xs ih =>
    intro k
    simp only [List.cons_append, osum, ih (k + 1), List.length_cons]
    have : k + 1 + xs.length = k + (xs.length + 1) := by omega
    rw [this]; omega

theorem osum_take_succ (f : Block → Nat) (p : Owner → Bool) (own : Nat → Owner) (bs : List Block) (j : Nat) (b : Block)
    (hb : bs[j]? = some b) :
    osum f p own (bs.take (j + 1)) 0 = osum f p own (bs.take j) 0 + (if p (own j) = true then f b else 0) := by
  have hlt := lt_of_getElem?_some hb
  rw [List.take_add_one, hb]
  show osum f p own (bs.take j ++ [b]) 0 = _
  rw [osum_append_one]
  simp [List.length_take, Nat.min_eq_left (Nat.le_of_lt hlt)]

theorem chain_count_seg (s : Sys) (own : Nat → Owner) (v : Nat) (lo : Nat) (hlive : ∀ i, own i = .live ↔ lo ≤ i) :
    ∀ (n fuel : Nat), n < fuel → lo + n < s.blocks.length → Seg s.blocks lo (lo + n) →
    (chainData s fuel (some (lo + n))).count v
      = osum (fun b => b.data.count v) isLive own (s.blocks.take (lo + n + 1)) 0 := by
  intro n
  induction n with
  | zero =>
    intro fuel hf hlt hseg
    obtain ⟨f, rfl⟩ : ∃ f, fuel = f + 1 := ⟨fuel - 1, by omega⟩
    have hnx := hseg.next_top (Nat.le_refl _) hlt
    rw [if_pos (show lo = lo + 0 from rfl)] at hnx
    rw [osum_take_succ _ _ _ _ _ _ (getBlock_get hlt), if_pos (isLive_iff.mpr ((hlive (lo + 0)).mpr (Nat.le_refl _))),
      osum_zero rfl _ _ _ _ (fun i hi => ?_)]
    · simp only [chainData, hnx, chainData_none, List.append_nil, Nat.zero_add]
    · rw [List.length_take] at hi
      cases ho : own (0 + i) with
      | live => exact absurd ((hlive _).mp ho) (by omega)
      | det u => rfl
      | read => rfl
  | succ n ih =>
    intro fuel hf hlt hseg
    obtain ⟨f, rfl⟩ : ∃ f, fuel = f + 1 := ⟨fuel - 1, by omega⟩
    have hnx := hseg.next_top (by omega) hlt
    rw [if_neg (by omega), show lo + (n + 1) - 1 = lo + n by omega] at hnx
    have hrec : _ = osum (fun b => b.data.count v) isLive own (s.blocks.take (lo + (n + 1))) 0 :=
      ih f (by omega) (by omega) ⟨hseg.1, fun i h1 h2 => hseg.2 i h1 (by omega)⟩
    rw [osum_take_succ _ _ _ _ _ _ (getBlock_get hlt), if_pos (isLive_iff.mpr ((hlive _).mpr (by omega))), ← hrec]
    simp only [chainData, hnx, List.count_append]
    exact Nat.add_comm _ _

theorem visible_count {s : Sys} {own : Nat → Owner} (hg : GInv s own) (v : Nat) :
    (visible s).count v = osum (fun b => b.data.count v) isLive own s.blocks 0 := by
  obtain ⟨lb, hlb, hlive, htn, hts⟩ := hg.live
  unfold visible
  cases ht : s.tail with
  | none =>
    have hl := htn ht
    rw [chainData_none, osum_zero rfl _ _ _ _ (fun i hi => ?_)]
    · rfl
    · cases ho : own (0 + i) with
      | live => exact absurd ((hlive _).mp ho) (by omega)
      | det u => rfl
      | read => rfl
  | some b =>
    obtain ⟨h4, hseg⟩ := hts b ht
    have hbl := hg.base.inv.tail_valid b ht
    obtain ⟨n, rfl⟩ : ∃ n, b = lb + n := ⟨b - lb, by omega⟩
    have := chain_count_seg s own v lb hlive n s.blocks.length (by omega) (by omega) hseg
    rwa [hbl, List.take_length] at this

theorem visible_le_lsum {s : Sys} {own : Nat → Owner} (hg : GInv s own) (v : Nat) :
    (visible s).count v ≤ lsum v own s.blocks 0 := by
  rw [visible_count hg v]
  exact osum_le rfl _ _ 0 (fun i => ow_le (fun hl => ⟨hl, count_data_le v _⟩))

theorem delivered_visible_le_cells (B : Nat) (progs : List (List Call)) (sched : List Nat) (v : Nat) :
    (delivered (run (init B progs) sched)).count v + (visible (run (init B progs) sched)).count v
      ≤ cellsCount v (run (init B progs) sched) := by
  obtain ⟨hg, ha⟩ := grun_inv sched _ _ (init_ginv B progs) (init_gacc B progs)
  rw [grun_fst] at hg ha
  have h1 := delivered_count_le_Dsum (run (init B progs) sched) v
  have h2 := ha.le v
  have h3 := rsum_add_lsum_le_csum v (grun (init B progs) own0 sched).2 (run (init B progs) sched).blocks 0
  have h4 := visible_le_lsum hg v
  rw [cellsCount_eq]
  omega

theorem delivered_le_cells (B : Nat) (progs : List (List Call)) (sched : List Nat) (v : Nat) :
    (delivered (run (init B progs) sched)).count v ≤ cellsCount v (run (init B progs) sched) :=
  Nat.le_trans (Nat.le_add_right _ _) (delivered_visible_le_cells B progs sched v)

end MetricsVerif.Bucket
