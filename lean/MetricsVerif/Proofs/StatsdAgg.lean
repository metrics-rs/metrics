/-
The counter-aggregation step machine (`Model/StatsdAgg.lean`) for increment-only programs with a single flusher
thread: the arithmetic of `wrapping_sub`, the send rule over the flush outcomes, and the invariant `Inv` (the deltas
are the differences of consecutive marks) kept by every step.
-/
import MetricsVerif.Model.StatsdAgg
import MetricsVerif.Proofs.ListAt

namespace MetricsVerif.StatsdAgg

/-- deltas between consecutive marks (newest first), as the flusher computes them; the mark before the first
    flush is 0 -/
def deltasOf : List Nat → List Nat
  | [] => []
  | m :: r => ((m - r.head?.getD 0) % M) :: deltasOf r

/-- marks are non-increasing towards the past -/
def Desc : List Nat → Prop
  | [] => True
  | m :: r => (r.head?.getD 0) ≤ m ∧ Desc r

/-- telescoping: the deltas add up to the newest mark (mod 2^64) -/
theorem deltasOf_sum (l : List Nat) (h : Desc l) : (deltasOf l).sum % M = (l.head?.getD 0) % M := by
  induction l with
  | nil => rfl
  | cons m r ih =>
    have ih' := ih h.2
    have hle := h.1
    simp only [deltasOf, List.sum_cons, List.head?_cons, Option.getD_some]
    calc ((m - r.head?.getD 0) % M + (deltasOf r).sum) % M
        = ((m - r.head?.getD 0) % M + (deltasOf r).sum % M) % M := by rw [Nat.add_mod, Nat.mod_mod]
      _ = ((m - r.head?.getD 0) % M + (r.head?.getD 0) % M) % M := by rw [ih']
      _ = ((m - r.head?.getD 0) + r.head?.getD 0) % M := by rw [← Nat.add_mod]
      _ = m % M := by rw [Nat.sub_add_cancel hle]

/-! `current.wrapping_sub(last)` on reduced words, for any modulus `K` (here 2^64) -/

theorem wrapping_sub_le {K last cur : Nat} (h : last ≤ cur) (hc : cur < K) : (cur + K - last) % K = cur - last := by
  rw [Nat.sub_add_comm h, Nat.add_mod_right, Nat.mod_eq_of_lt (Nat.lt_of_le_of_lt (Nat.sub_le ..) hc)]

theorem wrapping_sub_gt {K last cur : Nat} (h : cur < last) (hl : last < K) :
    (cur + K - last) % K = K - (last - cur) ∧ cur < K - (last - cur) := by
  obtain ⟨t, rfl⟩ := Nat.le.dest (Nat.le_of_lt h)
  rw [Nat.add_sub_add_left, Nat.add_sub_cancel_left]
  exact ⟨Nat.mod_eq_of_lt (Nat.sub_lt (Nat.lt_of_le_of_lt (Nat.zero_le _) hl) (Nat.lt_of_add_lt_add_left h)),
    Nat.lt_sub_of_add_lt hl⟩

theorem wrapping_sub_add {K last cur : Nat} (hl : last < K) (hc : cur < K) : ((cur + K - last) % K + last) % K = cur := by
  rcases Nat.lt_or_ge cur last with h | h
  · rw [(wrapping_sub_gt h hl).1, ← Nat.sub_add_comm (Nat.le_trans (Nat.sub_le ..) (Nat.le_of_lt hl)),
      Nat.add_comm K, Nat.add_sub_sub_cancel (Nat.le_of_lt h), Nat.add_mod_left, Nat.mod_eq_of_lt hc]
  · rw [wrapping_sub_le h hc, Nat.sub_add_cancel h, Nat.mod_eq_of_lt hc]

theorem M_pos : 0 < M := by decide

/-- what the flusher computes from the two loaded words is the number of increments between the two loads -/
theorem delta_arith (m m' : Nat) (h : m' ≤ m) : (m % M + M - m' % M) % M = (m - m') % M := by
  obtain ⟨x, rfl⟩ := Nat.le.dest h
  have hM := M_pos
  rw [Nat.add_sub_cancel_left, Nat.add_mod m' x]
  generalize M = K at *
  have hb := Nat.mod_lt m' hM
  have hy := Nat.mod_lt x hM
  generalize m' % K = b at *
  generalize x % K = y at *
  rcases Nat.lt_or_ge (b + y) K with hlt | hge
  · rw [Nat.mod_eq_of_lt hlt, Nat.add_assoc, Nat.add_sub_cancel_left, Nat.add_mod_right, Nat.mod_eq_of_lt hy]
  · rw [Nat.mod_eq_sub_mod hge, Nat.mod_eq_of_lt (Nat.sub_lt_left_of_lt_add hge (Nat.add_lt_add hb hy)),
      Nat.sub_add_cancel hge, Nat.add_sub_cancel_left, Nat.mod_eq_of_lt hy]

def isFlushPC : PC → Bool
  | .fLoadCurrent | .fSwapLast | .fSwapUpdates => true
  | _ => false

def isAbsPC : PC → Bool
  | .aSwapAbs | .aStoreLast | .aStoreCurrent | .aAddUpdates => true
  | _ => false

def isIncFlushCall : Call → Bool
  | .abs _ => false
  | _ => true

def noFlush : Call → Bool
  | .flush => false
  | _ => true

theorem startPC_incflush (calls : List Call) (h : ∀ c ∈ calls, isIncFlushCall c = true) :
    isAbsPC (startPC calls) = false := by
  cases calls with
  | nil => rfl
  | cons c r =>
    cases c with
    | abs v => exact Bool.noConfusion (h _ (List.mem_cons_self ..))
    | inc n => rfl
    | flush => rfl

theorem startPC_noflush (calls : List Call) (h : ∀ c ∈ calls, noFlush c = true) :
    isFlushPC (startPC calls) = false := by
  cases calls with
  | nil => rfl
  | cons c r =>
    cases c with
    | flush => exact Bool.noConfusion (h _ (List.mem_cons_self ..))
    | inc n => rfl
    | abs v => rfl

/-- the send rule of the (fixed) idle logic over the sequence of flush outcomes, newest first -/
def Rule : List (Nat × Bool) → Prop
  | [] => True
  | (d2, b2) :: r => (b2 = !(d2 == 0 && (match r with | [] => false | (d1, _) :: _ => d1 == 0))) ∧ Rule r

def idleOf : List (Nat × Bool) → Bool
  | [] => false
  | (d, _) :: _ => d == 0

/-- the repaired decision: send unless this delta and the previous one are both zero; idle iff this delta is zero -/
theorem decide_fixed (idle : Bool) (d u : Nat) : decide false idle d u = (!(d == 0 && idle), d == 0) := by
  unfold StatsdAgg.decide
  cases (d == 0) <;> cases idle <;> rfl

/-- the outcome of a completed flush, decided on `idle = idleOf os`, extends the outcomes in accordance with the rule -/
theorem Rule.push {os : List (Nat × Bool)} (h : Rule os) (d : Nat) : Rule ((d, !(d == 0 && idleOf os)) :: os) := by
  refine ⟨?_, h⟩
  cases os with
  | nil => rfl
  | cons o r => obtain ⟨d1, b1⟩ := o; rfl

/-- how the flusher's registers relate to the marks, depending on where it is -/
def AlignT (s : Sys) (t : Thread) : Prop :=
  match t.pc with
  | .fSwapLast => ∃ m rest, s.marks = m :: rest ∧ t.tmpC = m % M ∧ s.last = (rest.head?.getD 0) % M
      ∧ s.outcomes.map (·.1) = deltasOf rest
  | .fSwapUpdates => ∃ m rest, s.marks = m :: rest ∧ s.last = m % M ∧ t.tmpDelta = (m - rest.head?.getD 0) % M
      ∧ s.outcomes.map (·.1) = deltasOf rest
  | _ => s.last = (s.marks.head?.getD 0) % M ∧ s.outcomes.map (·.1) = deltasOf s.marks

structure Inv (f : Nat) (s : Sys) : Prop where
  legacy_off : s.legacy = false
  cur : s.current = s.applied % M
  desc : Desc s.marks
  marks_le : (s.marks.head?.getD 0) ≤ s.applied
  others : ∀ (i : Nat) (t : Thread), i ≠ f → s.threads[i]? = some t →
      isFlushPC t.pc = false ∧ (∀ c ∈ t.calls, noFlush c = true)
  thr : ∀ (i : Nat) (t : Thread), s.threads[i]? = some t →
      isAbsPC t.pc = false ∧ (∀ c ∈ t.calls, isIncFlushCall c = true)
  align : ∀ t, s.threads[f]? = some t → AlignT s t
  align_none : s.threads[f]? = none → s.last = (s.marks.head?.getD 0) % M ∧ s.outcomes.map (·.1) = deltasOf s.marks
  idle_eq : s.idle = idleOf s.outcomes
  rule : Rule s.outcomes

theorem get_setAt_ne {l : List Thread} {tid i : Nat} {t' : Thread} (h : i ≠ tid) :
    (setAt l tid t')[i]? = l[i]? := by
  rw [getElem?_setAt, if_neg (fun x => h x.1.symm)]

theorem get_setAt_eq {l : List Thread} {tid : Nat} {t t' : Thread} (hg : l[tid]? = some t) :
    (setAt l tid t')[tid]? = some t' := by
  rw [getElem?_setAt, if_pos ⟨rfl, (List.getElem?_eq_some_iff.mp hg).1⟩]

theorem AlignT.congr {s s' : Sys} {t : Thread} (h : AlignT s t) (h1 : s'.marks = s.marks) (h2 : s'.last = s.last)
    (h3 : s'.outcomes = s.outcomes) : AlignT s' t := by
  unfold AlignT at h ⊢
  rw [h1, h2, h3]; exact h

theorem AlignT.plain {s : Sys} {t : Thread} (h1 : t.pc ≠ .fSwapLast) (h2 : t.pc ≠ .fSwapUpdates) :
    AlignT s t ↔ (s.last = (s.marks.head?.getD 0) % M ∧ s.outcomes.map (·.1) = deltasOf s.marks) := by
  unfold AlignT
  cases hp : t.pc <;> simp_all

theorem advance_pc (t : Thread) : t.advance.pc = startPC t.calls.tail := rfl
theorem advance_calls (t : Thread) : t.advance.calls = t.calls.tail := rfl

theorem startPC_not_mid (calls : List Call) : startPC calls ≠ .fSwapLast ∧ startPC calls ≠ .fSwapUpdates := by
  cases calls with
  | nil => simp [startPC]
  | cons c r => cases c <;> simp [startPC, pcOfCall]

/-- packaging: rebuild the invariant after thread `tid` stepped to `t'`, given the new shared state keeps or
    re-establishes each clause -/
theorem inv_after {f tid : Nat} {s s' : Sys} {t t' : Thread} (h : Inv f s) (hg : s.threads[tid]? = some t)
    (hth : s'.threads = s.threads) (hleg : s'.legacy = false)
    (hcur : s'.current = s'.applied % M) (hdesc : Desc s'.marks) (hml : (s'.marks.head?.getD 0) ≤ s'.applied)
    (hother : tid ≠ f → isFlushPC t'.pc = false ∧ (∀ c ∈ t'.calls, noFlush c = true))
    (hthr : isAbsPC t'.pc = false ∧ (∀ c ∈ t'.calls, isIncFlushCall c = true))
    (halign_self : tid = f → AlignT s' t')
    (halign_other : tid ≠ f → (s'.marks = s.marks ∧ s'.last = s.last ∧ s'.outcomes = s.outcomes))
    (hidle : s'.idle = idleOf s'.outcomes) (hrule : Rule s'.outcomes) :
    Inv f { s' with threads := setAt s'.threads tid t' } := by
  refine { legacy_off := hleg, cur := hcur, desc := hdesc, marks_le := hml, others := ?_, thr := ?_,
           align := ?_, align_none := ?_, idle_eq := hidle, rule := hrule }
  · intro i u hi hu
    simp only [hth] at hu
    by_cases e : i = tid
    · subst e; rw [get_setAt_eq hg] at hu; injection hu with hu; subst hu; exact hother hi
    · rw [get_setAt_ne e] at hu; exact h.others i u hi hu
  · intro i u hu
    simp only [hth] at hu
    by_cases e : i = tid
    · subst e; rw [get_setAt_eq hg] at hu; injection hu with hu; subst hu; exact hthr
    · rw [get_setAt_ne e] at hu; exact h.thr i u hu
  · intro u hu
    simp only [hth] at hu
    by_cases e : f = tid
    · subst e; rw [get_setAt_eq hg] at hu; injection hu with hu; subst hu
      exact (halign_self rfl).congr rfl rfl rfl
    · rw [get_setAt_ne e] at hu
      obtain ⟨a, b, c⟩ := halign_other (fun x => e x.symm)
      exact (h.align u hu).congr a b c
  · intro hn
    simp only [hth] at hn
    by_cases e : f = tid
    · subst e; rw [get_setAt_eq hg] at hn; cases hn
    · rw [get_setAt_ne e] at hn
      obtain ⟨a, b, c⟩ := halign_other (fun x => e x.symm)
      have := h.align_none hn
      simp only [a, b, c]; exact this

theorem step_inv (f : Nat) (s : Sys) (tid : Nat) (h : Inv f s) : Inv f (step s tid) := by
  unfold step
  cases hg : s.threads[tid]? with
  | none => exact h
  | some t =>
    simp only
    obtain ⟨hnabs, hcalls⟩ := h.thr tid t hg
    have htail : ∀ c ∈ t.calls.tail, isIncFlushCall c = true := fun c hc => hcalls c (List.mem_of_mem_tail hc)
    have hoth_tail : tid ≠ f → ∀ c ∈ t.calls.tail, noFlush c = true :=
      fun hne c hc => (h.others tid t hne hg).2 c (List.mem_of_mem_tail hc)
    -- facts about the thread after `advance`
    have adv_thr : isAbsPC t.advance.pc = false ∧ (∀ c ∈ t.advance.calls, isIncFlushCall c = true) :=
      ⟨by rw [advance_pc]; exact startPC_incflush _ htail, htail⟩
    have adv_other : tid ≠ f → isFlushPC t.advance.pc = false ∧ (∀ c ∈ t.advance.calls, noFlush c = true) :=
      fun hne => ⟨by rw [advance_pc]; exact startPC_noflush _ (hoth_tail hne), hoth_tail hne⟩
    -- a step that touches none of `marks`, `last`, `outcomes`, `idle` and leaves the thread outside a flush
    have plain : ∀ (a : Bool) (c ap u : Nat) (t' : Thread), c = ap % M → s.applied ≤ ap →
        t.pc ≠ .fSwapLast → t.pc ≠ .fSwapUpdates → t'.pc ≠ .fSwapLast ∧ t'.pc ≠ .fSwapUpdates →
        (tid ≠ f → isFlushPC t'.pc = false ∧ ∀ c ∈ t'.calls, noFlush c = true) →
        (isAbsPC t'.pc = false ∧ ∀ c ∈ t'.calls, isIncFlushCall c = true) →
        Inv f { s with isAbs := a, current := c, applied := ap, updates := u, threads := setAt s.threads tid t' } := by
      intro a c ap u t' hc hap h3 h4 h12 ho ht
      refine inv_after (s' := { s with isAbs := a, current := c, applied := ap, updates := u }) h hg rfl h.legacy_off hc
        h.desc (Nat.le_trans h.marks_le hap) ho ht ?_ (fun _ => ⟨rfl, rfl, rfl⟩) h.idle_eq h.rule
      intro e; subst e
      exact (AlignT.plain h12.1 h12.2).mpr ((AlignT.plain h3 h4).mp (h.align t hg))
    -- only the flusher is ever at a flush pc
    have flusher : isFlushPC t.pc = true → tid = f := fun hpc =>
      Decidable.byContradiction fun e => Bool.noConfusion ((h.others tid t e hg).1.symm.trans hpc)
    unfold stepThread
    cases hp : t.pc with
    | start =>
      exact plain s.isAbs s.current s.applied s.updates _ h.cur (Nat.le_refl _) (by simp [hp]) (by simp [hp])
        (startPC_not_mid t.calls)
        (fun hne => ⟨startPC_noflush _ (h.others tid t hne hg).2, (h.others tid t hne hg).2⟩)
        ⟨startPC_incflush _ hcalls, hcalls⟩
    | done => simp only; rw [setAt_same _ _ _ hg]; exact h
    | iStoreAbs =>
      exact plain false s.current s.applied s.updates _ h.cur (Nat.le_refl _) (by simp [hp]) (by simp [hp])
        ⟨by simp, by simp⟩ (fun hne => ⟨rfl, (h.others tid t hne hg).2⟩) ⟨rfl, hcalls⟩
    | iAddCurrent =>
      exact plain s.isAbs _ _ s.updates _ (by rw [h.cur, Nat.mod_add_mod]) (Nat.le_add_right ..) (by simp [hp])
        (by simp [hp]) ⟨by simp, by simp⟩ (fun hne => ⟨rfl, (h.others tid t hne hg).2⟩) ⟨rfl, hcalls⟩
    | iAddUpdates =>
      exact plain s.isAbs s.current s.applied _ _ h.cur (Nat.le_refl _) (by simp [hp]) (by simp [hp])
        (startPC_not_mid t.calls.tail) adv_other adv_thr
    | fLoadCurrent =>
      simp only
      have hf := flusher (by rw [hp]; rfl)
      have hal := (AlignT.plain (by simp [hp]) (by simp [hp])).mp (h.align t (hf ▸ hg))
      refine inv_after (s' := { s with marks := s.applied :: s.marks }) h hg rfl h.legacy_off h.cur ?_ ?_ ?_ ?_ ?_
        (fun hne => absurd hf hne) h.idle_eq h.rule
      · exact ⟨h.marks_le, h.desc⟩
      · show (s.applied :: s.marks).head?.getD 0 ≤ s.applied
        simp
      · intro hne; exact absurd hf hne
      · exact ⟨rfl, hcalls⟩
      · intro _
        show AlignT _ { t with tmpC := s.current, pc := PC.fSwapLast }
        unfold AlignT
        exact ⟨s.applied, s.marks, rfl, h.cur, hal.1, hal.2⟩
    | fSwapLast =>
      simp only
      have hf := flusher (by rw [hp]; rfl)
      have hal := h.align t (hf ▸ hg)
      unfold AlignT at hal
      rw [hp] at hal
      obtain ⟨m, rest, hm, hc, hl, ho⟩ := hal
      have hd := h.desc
      rw [hm] at hd
      refine inv_after (s' := { s with last := t.tmpC }) h hg rfl h.legacy_off h.cur h.desc h.marks_le ?_ ?_ ?_
        (fun hne => absurd hf hne) h.idle_eq h.rule
      · intro hne; exact absurd hf hne
      · exact ⟨rfl, hcalls⟩
      · intro _
        show AlignT _ { t with tmpDelta := (t.tmpC + M - s.last) % M, pc := PC.fSwapUpdates }
        unfold AlignT
        refine ⟨m, rest, hm, hc, ?_, ho⟩
        show (t.tmpC + M - s.last) % M = (m - rest.head?.getD 0) % M
        rw [hc, hl]; exact delta_arith m _ hd.1
    | fSwapUpdates =>
      simp only
      have hf := flusher (by rw [hp]; rfl)
      have hal := h.align t (hf ▸ hg)
      unfold AlignT at hal
      rw [hp] at hal
      obtain ⟨m, rest, hm, hl, hdl, ho⟩ := hal
      have hnm := startPC_not_mid t.calls.tail
      have hdec : decide s.legacy s.idle t.tmpDelta s.updates
          = (!(t.tmpDelta == 0 && s.idle), t.tmpDelta == 0) := by rw [h.legacy_off]; exact decide_fixed ..
      rw [hdec]
      simp only
      refine inv_after (s' := Sys.mk s.legacy s.isAbs s.last s.current 0 (t.tmpDelta == 0) s.applied s.marks
          ((t.tmpDelta, !(t.tmpDelta == 0 && s.idle)) :: s.outcomes) s.threads) h hg rfl h.legacy_off h.cur h.desc h.marks_le
        adv_other adv_thr ?_ (fun hne => absurd hf hne) rfl ?_
      · intro _
        refine (AlignT.plain (by rw [advance_pc]; exact hnm.1) (by rw [advance_pc]; exact hnm.2)).mpr ?_
        refine ⟨by show s.last = (s.marks.head?.getD 0) % M; rw [hm, hl]; rfl, ?_⟩
        show t.tmpDelta :: s.outcomes.map (·.1) = deltasOf s.marks
        rw [hm, ho, hdl]; rfl
      · show Rule ((t.tmpDelta, !(t.tmpDelta == 0 && s.idle)) :: s.outcomes)
        rw [h.idle_eq]; exact h.rule.push _
    | _ => rw [hp] at hnabs; cases hnabs

theorem run_inv (f : Nat) (sched : List Nat) : ∀ s, Inv f s → Inv f (run s sched) := by
  induction sched with
  | nil => intro s h; exact h
  | cons t ts ih => intro s h; exact ih _ (step_inv f s t h)

end MetricsVerif.StatsdAgg
