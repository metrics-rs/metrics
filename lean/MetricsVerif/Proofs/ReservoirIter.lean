/-
Helper lemmas for C16: the `Drain` iterator object (`DrainIt`) and the DogStatsD builder's sampling
configuration.  Property statements live in `Props/C16.lean`.
-/
import MetricsVerif.Proofs.Reservoir

namespace MetricsVerif.Reservoir

/-- well-formed `Drain`: `idx ≤ len ≤ number of slots` (what `Reservoir::drain` establishes and `next` keeps) -/
structure DrainIt.WF (d : DrainIt) : Prop where
  idx_le : d.idx ≤ d.len
  len_le : d.len ≤ d.slots.length

/-- `d'` is `d` further along: same slots, `len`, `unsampled_len`; the cursor did not move back -/
structure DrainIt.Later (d d' : DrainIt) : Prop where
  slots : d'.slots = d.slots
  len : d'.len = d.len
  unsampled : d'.unsampled = d.unsampled
  idx : d.idx ≤ d'.idx

/-- the values the object has not handed out yet -/
def DrainIt.rest (d : DrainIt) : List Nat := (d.slots.take d.len).drop d.idx

theorem DrainIt.Later.refl (d : DrainIt) : d.Later d := ⟨rfl, rfl, rfl, Nat.le_refl _⟩

theorem DrainIt.Later.trans {a b c : DrainIt} (h1 : a.Later b) (h2 : b.Later c) : a.Later c :=
  ⟨h2.slots.trans h1.slots, h2.len.trans h1.len, h2.unsampled.trans h1.unsampled, Nat.le_trans h1.idx h2.idx⟩

theorem drainIt_wf (r : Res) : r.drainIt.WF := by
  constructor
  · simp [Res.drainIt]
  · simp only [Res.drainIt]; split <;> omega

theorem drainIt_rest (r : Res) : r.drainIt.rest = r.drain.values := by
  simp [DrainIt.rest, Res.drainIt, Res.drain]

theorem next_some (d : DrainIt) (h : d.idx < d.len) :
    d.next = ({ d with idx := d.idx + 1 }, some (d.slots.getD d.idx 0)) := by
  simp [DrainIt.next, h]

theorem next_none (d : DrainIt) (h : ¬ d.idx < d.len) : d.next = (d, none) := by
  simp [DrainIt.next, h]

theorem rest_cons (d : DrainIt) (w : d.WF) (h : d.idx < d.len) :
    d.rest = d.slots.getD d.idx 0 :: ({ d with idx := d.idx + 1 } : DrainIt).rest := by
  have hs : d.idx < d.slots.length := Nat.lt_of_lt_of_le h w.len_le
  have hlt : d.idx < (d.slots.take d.len).length := by
    rw [List.length_take, Nat.min_eq_left w.len_le]; exact h
  simp only [DrainIt.rest]
  rw [List.drop_eq_getElem_cons hlt, List.getElem_take, List.getD_eq_getElem?_getD, List.getElem?_eq_getElem hs]
  rfl

theorem rest_nil (d : DrainIt) (h : ¬ d.idx < d.len) : d.rest = [] :=
  List.drop_eq_nil_of_le (by rw [List.length_take]; exact Nat.le_trans (Nat.min_le_left _ _) (Nat.le_of_not_lt h))

theorem rest_length (d : DrainIt) (w : d.WF) : d.rest.length = d.remaining := by
  simp only [DrainIt.rest, DrainIt.remaining, List.length_drop, List.length_take, Nat.min_eq_left w.len_le]

/-- a well-formed `Drain` that yields nothing more has its cursor at `len` -/
theorem at_end (d : DrainIt) (w : d.WF) (h : ¬ d.idx < d.len) : ({ d with idx := d.len } : DrainIt) = d := by
  obtain ⟨s, u, l, i⟩ := d
  have : l = i := Nat.le_antisymm (Nat.le_of_not_lt h) w.idx_le
  subst this
  rfl

theorem rest_sublist {d d' : DrainIt} (h : d.Later d') : d'.rest.Sublist d.rest := by
  simp only [DrainIt.rest, h.slots, h.len]
  exact List.drop_sublist_drop_left _ h.idx

theorem wf_succ (d : DrainIt) (w : d.WF) (h : d.idx < d.len) : ({ d with idx := d.idx + 1 } : DrainIt).WF :=
  ⟨Nat.succ_le_of_lt h, w.len_le⟩

/-- reading from `d` left the iterator `r.1` and handed out the values `r.2`: the iterator is still well-formed and
    further along the same drain, and what was handed out followed by what is still to come is a sublist of what
    was still to come before -/
structure DrainIt.Reads (d : DrainIt) (r : DrainIt × List Nat) : Prop where
  wf : r.1.WF
  later : d.Later r.1
  sub : (r.2 ++ r.1.rest).Sublist d.rest

theorem DrainIt.Reads.refl (d : DrainIt) (w : d.WF) : d.Reads (d, []) := ⟨w, .refl d, List.Sublist.refl _⟩

theorem DrainIt.Reads.trans {a b c : DrainIt} {vs ws : List Nat} (h1 : a.Reads (b, vs)) (h2 : b.Reads (c, ws)) :
    a.Reads (c, vs ++ ws) :=
  ⟨h2.wf, h1.later.trans h2.later, by
    rw [List.append_assoc]; exact (List.Sublist.append_left h2.sub _).trans h1.sub⟩

/-- the values read may be thrown away (`advance_by`) -/
theorem DrainIt.Reads.drop {a b : DrainIt} {vs : List Nat} (h : a.Reads (b, vs)) : a.Reads (b, []) :=
  ⟨h.wf, h.later, rest_sublist h.later⟩

theorem next_reads (d : DrainIt) (w : d.WF) : d.Reads (d.stepIt .next) := by
  by_cases h : d.idx < d.len
  · simp only [DrainIt.stepIt, next_some d h]
    exact ⟨wf_succ d w h, ⟨rfl, rfl, rfl, Nat.le_succ _⟩, by rw [rest_cons d w h]; exact .refl _⟩
  · simp only [DrainIt.stepIt, next_none d h]
    exact .refl d w

theorem advance_reads (k : Nat) (d : DrainIt) (w : d.WF) : d.Reads (d.advance k, []) := by
  induction k generalizing d with
  | zero => exact .refl d w
  | succ k ih =>
    have hn := next_reads d w
    by_cases h : d.idx < d.len
    · simp only [DrainIt.stepIt, next_some d h] at hn
      simp only [DrainIt.advance, next_some d h]
      exact hn.drop.trans (ih _ hn.wf)
    · simp only [DrainIt.advance, next_none d h]
      exact .refl d w

/-- the `while let Some(v) = next()` loop with enough fuel yields exactly the values not handed out yet and leaves
    the iterator exhausted -/
theorem pull_spec (f : Nat) (d : DrainIt) (w : d.WF) (hf : d.remaining ≤ f) :
    DrainIt.pull f d = ({ d with idx := d.len }, d.rest) := by
  induction f generalizing d with
  | zero =>
    have hn : ¬ d.idx < d.len := fun h => Nat.sub_ne_zero_of_lt h (Nat.le_zero.mp hf)
    rw [DrainIt.pull, rest_nil d hn, at_end d w hn]
  | succ f ih =>
    by_cases h : d.idx < d.len
    · have hr : ({ d with idx := d.idx + 1 } : DrainIt).remaining ≤ f := by
        simp only [DrainIt.remaining] at hf ⊢; omega
      simp only [DrainIt.pull, next_some d h, ih _ (wf_succ d w h) hr, rest_cons d w h]
    · simp only [DrainIt.pull, next_none d h, rest_nil d h, at_end d w h]

theorem pullAll_spec (d : DrainIt) (w : d.WF) : d.pullAll = ({ d with idx := d.len }, d.rest) :=
  pull_spec _ d w (Nat.le_succ _)

theorem stepIt_reads (d : DrainIt) (w : d.WF) (op : ItOp) : d.Reads (d.stepIt op) := by
  cases op with
  | next => exact next_reads d w
  | nth k => exact (advance_reads k d w).trans (next_reads _ (advance_reads k d w).wf)
  | len => exact .refl d w
  | rate => exact .refl d w
  | collect =>
    rw [DrainIt.stepIt, pullAll_spec d w]
    exact ⟨⟨Nat.le_refl _, w.len_le⟩, ⟨rfl, rfl, rfl, w.idx_le⟩, by
      rw [rest_nil { d with idx := d.len } (Nat.lt_irrefl _), List.append_nil]; exact .refl _⟩

theorem runIt_reads (ops : List ItOp) (d : DrainIt) (w : d.WF) : d.Reads (d.runIt ops) := by
  induction ops generalizing d with
  | nil => exact .refl d w
  | cons op ops ih =>
    have hs := stepIt_reads d w op
    exact hs.trans (ih _ hs.wf)

theorem configure_fold (ops : List BOp) (b : Builder) :
    (ops.foldl Builder.apply b).sampling = ((lastSampling ops).getD b.sampling)
    ∧ (ops.foldl Builder.apply b).size = ((lastSize ops).getD b.size) := by
  induction ops generalizing b with
  | nil => exact ⟨rfl, rfl⟩
  | cons op ops ih =>
    obtain ⟨h1, h2⟩ := ih (b.apply op)
    rw [List.foldl_cons, h1, h2]
    cases op with
    | sampling x =>
      simp only [lastSampling, lastSize]
      cases lastSampling ops <;> exact ⟨rfl, rfl⟩
    | size n =>
      simp only [lastSampling, lastSize]
      cases lastSize ops <;> exact ⟨rfl, rfl⟩

end MetricsVerif.Reservoir
