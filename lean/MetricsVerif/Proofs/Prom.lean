/-
Lemmas about the sequential recorder model (`Model/Prom.lean`) for C07: the association lists (`lookup` after
`upsert`), count and sum of a distribution through `record` and the drain loop, and the accounting invariant of
`step` (stored + pending = recorded, per series).  Two lemmas about folds that C07 uses are at the end.
-/
import MetricsVerif.Model.Prom

namespace MetricsVerif.Prom
open MetricsVerif.PromFmt MetricsVerif.PromRender

section assoc
variable {κ α : Type} [DecidableEq κ]

@[simp] theorem lookup_nil (k : κ) : lookup ([] : List (κ × α)) k = none := rfl

/-- `lookup_upsert` with the test written `k = k'`, as `lookup` makes it (stored key first), and the looked-up key in the
    result: the form the per-key specifications of C07 are written in -/
theorem lookup_upsert_comm (m : List (κ × α)) (k k' : κ) (d : α) (f : α → α) :
    lookup (upsert m k d f) k' = if k = k' then some (f ((lookup m k').getD d)) else lookup m k' := by
  induction m with
  | nil => rfl
  | cons x xs ih =>
    obtain ⟨kx, ax⟩ := x
    by_cases hx : kx = k
    · subst hx
      by_cases h : kx = k' <;> simp only [upsert, lookup, if_true, h, if_false, Option.getD_some]
    · by_cases h : kx = k'
      · subst h; simp only [upsert, lookup, if_true, hx, if_false, Ne.symm hx]
      · simp only [upsert, lookup, hx, h, if_false, ih]

theorem lookup_upsert (m : List (κ × α)) (k k' : κ) (d : α) (f : α → α) :
    lookup (upsert m k d f) k' = if k' = k then some (f ((lookup m k).getD d)) else lookup m k' := by
  rw [lookup_upsert_comm]
  by_cases h : k = k'
  · rw [if_pos h, if_pos h.symm, h]
  · rw [if_neg h, if_neg (Ne.symm h)]

theorem lookup_upsert_self (m : List (κ × α)) (k : κ) (d : α) (f : α → α) :
    lookup (upsert m k d f) k = some (f ((lookup m k).getD d)) := by
  simp [lookup_upsert]

theorem lookup_upsert_ne (m : List (κ × α)) (k k' : κ) (d : α) (f : α → α) (h : k' ≠ k) :
    lookup (upsert m k d f) k' = lookup m k' := by
  simp [lookup_upsert, h]

theorem upsert_of_lookup_none (m : List (κ × α)) (k : κ) (d : α) (f : α → α) (h : lookup m k = none) :
    upsert m k d f = m ++ [(k, f d)] := by
  induction m with
  | nil => rfl
  | cons x xs ih =>
    obtain ⟨kx, ax⟩ := x
    simp only [lookup] at h
    by_cases hx : kx = k
    · simp [hx] at h
    · rw [if_neg hx] at h
      simp [upsert, hx, ih h]

theorem upsert_id {m : List (κ × α)} {k : κ} {a : α} (d : α) {f : α → α} (h : lookup m k = some a)
    (hf : f a = a) : upsert m k d f = m := by
  induction m with
  | nil => cases h
  | cons x xs ih =>
    obtain ⟨kx, ax⟩ := x
    rw [lookup] at h
    rw [upsert]
    split at h
    · cases h; rw [if_pos ‹_›, hf]
    · rw [if_neg ‹_›, ih h]

theorem upsert_upsert (m : List (κ × α)) (k : κ) (d : α) (f g : α → α) :
    upsert (upsert m k d f) k d g = upsert m k d (fun a => g (f a)) := by
  induction m with
  | nil => simp [upsert]
  | cons x xs ih =>
    obtain ⟨kx, ax⟩ := x
    simp only [upsert]
    by_cases hx : kx = k
    · simp [hx, upsert]
    · simp [hx, upsert, ih]

theorem lookup_some_mem (m : List (κ × α)) (k : κ) (a : α) (h : lookup m k = some a) : (k, a) ∈ m := by
  induction m with
  | nil => cases h
  | cons x xs ih =>
    obtain ⟨kx, ax⟩ := x
    rw [lookup] at h
    split at h
    · cases h; subst_vars; exact List.mem_cons_self ..
    · exact List.mem_cons_of_mem _ (ih h)

end assoc

theorem imInsert_eq_upsert (m : List (Str × Str)) (k v : Str) : imInsert m k v = upsert m k v (fun _ => v) := by
  induction m with
  | nil => rfl
  | cons x xs ih => obtain ⟨kx, vx⟩ := x; simp only [imInsert, upsert, ih]

/-! Count and sum of a distribution, the two figures a render shows, are carried together through every lemma. -/

def Dist.count : Dist → Nat
  | .hist _ _ c _ => c
  | .summ c _ => c
def Dist.sum : Dist → Int
  | .hist _ _ _ s => s
  | .summ _ s => s

theorem Dist.record_stats (d : Dist) (v : Int) :
    (d.record v).count = d.count + 1 ∧ (d.record v).sum = d.sum + v := by
  cases d <;> exact ⟨rfl, rfl⟩

theorem Dist.recordMany_stats (vs : List Int) (d : Dist) :
    (d.recordMany vs).count = d.count + vs.length ∧ (d.recordMany vs).sum = d.sum + vs.sum := by
  induction vs generalizing d with
  | nil => simp [Dist.recordMany]
  | cons v vs ih =>
    have h1 := ih (d.record v)
    have h2 := d.record_stats v
    simp only [Dist.recordMany, List.foldl_cons, List.length_cons, List.sum_cons] at h1 ⊢
    exact ⟨by rw [h1.1, h2.1, Nat.add_assoc, Nat.add_comm 1], by rw [h1.2, h2.2, Int.add_assoc]⟩

theorem Dist.recordMany_nil (d : Dist) : d.recordMany [] = d := rfl

theorem newDist_stats (cfg : Cfg) (n : Str) : (newDist cfg n).count = 0 ∧ (newDist cfg n).sum = 0 := by
  unfold newDist; split
  · exact ⟨rfl, rfl⟩
  · split <;> exact ⟨rfl, rfl⟩

abbrev Parts := Str × List Str

/-- the series a key is rendered as: sanitised name and formatted (merged) labels -/
def partsOf (cfg : Cfg) (k : MKey) : Parts := keyToParts k.name k.labels cfg.globals

def getDist (ds : List (Str × List (List Str × Dist))) (p : Parts) : Option Dist :=
  (lookup ds p.1).bind (fun m => lookup m p.2)

def dCount (o : Option Dist) : Nat := (o.map Dist.count).getD 0
def dSum (o : Option Dist) : Int := (o.map Dist.sum).getD 0

def pendCount (cfg : Cfg) (hs : List (MKey × List Int)) (p : Parts) : Nat :=
  (hs.map (fun kh => if partsOf cfg kh.1 = p then kh.2.length else 0)).sum
def pendSum (cfg : Cfg) (hs : List (MKey × List Int)) (p : Parts) : Int :=
  (hs.map (fun kh => if partsOf cfg kh.1 = p then kh.2.sum else 0)).sum

def opCount (cfg : Cfg) (p : Parts) : Op → Nat
  | .hrec k _ => if partsOf cfg k = p then 1 else 0
  | .hrecMany k _ n => if partsOf cfg k = p then n else 0
  | _ => 0
def opSum (cfg : Cfg) (p : Parts) : Op → Int
  | .hrec k v => if partsOf cfg k = p then v else 0
  | .hrecMany k v n => if partsOf cfg k = p then (n : Int) * v else 0
  | _ => 0

theorem getDist_some_mem {ds : List (Str × List (List Str × Dist))} {p : Parts} {d : Dist}
    (h : getDist ds p = some d) : ∃ m, (p.1, m) ∈ ds ∧ (p.2, d) ∈ m := by
  unfold getDist at h
  cases hm : lookup ds p.1 with
  | none => simp [hm] at h
  | some m => rw [hm] at h; exact ⟨m, lookup_some_mem _ _ _ hm, lookup_some_mem _ _ _ h⟩

/-- one iteration of the loop in `drain_histograms_to_distributions` -/
def drainOne (cfg : Cfg) (ds : List (Str × List (List Str × Dist))) (kh : MKey × List Int) :=
  let (name, labels) := keyToParts kh.1.name kh.1.labels cfg.globals
  upsert ds name [] (fun byLabels => upsert byLabels labels (newDist cfg name) (fun d => d.recordMany kh.2))

theorem drain_dists (s : St) : (drain s).dists = s.hists.foldl (drainOne s.cfg) s.dists := rfl
theorem drain_hists (s : St) : (drain s).hists = s.hists.map (fun kh => (kh.1, [])) := rfl
theorem drain_cfg (s : St) : (drain s).cfg = s.cfg := rfl

theorem getDist_drainOne (cfg : Cfg) (ds) (kh : MKey × List Int) (p : Parts) :
    getDist (drainOne cfg ds kh) p
      = if p = partsOf cfg kh.1 then some (((getDist ds p).getD (newDist cfg p.1)).recordMany kh.2) else getDist ds p := by
  unfold drainOne partsOf
  generalize keyToParts kh.1.name kh.1.labels cfg.globals = np
  obtain ⟨n, l⟩ := np
  obtain ⟨n', l'⟩ := p
  simp only [getDist, lookup_upsert, Prod.mk.injEq]
  by_cases hn : n' = n
  · subst hn
    by_cases hl : l' = l
    · subst hl; cases lookup ds n' <;> simp [lookup_upsert]
    · cases lookup ds n' <;> simp [lookup_upsert, hl]
  · simp [hn]

theorem drainOne_stats (cfg : Cfg) (ds) (kh : MKey × List Int) (p : Parts) :
    dCount (getDist (drainOne cfg ds kh) p)
      = dCount (getDist ds p) + (if partsOf cfg kh.1 = p then kh.2.length else 0)
    ∧ dSum (getDist (drainOne cfg ds kh) p)
      = dSum (getDist ds p) + (if partsOf cfg kh.1 = p then kh.2.sum else 0) := by
  rw [getDist_drainOne]
  by_cases h : p = partsOf cfg kh.1
  · have hn := newDist_stats cfg p.1
    cases hg : getDist ds p <;>
      simp [h.symm, dCount, dSum, Dist.recordMany_stats, hn.1, hn.2]
  · simp [h, Ne.symm h]

theorem drainFold_stats (cfg : Cfg) (hs : List (MKey × List Int)) (p : Parts) (ds) :
    dCount (getDist (hs.foldl (drainOne cfg) ds) p) = dCount (getDist ds p) + pendCount cfg hs p
    ∧ dSum (getDist (hs.foldl (drainOne cfg) ds) p) = dSum (getDist ds p) + pendSum cfg hs p := by
  induction hs generalizing ds with
  | nil => simp [pendCount, pendSum]
  | cons kh rest ih =>
    have h1 := ih (drainOne cfg ds kh)
    have h2 := drainOne_stats cfg ds kh p
    simp only [List.foldl_cons, pendCount, pendSum, List.map_cons, List.sum_cons] at h1 ⊢
    exact ⟨by rw [h1.1, h2.1, Nat.add_assoc], by rw [h1.2, h2.2, Int.add_assoc]⟩

theorem pend_drained (cfg : Cfg) (hs : List (MKey × List Int)) (p : Parts) :
    pendCount cfg (hs.map (fun kh => (kh.1, ([] : List Int)))) p = 0
    ∧ pendSum cfg (hs.map (fun kh => (kh.1, ([] : List Int)))) p = 0 := by
  induction hs with
  | nil => exact ⟨rfl, rfl⟩
  | cons kh rest ih =>
    simpa only [pendCount, pendSum, List.map_cons, List.sum_cons, List.length_nil, List.sum_nil, ite_self,
      Nat.zero_add, Int.zero_add] using ih

theorem pend_upsert_app (cfg : Cfg) (hs : List (MKey × List Int)) (k : MKey) (vs : List Int) (p : Parts) :
    pendCount cfg (upsert hs k [] (fun q => q ++ vs)) p
      = pendCount cfg hs p + (if partsOf cfg k = p then vs.length else 0)
    ∧ pendSum cfg (upsert hs k [] (fun q => q ++ vs)) p
      = pendSum cfg hs p + (if partsOf cfg k = p then vs.sum else 0) := by
  induction hs with
  | nil => simp [upsert, pendCount, pendSum]
  | cons x xs ih =>
    obtain ⟨kx, px⟩ := x
    simp only [upsert]
    by_cases hx : kx = k
    · subst hx
      simp only [if_true, pendCount, pendSum, List.map_cons, List.sum_cons, List.length_append, List.sum_append]
      split
      · exact ⟨Nat.add_right_comm .., Int.add_right_comm ..⟩
      · exact ⟨(Nat.add_zero _).symm, (Int.add_zero _).symm⟩
    · simp only [hx, if_false, pendCount, pendSum, List.map_cons, List.sum_cons] at ih ⊢
      exact ⟨by rw [ih.1, Nat.add_assoc], by rw [ih.2, Int.add_assoc]⟩

theorem step_cfg (s : St) (op : Op) : (step s op).cfg = s.cfg := by
  cases op <;> simp only [step] <;> try rfl
  split <;> rfl

theorem step_stats (s : St) (op : Op) (p : Parts) :
    dCount (getDist (step s op).dists p) + pendCount s.cfg (step s op).hists p
      = dCount (getDist s.dists p) + pendCount s.cfg s.hists p + opCount s.cfg p op
    ∧ dSum (getDist (step s op).dists p) + pendSum s.cfg (step s op).hists p
      = dSum (getDist s.dists p) + pendSum s.cfg s.hists p + opSum s.cfg p op := by
  cases op with
  | describe n u d => simp only [step, opCount, opSum]; split <;> simp
  | cinc k n | cabs k n | gset k v | gadd k n => simp [step, opCount, opSum]
  | hrec k v =>
    have := pend_upsert_app s.cfg s.hists k [v] p
    simp only [List.length_singleton, List.sum_singleton] at this
    exact ⟨by simp only [step, opCount, this.1, Nat.add_assoc], by simp only [step, opSum, this.2, Int.add_assoc]⟩
  | hrecMany k v n =>
    have := pend_upsert_app s.cfg s.hists k (List.replicate n v) p
    simp only [List.length_replicate, List.sum_replicate_int] at this
    exact ⟨by simp only [step, opCount, this.1, Nat.add_assoc], by simp only [step, opSum, this.2, Int.add_assoc]⟩
  | upkeep =>
    have h1 := drainFold_stats s.cfg s.hists p s.dists
    have h2 := pend_drained s.cfg s.hists p
    exact ⟨by simp only [step, opCount, drain_dists, drain_hists, h1.1, h2.1],
      by simp only [step, opSum, drain_dists, drain_hists, h1.2, h2.2]⟩

def run (s : St) (ops : List Op) : St := ops.foldl step s

theorem run_cfg (ops : List Op) : ∀ s, (run s ops).cfg = s.cfg := by
  induction ops with
  | nil => intro s; rfl
  | cons op ops ih => intro s; simp only [run, List.foldl_cons] at ih ⊢; rw [ih, step_cfg]

theorem run_stats (ops : List Op) (s : St) (p : Parts) :
    dCount (getDist (run s ops).dists p) + pendCount s.cfg (run s ops).hists p
      = dCount (getDist s.dists p) + pendCount s.cfg s.hists p + (ops.map (opCount s.cfg p)).sum
    ∧ dSum (getDist (run s ops).dists p) + pendSum s.cfg (run s ops).hists p
      = dSum (getDist s.dists p) + pendSum s.cfg s.hists p + (ops.map (opSum s.cfg p)).sum := by
  induction ops generalizing s with
  | nil => simp [run]
  | cons op ops ih =>
    have h1 := step_stats s op p
    have h2 := ih (step s op)
    rw [step_cfg] at h2
    simp only [run, List.foldl_cons, List.map_cons, List.sum_cons] at h2 ⊢
    exact ⟨by rw [h2.1, h1.1, Nat.add_assoc], by rw [h2.2, h1.2, Int.add_assoc]⟩

theorem foldl_reaches {α β : Type} (P : β → Prop) (f : β → α → β) (a : α) (hadd : ∀ b, P (f b a))
    (hkeep : ∀ b x, P b → P (f b x)) : ∀ (l : List α) (b : β), a ∈ l ∨ P b → P (l.foldl f b) := by
  intro l
  induction l with
  | nil => intro b h; exact h.elim (fun h => nomatch h) id
  | cons x rest ih =>
    intro b h
    refine ih _ (h.elim (fun h => ?_) fun h => Or.inr (hkeep b x h))
    rcases List.mem_cons.1 h with rfl | h
    · exact Or.inr (hadd b)
    · exact Or.inl h

theorem run_fold {β : Type} (proj : St → β) (spec : β → Op → β) (h : ∀ s op, proj (step s op) = spec (proj s) op)
    (ops : List Op) : ∀ s, proj (run s ops) = ops.foldl spec (proj s) := by
  induction ops with
  | nil => intro s; rfl
  | cons op ops ih => intro s; simp only [run, List.foldl_cons] at ih ⊢; rw [ih, h]

end MetricsVerif.Prom
