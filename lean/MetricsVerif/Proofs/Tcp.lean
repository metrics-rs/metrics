/-
Lemmas about `Model/Tcp.lean` for C11 (the property's theorems are in `Props/C11.lean`): the per-client predicates of
the invariant and what `takeBuf`, `drive`, `enqueue` and the gate counters do to them.  Everything about `drive` goes
by its functional induction (nine cases, listed before `drive_framed`): framing through `InHand` (`drive_framed`),
the queue side through the relation `Moved` (`drive_moved`).
-/
import MetricsVerif.Model.Tcp

namespace MetricsVerif.Tcp

theorem flat_append (a b : List Frame) : flat (a ++ b) = flat a ++ flat b := by
  induction a with
  | nil => rfl
  | cons f fs ih => rw [List.cons_append, flat, flat, ih, List.append_assoc]

theorem flat_singleton (f : Frame) : flat [f] = f.bytes := List.append_nil _

/-- `rem` is nothing, or the tail of the last frame that was started -/
def TailOfLast (rem : List UInt8) (started : List Frame) : Prop :=
  rem = [] ∨ ∃ pre f p, started = pre ++ [f] ∧ p ++ rem = f.bytes

/-- what the socket accepted, followed by what is parked in `wbuf`, is exactly the frames started so far -/
def FramedW (cl : Client) : Prop :=
  cl.received ++ cl.wbuf.getD [] = flat cl.started ∧ TailOfLast (cl.wbuf.getD []) cl.started

/-- what the socket accepted is the frames started so far minus (at most) a tail of the last one -/
def FramedAny (cl : Client) : Prop :=
  ∃ rem, cl.received ++ rem = flat cl.started ∧ TailOfLast rem cl.started

/-- the queue is a suffix of everything ever enqueued; what was started is, in order, part of the rest -/
def Ordered (cl : Client) : Prop :=
  ∃ pre, cl.sent = pre ++ cl.msgs ∧ cl.started.Sublist pre

/-- as long as nothing was discarded, every enqueued frame has been started or is still queued -/
def NoLoss (cl : Client) : Prop :=
  cl.dropped = 0 → cl.sent = cl.started ++ cl.msgs

def MetaFirst (cl : Client) : Prop := cl.atConnect <+: cl.sent

theorem FramedW.any {cl : Client} (h : FramedW cl) : FramedAny cl := ⟨_, h.1, h.2⟩

theorem takeBuf_some {cl cl' : Client} {buf : List UInt8} (h : takeBuf cl = some (buf, cl')) :
    (cl.wbuf = some buf ∧ cl' = { cl with wbuf := none }) ∨
    (cl.wbuf = none ∧ ∃ f rest, cl.msgs = f :: rest ∧ buf = f.bytes ∧
      cl' = { cl with msgs := rest, started := cl.started ++ [f] }) := by
  unfold takeBuf at h
  split at h
  · rename_i b hw
    cases h
    exact Or.inl ⟨hw, rfl⟩
  · rename_i hw
    split at h
    · cases h
    · rename_i f rest hm
      cases h
      exact Or.inr ⟨hw, f, rest, hm, rfl, rfl⟩

theorem takeBuf_none {cl : Client} (h : takeBuf cl = none) : cl.wbuf = none ∧ cl.msgs = [] := by
  unfold takeBuf at h
  split at h
  · cases h
  · rename_i hw
    split at h
    · rename_i hm; exact ⟨hw, hm⟩
    · cases h

theorem takeBuf_wbuf {cl cl' : Client} {buf : List UInt8} (h : takeBuf cl = some (buf, cl')) : cl'.wbuf = none := by
  rcases takeBuf_some h with ⟨_, rfl⟩ | ⟨hw, _, _, _, _, rfl⟩
  · rfl
  · exact hw

theorem takeBuf_putBack {cl cl' : Client} {buf : List UInt8} (h : takeBuf cl = some (buf, cl')) :
    takeBuf { cl' with wbuf := some buf } = some (buf, cl') := by
  have hw := takeBuf_wbuf h
  unfold takeBuf
  exact congrArg (fun w => some (buf, { cl' with wbuf := w })) hw.symm

theorem onBlock_fixed {fx : Fixes} (hfx : fx.block = true) (buf : List UInt8) (cl : Client) :
    onBlock fx buf cl = { cl with wbuf := some buf } := if_pos hfx

@[simp] theorem push_cl (n : Nat) (o : DriveOut) : (o.push n).cl = o.cl := rfl
@[simp] theorem push_done (n : Nat) (o : DriveOut) : (o.push n).done = o.done := rfl
@[simp] theorem push_attempts (n : Nat) (o : DriveOut) : (o.push n).attempts = n :: o.attempts := rfl
@[simp] theorem push_rest (n : Nat) (o : DriveOut) : (o.push n).rest = o.rest := rfl
@[simp] theorem push_starved (n : Nat) (o : DriveOut) : (o.push n).starved = o.starved := rfl

/-- the buffer taken out of `wbuf`/`msgs`, not yet handed back -/
def InHand (buf : List UInt8) (cl : Client) : Prop :=
  cl.wbuf = none ∧ cl.received ++ buf = flat cl.started ∧ TailOfLast buf cl.started

theorem takeBuf_inHand {cl cl' : Client} {buf : List UInt8} (hF : FramedW cl)
    (h : takeBuf cl = some (buf, cl')) : InHand buf cl' := by
  obtain ⟨h1, h2⟩ := hF
  rcases takeBuf_some h with ⟨hw, rfl⟩ | ⟨hw, f, rest, hm, rfl, rfl⟩
  · rw [hw] at h1 h2
    exact ⟨rfl, h1, h2⟩
  · rw [hw, Option.getD_none, List.append_nil] at h1
    refine ⟨hw, ?_, Or.inr ⟨cl.started, f, [], rfl, rfl⟩⟩
    show cl.received ++ f.bytes = flat (cl.started ++ [f])
    rw [flat_append, flat_singleton, h1]

theorem tailOfLast_drop {buf : List UInt8} {st : List Frame} (n : Nat) (h : TailOfLast buf st) :
    TailOfLast (buf.drop n) st := by
  rcases h with rfl | ⟨pre, f, p, hs, hb⟩
  · exact Or.inl List.drop_nil
  · exact Or.inr ⟨pre, f, p ++ buf.take n, hs, by rw [List.append_assoc, List.take_append_drop, hb]⟩

theorem InHand.park {buf : List UInt8} {cl : Client} (h : InHand buf cl) : FramedW { cl with wbuf := some buf } :=
  ⟨h.2.1, h.2.2⟩

theorem InHand.short {buf : List UInt8} {cl : Client} (h : InHand buf cl) (n : Nat) :
    FramedW { cl with wbuf := some (buf.drop n), received := cl.received ++ buf.take n } :=
  ⟨by show cl.received ++ buf.take n ++ buf.drop n = _; rw [List.append_assoc, List.take_append_drop, h.2.1],
    tailOfLast_drop n h.2.2⟩

theorem InHand.whole {buf : List UInt8} {cl : Client} (h : InHand buf cl) :
    FramedW { cl with received := cl.received ++ buf } :=
  ⟨by show cl.received ++ buf ++ cl.wbuf.getD [] = _; rw [h.1, ← h.2.1]; exact List.append_nil _,
    by show TailOfLast (cl.wbuf.getD []) _; rw [h.1]; exact Or.inl rfl⟩

theorem InHand.any {buf : List UInt8} {cl : Client} (h : InHand buf cl) : FramedAny cl := ⟨buf, h.2.1, h.2.2⟩

/- The cases of `fun_induction drive`, in the order of the model's arms (used by every induction over `drive` below):
     case1  no write result left, nothing to write (`takeBuf = none`)
     case2  no write result left, a buffer in hand: `onBlock` (the buffer is parked in `wbuf`), `starved`
     case3  a write result left, nothing to write
     case4  `Ok(0)`: the client closed, `done`
     case5  `Ok(n)`, `0 < n < buf.len()`: short write, the rest parked in `wbuf`
     case6  `Ok(n)`, `n ≥ buf.len()`: whole write, the loop continues (induction hypothesis)
     case7  `WouldBlock`: `onBlock`
     case8  `Interrupted`: `onBlock` and retried (induction hypothesis)
     case9  any other `Err`: `done` -/

theorem drive_framed (fx : Fixes) (hfx : fx.block = true) (rs : List WriteResult) (cl : Client)
    (h : FramedW cl) :
    ((drive fx cl rs).done = false → FramedW (drive fx cl rs).cl) ∧ FramedAny (drive fx cl rs).cl := by
  fun_induction drive fx cl rs with
  | case1 | case3 => exact ⟨fun _ => h, h.any⟩
  | case2 cl buf cl' ht | case7 cl rs buf cl' ht =>
    rw [onBlock_fixed hfx]
    exact ⟨fun _ => (takeBuf_inHand h ht).park, (takeBuf_inHand h ht).park.any⟩
  | case4 cl rs buf cl' ht | case9 cl rs buf cl' ht => exact ⟨fun hd => Bool.noConfusion hd, (takeBuf_inHand h ht).any⟩
  | case5 cl rs buf cl' ht n => exact ⟨fun _ => (takeBuf_inHand h ht).short n, ((takeBuf_inHand h ht).short n).any⟩
  | case6 cl rs buf cl' ht n _ _ ih => exact ih (takeBuf_inHand h ht).whole
  | case8 cl rs buf cl' ht ih => exact ih (onBlock_fixed hfx .. ▸ (takeBuf_inHand h ht).park)

/-- `b` is `a` after some frames went from the front of the queue to `started`; `wbuf` and `received` are free -/
def Moved (a b : Client) : Prop :=
  ∃ k, b.msgs = a.msgs.drop k ∧ b.started = a.started ++ a.msgs.take k ∧ b.sent = a.sent ∧
    b.dropped = a.dropped ∧ b.atConnect = a.atConnect ∧ b.alive = a.alive

theorem Moved.refl (a : Client) : Moved a a := ⟨0, rfl, (List.append_nil _).symm, rfl, rfl, rfl, rfl⟩

theorem Moved.trans {a b c : Client} (h1 : Moved a b) (h2 : Moved b c) : Moved a c := by
  obtain ⟨k1, m1, s1, e1, d1, c1, a1⟩ := h1
  obtain ⟨k2, m2, s2, e2, d2, c2, a2⟩ := h2
  refine ⟨k1 + k2, ?_, ?_, e2.trans e1, d2.trans d1, c2.trans c1, a2.trans a1⟩
  · rw [m2, m1, List.drop_drop]
  · rw [s2, s1, m1, List.take_add, List.append_assoc]

theorem takeBuf_moved {cl cl' : Client} {buf : List UInt8} (h : takeBuf cl = some (buf, cl')) : Moved cl cl' := by
  rcases takeBuf_some h with ⟨_, rfl⟩ | ⟨_, f, rest, hm, _, rfl⟩
  · exact Moved.refl cl
  · exact ⟨1, by rw [hm]; rfl, by rw [hm]; rfl, rfl, rfl, rfl, rfl⟩

theorem onBlock_moved (fx : Fixes) (buf : List UInt8) (cl : Client) : Moved cl (onBlock fx buf cl) := by
  unfold onBlock; split <;> exact Moved.refl cl

theorem drive_moved (fx : Fixes) (cl : Client) (rs : List WriteResult) : Moved cl (drive fx cl rs).cl := by
  fun_induction drive fx cl rs with
  | case1 | case3 => exact Moved.refl _
  | case2 cl buf cl' ht | case7 cl rs buf cl' ht => exact (takeBuf_moved ht).trans (onBlock_moved fx buf cl')
  | case4 cl rs buf cl' ht | case9 cl rs buf cl' ht | case5 cl rs buf cl' ht => exact (takeBuf_moved ht : Moved cl cl')
  | case6 cl rs buf cl' ht n _ _ ih => exact (takeBuf_moved ht).trans ih
  | case8 cl rs buf cl' ht ih => exact (takeBuf_moved ht).trans ((onBlock_moved fx buf cl').trans ih)

theorem Moved.ordered {a b : Client} (h : Moved a b) (ha : Ordered a) : Ordered b := by
  obtain ⟨k, hm, hs, he, _⟩ := h
  obtain ⟨pre, hsent, hsub⟩ := ha
  refine ⟨pre ++ a.msgs.take k, ?_, ?_⟩
  · rw [he, hsent, hm, List.append_assoc, List.take_append_drop]
  · rw [hs]; exact hsub.append (List.Sublist.refl _)

theorem Moved.noLoss {a b : Client} (h : Moved a b) (ha : NoLoss a) : NoLoss b := by
  obtain ⟨k, hm, hs, he, hd, _⟩ := h
  intro h0
  rw [he, ha (hd ▸ h0), hs, hm, List.append_assoc, List.take_append_drop]

theorem Moved.metaFirst {a b : Client} (h : Moved a b) (ha : MetaFirst a) : MetaFirst b := by
  obtain ⟨_, _, _, he, _, hc, _⟩ := h
  unfold MetaFirst
  rw [he, hc]; exact ha

theorem drive_alive (fx : Fixes) (hfx : fx.block = true) (rs : List WriteResult) (cl : Client) :
    (drive fx cl rs).cl.alive = cl.alive :=
  let ⟨_, h⟩ := drive_moved fx cl rs
  h.2.2.2.2.2

theorem takeBuf_pending {cl cl' : Client} {buf : List UInt8} (ht : takeBuf cl = some (buf, cl')) (N : Nat)
    (hwb : ∀ b, cl.wbuf = some b → b.length ≤ N) (hmb : ∀ f ∈ cl.msgs, f.bytes.length ≤ N) :
    buf.length ≤ N ∧ (∀ b, cl'.wbuf = some b → b.length ≤ N) ∧ (∀ f ∈ cl'.msgs, f.bytes.length ≤ N) ∧
    (if cl.wbuf.isSome then 1 else 0) + cl.msgs.length = (if cl'.wbuf.isSome then 1 else 0) + cl'.msgs.length + 1 ∧
    cl.received ++ cl.wbuf.getD [] ++ flat cl.msgs = cl'.received ++ buf ++ cl'.wbuf.getD [] ++ flat cl'.msgs := by
  rcases takeBuf_some ht with ⟨hw, rfl⟩ | ⟨hw, f, rest, hm, rfl, rfl⟩
  · refine ⟨hwb _ hw, fun _ h => (nomatch h), hmb, ?_, ?_⟩
    · rw [hw]; show 1 + cl.msgs.length = 0 + cl.msgs.length + 1; omega
    · rw [hw]; show _ = cl.received ++ buf ++ [] ++ _; rw [List.append_nil]; rfl
  · refine ⟨hmb f (hm ▸ List.mem_cons_self), fun b h => hwb b h, fun g hg => hmb g (hm ▸ List.mem_cons_of_mem _ hg), ?_, ?_⟩
    · rw [hm]; rfl
    · rw [hm, hw]; simp only [Option.getD_none, List.append_nil, flat, List.append_assoc]

theorem drive_full_accept (fx : Fixes) (N : Nat) (hN : 0 < N) :
    ∀ (rs : List WriteResult) (cl : Client),
      (∀ r ∈ rs, r = .ok N) →
      (∀ b, cl.wbuf = some b → b.length ≤ N) → (∀ f ∈ cl.msgs, f.bytes.length ≤ N) →
      (if cl.wbuf.isSome then 1 else 0) + cl.msgs.length ≤ rs.length →
      (drive fx cl rs).done = false ∧ (drive fx cl rs).cl.wbuf = none ∧ (drive fx cl rs).cl.msgs = [] ∧
      (drive fx cl rs).cl.received = cl.received ++ cl.wbuf.getD [] ++ flat cl.msgs := by
  intro rs cl hrs hwb hmb hlen
  fun_induction drive fx cl rs with
  | case1 cl ht | case3 cl r rs ht =>
    obtain ⟨hw, hm⟩ := takeBuf_none ht
    exact ⟨rfl, hw, hm, by rw [hw, hm, Option.getD_none, flat, List.append_nil, List.append_nil]⟩
  | case2 cl buf cl' ht =>
    -- something is pending but no result is left
    rw [(takeBuf_pending ht N hwb hmb).2.2.2.1] at hlen
    exact absurd hlen (Nat.not_succ_le_zero _)
  | case4 | case7 | case8 | case9 => cases hrs _ List.mem_cons_self <;> exact absurd hN (Nat.lt_irrefl 0)
  | case5 cl rs buf cl' ht n _ hn =>
    -- the socket takes `N` bytes and nothing pending is longer
    cases hrs _ List.mem_cons_self
    exact absurd hn (Nat.not_lt.2 (takeBuf_pending ht N hwb hmb).1)
  | case6 cl rs buf cl' ht n _ _ ih =>
    obtain ⟨_, hwb', hmb', hl, hr⟩ := takeBuf_pending ht N hwb hmb
    rw [hl] at hlen
    have := ih (fun r h => hrs r (List.mem_cons_of_mem _ h)) hwb' hmb' (Nat.le_of_succ_le_succ hlen)
    exact ⟨this.1, this.2.1, this.2.2.1, this.2.2.2.trans hr.symm⟩

/-- `drive_connection` leaves its loop early only on `WouldBlock` or a short write, and both park the unwritten bytes
    in `wbuf` -/
theorem drive_queue_left_parked (fx : Fixes) (hfx : fx.block = true) :
    ∀ (rs : List WriteResult) (cl : Client),
      (drive fx cl rs).done = false → (drive fx cl rs).cl.msgs ≠ [] →
      (drive fx cl rs).cl.wbuf.isSome = true ∧ (drive fx cl rs).attempts ≠ [] := by
  intro rs cl
  fun_induction drive fx cl rs with
  | case1 cl ht | case3 cl r rs ht => exact fun _ hm => absurd (takeBuf_none ht).2 hm
  | case2 | case7 => rw [onBlock_fixed hfx]; exact fun _ _ => ⟨rfl, List.cons_ne_nil _ _⟩
  | case4 | case9 => exact fun hd => Bool.noConfusion hd
  | case5 => exact fun _ _ => ⟨rfl, List.cons_ne_nil _ _⟩
  | case6 cl rs buf cl' ht n _ _ ih | case8 cl rs buf cl' ht ih =>
    exact fun hd hm => ⟨(ih hd hm).1, List.cons_ne_nil _ _⟩

/-- `available` is a truncated subtraction either way -/
theorem toDrain_eq (lim m b : Nat) : toDrain lim m b = b - (lim - m) := by
  show b - (if m < lim then lim - m else 0) = b - (lim - m)
  split
  · rfl
  · rename_i h; rw [Nat.sub_eq_zero_of_le (Nat.le_of_not_lt h)]

theorem toDrain_le (lim m b : Nat) (hb : b ≤ lim) : toDrain lim m b ≤ m := by
  rw [toDrain_eq, Nat.sub_le_iff_le_add, Nat.add_comm]
  exact Nat.le_trans hb (Nat.sub_le_iff_le_add.1 (Nat.le_refl _))

theorem toDrain_fits (lim m b : Nat) (h : m + b ≤ lim) : toDrain lim m b = 0 := by
  rw [toDrain_eq]
  exact Nat.sub_eq_zero_of_le (Nat.le_sub_of_add_le (Nat.add_comm m b ▸ h))

theorem enqueue_ordered (lim : Nat) (batch : List Frame) (cl : Client) (h : Ordered cl) :
    Ordered (enqueue lim batch cl) := by
  obtain ⟨pre, hs, hsub⟩ := h
  refine ⟨pre ++ cl.msgs.take (toDrain lim cl.msgs.length batch.length), ?_, hsub.trans (List.sublist_append_left _ _)⟩
  show cl.sent ++ _ = _ ++ (cl.msgs.drop _ ++ _)
  rw [hs, List.append_assoc, List.append_assoc, ← List.append_assoc (List.take ..), List.take_append_drop]

theorem enqueue_noLoss (lim : Nat) (batch : List Frame) (cl : Client) (h : NoLoss cl) :
    NoLoss (enqueue lim batch cl) := by
  intro hd
  -- nothing dropped so far: nothing dropped before, and nothing drained now (or the queue was empty)
  obtain ⟨h1, _⟩ := Nat.add_eq_zero_iff.1 hd
  obtain ⟨h0, hk⟩ := Nat.add_eq_zero_iff.1 h1
  have hdrop : cl.msgs.drop (toDrain lim cl.msgs.length batch.length) = cl.msgs := by
    rcases Nat.min_eq_zero_iff.1 hk with hz | hz
    · rw [hz]; rfl
    · rw [List.eq_nil_of_length_eq_zero hz]; exact List.drop_nil
  show cl.sent ++ batch.take lim = cl.started ++ (cl.msgs.drop _ ++ batch.take lim)
  rw [h h0, hdrop, List.append_assoc]

theorem enqueue_metaFirst (lim : Nat) (batch : List Frame) (cl : Client) (h : MetaFirst cl) :
    MetaFirst (enqueue lim batch cl) :=
  List.IsPrefix.trans h (List.prefix_append _ _)

theorem decrementClients_spec {n : Nat} (hn : 0 < n) :
    decrementClients (n, decide (0 < n)) = (n - 1, decide (0 < n - 1)) := by
  unfold decrementClients
  rw [if_neg (Nat.ne_of_gt hn)]
  by_cases h1 : n = 1
  · subst h1; rfl
  · rw [if_neg h1, decide_eq_true hn, decide_eq_true (Nat.sub_pos_of_lt (Nat.lt_of_le_of_ne hn (Ne.symm h1)))]

theorem decN_spec (k n : Nat) (ss : Bool) (hk : k ≤ n) (hs : ss = decide (0 < n)) :
    decN k (n, ss) = (n - k, decide (0 < n - k)) := by
  subst hs
  induction k generalizing n with
  | zero => rfl
  | succ k ih =>
    have hn : 0 < n := Nat.lt_of_lt_of_le (Nat.succ_pos k) hk
    rw [decN, decrementClients_spec hn, ih (n - 1) (Nat.le_sub_of_add_le hk), Nat.sub_sub, Nat.add_comm 1 k]

/-- an event handler for one client never revives a client and flags exactly the removals -/
def StepOk (f : Nat → Client → ClientStep) : Prop :=
  ∀ k cl, (f k cl).removed = (cl.alive && !(f k cl).cl.alive) ∧ ((f k cl).cl.alive = true → cl.alive = true)

theorem alive_removed (f : Nat → Client → ClientStep) (hf : StepOk f) (cs : List (Nat × Client)) :
    aliveCount (newClients (stepClients f cs)) + removedCount (stepClients f cs) = aliveCount cs := by
  induction cs with
  | nil => rfl
  | cons p rest ih =>
    obtain ⟨h1, h2⟩ := hf p.1 p.2
    simp only [aliveCount, newClients, stepClients, removedCount, List.map_cons, List.filter_cons] at ih ⊢
    rw [h1]
    -- a client alive before is alive after or flagged removed; one that was not stays out of both counts
    cases ha : p.2.alive <;> cases hb : (f p.1 p.2).cl.alive
    · exact ih
    · exact absurd (h2 hb) (by rw [ha]; exact Bool.false_ne_true)
    · exact congrArg Nat.succ ih
    · exact (Nat.succ_add ..).trans (congrArg Nat.succ ih)

theorem mem_newClients {f : Nat → Client → ClientStep} {cs : List (Nat × Client)} {p : Nat × Client}
    (h : p ∈ newClients (stepClients f cs)) : ∃ q ∈ cs, p = (q.1, (f q.1 q.2).cl) := by
  simp only [newClients, stepClients, List.map_map, List.mem_map] at h
  obtain ⟨q, hq, rfl⟩ := h
  exact ⟨q, hq, rfl⟩

theorem lookup_newClients (f : Nat → Client → ClientStep) (cs : List (Nat × Client)) (c : Nat) :
    lookupKey c (newClients (stepClients f cs)) = (lookupKey c cs).map (fun cl => (f c cl).cl) := by
  induction cs with
  | nil => rfl
  | cons p rest ih =>
    obtain ⟨k, cl⟩ := p
    show (if k = c then some (f k cl).cl else lookupKey c (newClients (stepClients f rest))) =
      (if k = c then some cl else lookupKey c rest).map _
    split
    · rename_i h; rw [h]; rfl
    · exact ih

theorem drive_congr_some (fx : Fixes) {a b cl' : Client} {buf : List UInt8}
    (ha : takeBuf a = some (buf, cl')) (hb : takeBuf b = some (buf, cl')) (rs : List WriteResult) :
    drive fx a rs = drive fx b rs := by
  cases rs <;> simp only [drive, ha, hb]

/-- the socket refused the write of a buffer of `len` bytes: `WouldBlock`, or it took only a part.  (The kernel
    answers like this only when the socket's send buffer is full, and then owes a WRITABLE edge.) -/
def Refused (r : WriteResult) (len : Nat) : Prop :=
  r = .wouldBlock ∨ ∃ n, r = .ok n ∧ 0 < n ∧ n < len

/-- `starved`: the model ran out of write results, which it answers as `WouldBlock` -/
theorem drive_parks_only_on_refusal (fx : Fixes) :
    ∀ (rs : List WriteResult) (cl : Client),
      (drive fx cl rs).done = false → (drive fx cl rs).cl.wbuf.isSome = true →
      (drive fx cl rs).starved = true ∨
      ∃ pre r as a, rs = pre ++ r :: (drive fx cl rs).rest ∧ (drive fx cl rs).attempts = as ++ [a] ∧ Refused r a := by
  intro rs cl
  fun_induction drive fx cl rs with
  | case1 cl ht | case3 cl r rs ht => exact fun _ hw => by rw [(takeBuf_none ht).1] at hw; cases hw
  | case2 => exact fun _ _ => Or.inl rfl
  | case4 | case9 => exact fun hd => Bool.noConfusion hd
  | case5 cl rs buf cl' ht n h0 hn =>
    exact fun _ _ => Or.inr ⟨[], .ok n, [], buf.length, rfl, rfl, Or.inr ⟨n, rfl, Nat.pos_of_ne_zero h0, hn⟩⟩
  | case7 cl rs buf => exact fun _ _ => Or.inr ⟨[], .wouldBlock, [], buf.length, rfl, rfl, Or.inl rfl⟩
  | case6 cl rs buf cl' ht n _ _ ih | case8 cl rs buf cl' ht ih =>
    -- the write went through or is retried: the refusal is further down the list
    intro hd hw
    rcases ih hd hw with hs | ⟨pre, r', as, a, h1, h2, h3⟩
    · exact Or.inl hs
    · exact Or.inr ⟨_ :: pre, r', buf.length :: as, a, congrArg (List.cons _) h1, congrArg (List.cons _) h2, h3⟩

/-- after a `drive_connection` call of the repaired code that keeps the client, queued frames wait only behind
    a parked buffer -/
def QueueBehindParked (cl : Client) : Prop :=
  cl.alive = true → cl.msgs ≠ [] → cl.wbuf.isSome = true ∨ cl.started = []

end MetricsVerif.Tcp
