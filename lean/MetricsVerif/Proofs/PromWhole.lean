/-
Lemmas for the whole-render theorems of C08: the number tokens of the recorder model are value tokens and harmless
label values; the type words the recorder writes are exposition type words; an invariant of the entries is kept by the
association-list `upsert`, by a `foldl` and by the grouping loop of `render`; everything `key_to_parts` returns is
grammar-conforming.
-/
import MetricsVerif.Proofs.PromFmt
import MetricsVerif.Proofs.Prom

namespace MetricsVerif.PromFmt
open MetricsVerif.Expo MetricsVerif.Prom MetricsVerif.PromRender

/-- characters of the model's number tokens (`natText`, `intTok`, `Val.tok`, the quantile place holder) -/
def numChar (c : Char) : Bool := c.isDigit || c == '-' || c == 'd' || c == 'b' || c == 'q'

theorem numChar_safe {c : Char} (h : numChar c = true) : c ≠ ' ' ∧ c ≠ '\n' ∧ c ≠ '\\' ∧ c ≠ '"' := by
  refine ⟨?_, ?_, ?_, ?_⟩ <;> (intro e; subst e; revert h; decide)

theorem wf_of_safe {v : List Char} (h : ∀ c ∈ v, c ≠ '\\' ∧ c ≠ '\n' ∧ c ≠ '"') : WF false v := by
  induction v with
  | nil => exact .nil
  | cons c cs ih =>
    have hs := h c (by simp)
    exact .safe c cs hs.1 hs.2.1 (fun _ => hs.2.2) (ih (fun x hx => h x (by simp [hx])))

theorem token_of_safe {v : List Char} (hne : v ≠ []) (h : ∀ c ∈ v, c ≠ ' ' ∧ c ≠ '\n' ∧ c ≠ '\\' ∧ c ≠ '"') :
    WF false v ∧ IsToken v = true := by
  refine ⟨wf_of_safe fun c hc => ⟨(h c hc).2.2.1, (h c hc).2.1, (h c hc).2.2.2⟩, ?_⟩
  cases v with
  | nil => exact absurd rfl hne
  | cons a as =>
    simp only [IsToken, List.isEmpty_cons, Bool.not_false, Bool.true_and, List.all_eq_true, Bool.and_eq_true,
      bne_iff_ne, ne_eq]
    exact fun c hc => ⟨(h c hc).1, (h c hc).2.1⟩

theorem token_of_num {v : List Char} (hne : v ≠ []) (h : ∀ c ∈ v, numChar c = true) :
    WF false v ∧ IsToken v = true :=
  token_of_safe hne fun c hc => numChar_safe (h c hc)

theorem natRepr_digit (n : Nat) : ∀ c ∈ (toString n).toList, c.isDigit = true := by
  intro c hc
  rw [Nat.toString_eq_repr, Nat.toList_repr] at hc
  exact Nat.isDigit_of_mem_toDigits (by decide) (by decide) hc

theorem natRepr_ne (n : Nat) : (toString n).toList ≠ [] := by
  rw [Nat.toString_eq_repr, Nat.toList_repr]
  exact Nat.toDigits_ne_nil

theorem numChar_of_digit {c : Char} (h : c.isDigit = true) : numChar c = true := by
  simp [numChar, h]

theorem natRepr_num (n : Nat) : ∀ c ∈ (toString n).toList, numChar c = true :=
  fun c hc => numChar_of_digit (natRepr_digit n c hc)

theorem intRepr_num (n : Int) : ∀ c ∈ (toString n).toList, numChar c = true := by
  intro c hc
  rw [Int.toString_eq_repr, Int.repr_eq_if] at hc
  split at hc
  · exact natRepr_num _ c (by rw [Nat.toString_eq_repr]; exact hc)
  · rw [String.toList_append] at hc
    rcases List.mem_append.1 hc with h | h
    · rw [show ("-" : String).toList = ['-'] by decide, List.mem_singleton] at h
      subst h
      decide
    · exact natRepr_num _ c (by rw [Nat.toString_eq_repr]; exact h)

theorem intTok_num (n : Int) : ∀ c ∈ intTok n, numChar c = true := by
  intro c hc
  rcases List.mem_cons.1 hc with rfl | h
  · decide
  · exact intRepr_num n c h

theorem valTok_num (v : Val) : ∀ c ∈ v.tok, numChar c = true := by
  cases v with
  | dy n => exact intTok_num n
  | bits b =>
    intro c hc
    rcases List.mem_cons.1 hc with rfl | h
    · decide
    · exact natRepr_num b c h

theorem natText_token (n : Nat) : IsToken (natText n) = true := (token_of_num (natRepr_ne n) (natRepr_num n)).2
theorem intTok_token (n : Int) : IsToken (intTok n) = true :=
  (token_of_num (List.cons_ne_nil _ _) (intTok_num n)).2
theorem intTok_wf (n : Int) : WF false (intTok n) := (token_of_num (List.cons_ne_nil _ _) (intTok_num n)).1
theorem valTok_token (v : Val) : IsToken v.tok = true :=
  (token_of_num (by cases v <;> exact List.cons_ne_nil _ _) (valTok_num v)).2

/-- the type words the recorder writes are exposition type words (the finite table, by evaluation) -/
theorem isType_words : isType "counter".toList = true ∧ isType "gauge".toList = true
    ∧ isType "histogram".toList = true ∧ isType "summary".toList = true := by decide +kernel

theorem isType_distType (cfg : Cfg) (n : List Char) : isType (distType cfg n) = true := by
  unfold distType
  split
  · exact isType_words.2.2.1
  · split
    · exact isType_words.2.2.1
    · exact isType_words.2.2.2

theorem upsert_inv {κ α : Type} [DecidableEq κ] (P : κ → α → Prop) (m : List (κ × α)) (k : κ) (d : α)
    (f : α → α) (hm : ∀ x ∈ m, P x.1 x.2) (hd : P k (f d)) (hf : ∀ a, P k a → P k (f a)) :
    ∀ x ∈ upsert m k d f, P x.1 x.2 := by
  induction m with
  | nil => intro x hx; obtain rfl := List.mem_singleton.1 hx; exact hd
  | cons ka rest ih =>
    obtain ⟨k', a⟩ := ka
    have hka := hm _ (List.mem_cons_self ..)
    have hrest := fun y hy => hm y (List.mem_cons_of_mem _ hy)
    rw [upsert]
    split
    · subst_vars; exact List.forall_mem_cons.2 ⟨hf a hka, hrest⟩
    · exact List.forall_mem_cons.2 ⟨hka, ih hrest⟩

theorem foldl_inv {α β : Type} (P : β → Prop) (Q : α → Prop) (f : β → α → β) (l : List α)
    (hf : ∀ b a, P b → Q a → P (f b a)) : ∀ b, P b → (∀ a ∈ l, Q a) → P (l.foldl f b) := by
  induction l with
  | nil => intro b hb _; exact hb
  | cons a rest ih =>
    intro b hb hq
    simp only [List.foldl_cons]
    exact ih _ (hf b a hb (hq a (by simp))) (fun x hx => hq x (by simp [hx]))

theorem merged_keys (keyLabels globals : List (List Char × List Char)) (hg : ∀ x ∈ globals, x.1 ≠ [])
    (hk : ∀ x ∈ keyLabels, x.1 ≠ []) :
    ∀ x ∈ keyLabels.foldl (fun m kv => imInsert m kv.1 kv.2) globals, x.1 ≠ [] :=
  foldl_inv (fun m : List (List Char × List Char) => ∀ x ∈ m, x.1 ≠ []) (fun kv => kv.1 ≠ []) _ keyLabels
    (fun m kv hm hkv => by
      rw [imInsert_eq_upsert]
      exact upsert_inv (fun k _ => k ≠ []) m _ _ _ hm hkv fun _ _ => hkv)
    globals hg hk

/-- label strings as `key_to_parts` hands them to `write_metric_line`: each is `name="escaped value"` of a
    label the grammar accepts -/
def LabelsOk (ls : List (List Char)) : Prop :=
  ∃ lbls : List (List Char × List Char), ls = lbls.map labelStr ∧ ∀ kt ∈ lbls, LabelOk kt

/-- **`key_to_parts` is grammar-conforming**: for every non-empty metric name and non-empty label names
    (own and global), the name is a metric name and every label string is an accepted label -/
theorem keyToParts_ok (name : List Char) (kl gl : List (List Char × List Char)) (hn : name ≠ [])
    (hk : ∀ x ∈ kl, x.1 ≠ []) (hg : ∀ x ∈ gl, x.1 ≠ []) :
    IsMetricName (keyToParts name kl gl).1 = true ∧ LabelsOk (keyToParts name kl gl).2 := by
  refine ⟨sanitizeMetricName_grammar name hn, ?_⟩
  refine ⟨(kl.foldl (fun m kv => imInsert m kv.1 kv.2) gl).map
      (fun kv => (sanitizeLabelKey kv.1, sanitizeLabelValue kv.2)), ?_, ?_⟩
  · simp only [keyToParts, List.map_map]
    apply List.map_congr_left
    intro kv _
    simp [formatLabel, labelStr]
  · intro kt hkt
    simp only [List.mem_map] at hkt
    obtain ⟨kv, hkv, rfl⟩ := hkt
    exact ⟨sanitizeLabelKey_grammar kv.1 (merged_keys kl gl hg hk kv hkv), sanitizeLabelValue_wf kv.2⟩

theorem groupFamilies_inv (Q : List Char → Prop) (P : Series → Prop) (entries : List (MKey × List Char))
    (globals : List (List Char × List Char))
    (h : ∀ kv ∈ entries, Q (keyToParts kv.1.name kv.1.labels globals).1
      ∧ P ⟨(keyToParts kv.1.name kv.1.labels globals).2, .scalar kv.2⟩) :
    ∀ f ∈ groupFamilies entries globals, Q f.1 ∧ ∀ s ∈ f.2, P s := by
  unfold groupFamilies
  refine foldl_inv (fun fams : List (List Char × List Series) => ∀ f ∈ fams, Q f.1 ∧ ∀ s ∈ f.2, P s) _ _ entries
    ?_ [] (fun _ hf => nomatch hf) h
  intro fams kv hf hk
  generalize keyToParts kv.1.name kv.1.labels globals = np at hk
  obtain ⟨name, labels⟩ := np
  exact upsert_inv (fun n ss => Q n ∧ ∀ s ∈ ss, P s) fams name [] _ hf
    ⟨hk.1, fun s hs => List.mem_singleton.1 hs ▸ hk.2⟩
    fun ss hss => ⟨hss.1, fun s hs => (List.mem_append.1 hs).elim (hss.2 s) fun hs => List.mem_singleton.1 hs ▸ hk.2⟩

end MetricsVerif.PromFmt
