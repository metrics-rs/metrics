/-
C05, `is_empty` completeness for ANY programs (clears included): an `is_empty` whose tail load is executed in a state
in which some published value sits in a block reachable from the tail answers `false` — whatever happens between its
two steps.  Ingredients: claim counters only grow; `next` links of existing blocks never change; a block that is linked
below another one has had a slot claimed (`LWInv`, `Proofs/BucketEmpty.lean`); `is_empty` decides on the claim counters
of the tail it loaded and of that tail's predecessor.  Programs without clears are the special case in which every
block stays reachable (`noclear_is_empty`).
-/
import MetricsVerif.Proofs.BucketSnapLive
import MetricsVerif.Proofs.BucketEmpty

namespace MetricsVerif.Bucket

/-- what makes `is_empty` on tail `hi` answer `false`: a claimed slot in `hi` or in its predecessor -/
def NE (s : Sys) (hi : Nat) : Prop :=
  1 ≤ (getBlock s hi).write ∨ ∃ n, (getBlock s hi).next = some n ∧ 1 ≤ (getBlock s n).write

theorem NE_step (s : Sys) (tid hi : Nat) (hlt : hi < s.blocks.length) (h : NE s hi) : NE (step s tid) hi := by
  have hlt' : hi < (step s tid).blocks.length := Nat.lt_of_lt_of_le hlt (step_len s tid)
  have hnx : (getBlock (step s tid) hi).next = (getBlock s hi).next := by
    have e := step_nextAt s tid hi hlt
    rw [nextAt_getBlock hlt, nextAt_getBlock hlt'] at e
    exact Option.some.inj e
  rcases h with h | ⟨n, hn, h⟩
  · exact Or.inl (Nat.le_trans h (step_write s tid hi))
  · exact Or.inr ⟨n, by rw [hnx]; exact hn, Nat.le_trans h (step_write s tid n)⟩

/-- the second step of `is_empty` -/
theorem eLen_result (s : Sys) (t : Thread) (hi : Nat) (hpc : t.pc = .eLen hi) :
    ∃ e, stepThread s t = (s, t.advance (.empty e)) ∧ (NE s hi → e = false)
      ∧ (e = true → (getBlock s hi).write = 0 ∧ ∀ n, (getBlock s hi).next = some n → (getBlock s n).write = 0) := by
  refine ⟨_, stepThread_at_eLen hpc, ?_, ?_⟩
  · rintro (h | ⟨n, hn, h⟩)
    · have : ((getBlock s hi).write == 0) = false := by rw [beq_eq_false_iff_ne]; omega
      rw [this]; rfl
    · have : ((getBlock s n).write == 0) = false := by rw [beq_eq_false_iff_ne]; omega
      simp only [hn, this, Bool.and_false]
  · intro he
    simp only [Bool.and_eq_true, beq_iff_eq] at he
    refine ⟨he.1, fun n hn => ?_⟩
    have h2 := he.2
    rw [hn] at h2
    simpa using h2

def EInv (hi : Nat) (r0 : List Res) (s : Sys) (t : Thread) : Prop :=
  (t.results = r0 ∧ t.pc = .eLen hi ∧ hi < s.blocks.length ∧ NE s hi)
  ∨ ∃ rest, t.results = r0 ++ Res.empty false :: rest

theorem EInv_step {hi : Nat} {r0 : List Res} {i : Nat} (s : Sys) (tid : Nat)
    (h : ∃ t, s.threads[i]? = some t ∧ EInv hi r0 s t) :
    ∃ t, (step s tid).threads[i]? = some t ∧ EInv hi r0 (step s tid) t := by
  obtain ⟨t, ht, hr⟩ := h
  by_cases hi' : tid = i
  · subst hi'
    refine ⟨(stepThread s t).2, step_self ht, Or.inr ?_⟩
    rcases hr with ⟨hres, hpc, _, hne⟩ | ⟨rest, hres⟩
    · obtain ⟨e, he, hf, _⟩ := eLen_result s t hi hpc
      rw [he, hf hne]
      exact ⟨[], by simp [Thread.advance, hres]⟩
    · rcases (stepThread_teff s t).results with e | ⟨r, e, _⟩
      · exact ⟨rest, by rw [e, hres]⟩
      · exact ⟨rest ++ [r], by rw [e, hres]; simp⟩
  · refine ⟨t, by rw [step_other s hi']; exact ht, ?_⟩
    rcases hr with ⟨hres, hpc, hlt, hne⟩ | h1
    · exact Or.inl ⟨hres, hpc, Nat.lt_of_lt_of_le hlt (step_len s tid), NE_step s tid hi hlt hne⟩
    · exact Or.inr h1

theorem EInv_run {hi : Nat} {r0 : List Res} {i : Nat} (sched : List Nat) : ∀ s,
    (∃ t, s.threads[i]? = some t ∧ EInv hi r0 s t) → ∃ t, (run s sched).threads[i]? = some t ∧ EInv hi r0 (run s sched) t := by
  induction sched with
  | nil => intro s h; exact h
  | cons t ts ih => intro s h; exact ih _ (EInv_step s t h)

/-- **is_empty completeness, any programs**: thread `i` executes the tail load of an `is_empty` in the state reached by
    `pre`; if in that state some value is published in a block reachable from the tail, the call answers `false` -/
theorem live_is_empty (B : Nat) (progs : List (List Call)) (pre rest : List Nat) (i : Nat) (t0 t1 : Thread)
    (h0 : (run (init B progs) pre).threads[i]? = some t0) (hpc : t0.pc = .eLoadTail)
    (h1 : (run (init B progs) (pre ++ i :: rest)).threads[i]? = some t1)
    (e : Bool) (hres : t1.results = t0.results ++ [.empty e]) (v : Nat)
    (hv : 1 ≤ pubIn v isLive (grun (init B progs) own0 pre).2 (run (init B progs) pre)) : e = false := by
  have hg := reach_ginv B progs pre
  have hw := lwrun pre _ (init_lwinv B progs)
  generalize (grun (init B progs) own0 pre).2 = own at hg hv
  have hrun : run (init B progs) (pre ++ i :: rest) = run (step (run (init B progs) pre) i) rest := run_append pre _ _
  rw [hrun] at h1
  generalize run (init B progs) pre = s at hg hw h0 h1 hv
  obtain ⟨lb, hlb, hlive, htn, hts⟩ := hg.live
  have hpub : pubIn v isLive own s = needFrom v s.blocks lb := by
    unfold pubIn needFrom
    rw [osum_live_eq _ own lb hlive s.blocks 0, Nat.sub_zero]
  rw [hpub] at hv
  cases ht : s.tail with
  | none =>
    have hl := htn ht
    rw [needFrom_ge v _ _ (by omega)] at hv; omega
  | some hi =>
    obtain ⟨hlo, hseg⟩ := hts hi ht
    have hhi := hg.base.inv.tail_valid hi ht
    -- a published value in some block `j` of the live chain
    obtain ⟨j, hj1, hjl, hj3⟩ := needFrom_pos v s.blocks s.blocks.length lb (by omega) hv
    have hj2 : j ≤ hi := by omega
    rw [← getBlock_eq_blk0] at hj3
    have hne : NE s hi := by
      by_cases hjh : j = hi
      · subst hjh
        exact Or.inl (write_pos_of_pub hg.base.inv (by omega) hj3)
      · have hl := hseg.2 hi (by omega) (Nat.le_refl _)
        have hnx : (getBlock s hi).next = some (hi - 1) := by
          rw [nextAt_getBlock (by omega)] at hl
          exact Option.some.inj hl
        exact Or.inr ⟨hi - 1, hnx, hw.link hi (hi - 1) hl⟩
    -- the load step
    have hthr := step_self h0
    have e2 : (stepThread s t0).2 = { t0 with pc := .eLen hi } := by
      rw [stepThread_at_eLoadTail hpc, ht]
    have hinv0 : ∃ t, (step s i).threads[i]? = some t ∧ EInv hi t0.results (step s i) t :=
      ⟨_, hthr, Or.inl ⟨by rw [e2], by rw [e2], Nat.lt_of_lt_of_le (by omega) (step_len s i),
        NE_step s i hi (by omega) hne⟩⟩
    obtain ⟨t, ht', hr⟩ := EInv_run rest _ hinv0
    rw [h1] at ht'; injection ht' with ht'; subst ht'
    rcases hr with ⟨hsame, _⟩ | ⟨rest', hres'⟩
    · rw [hsame] at hres
      have := congrArg List.length hres
      simp at this
    · rw [hres'] at hres
      have h2 := List.append_cancel_left hres
      simp only [List.cons.injEq, Res.empty.injEq] at h2
      exact h2.1.symm

/-- **is_empty completeness without clears**: an `is_empty` that is about to start after `s1`, when some value is
    published, answers `false`: the value is still published, and reachable from the tail, when the call loads the tail -/
theorem noclear_is_empty (B : Nat) (progs : List (List Call)) (hnc : ∀ p ∈ progs, Call.clear ∉ p) (s1 s2 : List Nat)
    (i : Nat) (t0 t1 : Thread)
    (h0 : (run (init B progs) s1).threads[i]? = some t0) (hpc : t0.pc = .eLoadTail)
    (h1 : (run (init B progs) (s1 ++ s2)).threads[i]? = some t1)
    (e : Bool) (hres : t1.results = t0.results ++ [.empty e]) (v : Nat)
    (hv : 1 ≤ pubCount v (run (init B progs) s1)) : e = false := by
  obtain ⟨a, b, e', ha⟩ := first_step_of_call _ s1 s2 i t0 t1 h0 h1 (by rw [hres]; simp)
  subst e'
  rw [← List.append_assoc] at h1
  refine live_is_empty B progs (s1 ++ a) b i t0 t1 ha hpc h1 e hres v ?_
  rw [grun_own0_noclear _ _ (init_noclrS B progs hnc), pubIn_live_own0, run_append]
  exact Nat.le_trans hv (pubCount_run_mono v a _)

end MetricsVerif.Bucket
