/-
Lemmas about `Model/Rolling.lean` for C15.

The window theorems run the model on samples that carry their own timestamp (`α × Nat`, added at time `.2`);
`keep` looks at the value only.  `Inv` is the invariant of `RollingSummary` under non-decreasing timestamps; `add`
preserves it because each of the three things it does to the bucket list does: dropping the expired buckets
(`Inv.expire`), opening a new empty bucket in front (`Inv.cons_empty`), putting the sample into the bucket that covers
`now` (`Inv.insert`).  The truncation to `max_buckets - 1` never removes anything (`live_length`).  The model on plain
values is the image of that run (`run_map`): `add` and `snapshot` never look at a sample.

For the quantile lines: `Good` ties the min/max a merged snapshot reports (quantiles 0 and 1) to the samples of the
snapshot, `Within` does the same for the three stores of the sketch (every quantile in between).
-/
import MetricsVerif.Model.Rolling

namespace MetricsVerif.Rolling
open MetricsVerif.Histogram

variable {α : Type}

theorem alignLoop_eq (d now : Nat) (hd : 1 ≤ d) (fuel begin : Nat) (hb : begin ≤ now) (hf : now - begin < fuel) :
    alignLoop d now fuel begin = begin + d * ((now - begin) / d) := by
  induction fuel generalizing begin with
  | zero => exact absurd hf (Nat.not_lt_zero _)
  | succ fuel ih =>
    unfold alignLoop
    split
    · rename_i h
      have hge : begin + d ≤ now := h.resolve_left (Nat.not_lt.mpr hb)
      have e : now - begin = now - (begin + d) + d := by omega
      rw [ih (begin + d) hge (by omega), e, Nat.add_div_right _ hd, Nat.mul_succ, Nat.add_assoc, Nat.add_comm d]
    · rename_i h
      rw [Nat.div_eq_of_lt (Nat.sub_lt_left_of_lt_add hb (Nat.not_le.mp fun h' => h (.inr h')))]; rfl

theorem alignLoop_spec (d now : Nat) (hd : 1 ≤ d) (fuel begin : Nat) (hb : begin ≤ now) (hf : now - begin < fuel) :
    begin ≤ alignLoop d now fuel begin ∧ alignLoop d now fuel begin ≤ now ∧ now < alignLoop d now fuel begin + d := by
  have h1 := Nat.mul_div_le (now - begin) d
  have h2 := Nat.lt_mul_div_succ (now - begin) hd
  rw [Nat.mul_succ] at h2
  rw [alignLoop_eq d now hd fuel begin hb hf]
  omega

/-- the closed form `reftime + dur * ((now - reftime) / dur)` wherever the code reaches the loop
    (`now >= reftime + dur`); `now + 1` iterations of fuel are enough -/
theorem alignLoop_closed (d now ref : Nat) (hd : 1 ≤ d) (h : ref + d ≤ now) :
    alignLoop d now (now + 1) (ref + d) = ref + d * ((now - ref) / d) := by
  -- the loop started at `ref` with one more unit of fuel takes the step to `ref + d` first
  rw [← alignLoop_eq d now hd (now + 2) ref (by omega) (by omega)]
  exact (if_pos (.inr h)).symm

theorem mem_summaryAdd (keep : α → Bool) (s : List α) (v a : α) :
    a ∈ summaryAdd keep s v ↔ a ∈ s ∨ (a = v ∧ keep v = true) := by
  unfold summaryAdd; split <;> simp_all

theorem mem_liveAt {W now : Nat} {bs : List (RBucket α)} {b : RBucket α} :
    b ∈ liveAt W now bs ↔ b ∈ bs ∧ now < b.begin + W := by
  unfold liveAt; split
  · rename_i h
    rw [List.mem_filter, decide_eq_true_eq]
    exact and_congr_right fun _ => Nat.sub_lt_iff_lt_add h
  · rename_i h
    exact ⟨fun hb => ⟨hb, Nat.lt_of_lt_of_le (Nat.not_le.mp h) (Nat.le_add_left _ _)⟩, And.left⟩

theorem liveAt_sublist (W now : Nat) (bs : List (RBucket α)) : (liveAt W now bs).Sublist bs := by
  unfold liveAt; split
  · exact List.filter_sublist
  · exact List.Sublist.refl _

/-- latest first, begins at least one duration apart -/
def Spaced (d : Nat) (bs : List (RBucket α)) : Prop := bs.Pairwise (fun a b => b.begin + d ≤ a.begin)

theorem spaced_iff {d : Nat} {bs : List (RBucket α)} :
    Spaced d bs ↔ (bs.map (·.begin)).Pairwise (fun x y => y + d ≤ x) := by
  rw [List.pairwise_map]; rfl

theorem spaced_length (d W now : Nat) (b : RBucket α) (t : List (RBucket α)) (hs : Spaced d (b :: t))
    (h : ∀ c ∈ b :: t, now < c.begin + W) : now + (t.length + 1) * d < b.begin + d + W := by
  induction t generalizing b with
  | nil => have := h b List.mem_cons_self; simp only [List.length_nil, Nat.zero_add, Nat.one_mul]; omega
  | cons c t ih =>
    have hs' := List.pairwise_cons.mp hs
    have ih := ih c hs'.2 (fun x hx => h x (List.mem_cons_of_mem _ hx))
    have := hs'.1 c List.mem_cons_self
    simp only [List.length_cons, Nat.succ_mul] at ih ⊢
    omega

/-- `truncate(max_buckets - 1)` removes nothing from the live buckets when the latest of them lies a whole duration
    back: spaced by `d` inside a window of `n·d`, there are at most `n - 1` of them -/
theorem live_length {d n now : Nat} {b : RBucket α} {t : List (RBucket α)} (hs : Spaced d (b :: t))
    (hl : ∀ c ∈ b :: t, now < c.begin + d * n) (hb : b.begin + d ≤ now) : (b :: t).length ≤ n - 1 := by
  have := spaced_length d (d * n) now b t hs hl
  have : (t.length + 1) * d < n * d := by rw [Nat.mul_comm n d]; omega
  exact Nat.le_sub_one_of_lt (Nat.lt_of_mul_lt_mul_right this)

theorem addInBucket_some (keep : α → Bool) (d now : Nat) (v : α) (bs bs' : List (RBucket α))
    (h : addInBucket keep d now v bs = some bs') :
    ∃ l b r, bs = l ++ b :: r ∧ b.begin ≤ now ∧ now < b.begin + d
      ∧ bs' = l ++ ⟨b.begin, summaryAdd keep b.samples v⟩ :: r := by
  induction bs generalizing bs' with
  | nil => cases h
  | cons b bs ih =>
    rw [addInBucket] at h
    by_cases h1 : now > b.begin + d
    · rw [if_pos h1] at h; cases h
    · rw [if_neg h1] at h
      by_cases h2 : now ≥ b.begin ∧ now < b.begin + d
      · rw [if_pos h2] at h
        cases h
        exact ⟨[], b, bs, rfl, h2.1, h2.2, rfl⟩
      · rw [if_neg h2] at h
        obtain ⟨bs1, e1, rfl⟩ := Option.map_eq_some_iff.mp h
        obtain ⟨l, c, r, rfl, h3, h4, rfl⟩ := ih bs1 e1
        exact ⟨b :: l, c, r, rfl, h3, h4, rfl⟩

theorem addInBucket_none (keep : α → Bool) (d now : Nat) (v : α) (bs : List (RBucket α)) (hs : Spaced d bs)
    (h : addInBucket keep d now v bs = none) : ∀ b ∈ bs, ¬ (b.begin ≤ now ∧ now < b.begin + d) := by
  induction bs with
  | nil => exact fun _ hb => nomatch hb
  | cons b bs ih =>
    have hs' := List.pairwise_cons.mp hs
    intro b1 hb1
    rw [addInBucket] at h
    by_cases h1 : now > b.begin + d
    · -- the `break`: `now` is past the latest remaining bucket, and the others are older still
      rcases List.mem_cons.mp hb1 with rfl | hb1
      · omega
      · have := hs'.1 b1 hb1; omega
    · rw [if_neg h1] at h
      by_cases h2 : now ≥ b.begin ∧ now < b.begin + d
      · rw [if_pos h2] at h; cases h
      · rw [if_neg h2] at h
        rcases List.mem_cons.mp hb1 with rfl | hb1
        · exact h2
        · exact ih hs'.2 (Option.map_eq_none_iff.mp h) b1 hb1

def addBuckets (keep : α → Bool) (n d W : Nat) (bs : List (RBucket α)) (v : α) (now : Nat) : List (RBucket α) :=
  match addInBucket keep d now v bs with
  | some bs' => bs'
  | none =>
    match liveAt W now bs with
    | [] => [⟨now, summaryAdd keep [] v⟩]
    | b0 :: rest =>
      if now > b0.begin then
        ⟨alignLoop d now (now + 1) (b0.begin + d), summaryAdd keep [] v⟩ :: (b0 :: rest).take (n - 1)
      else b0 :: rest

theorem add_eq (keep : α → Bool) (r : Rolling α) (v : α) (now : Nat) :
    r.add keep v now = { r with count := r.count + 1,
                                buckets := addBuckets keep r.maxBuckets r.bucketDuration r.maxBucketDuration r.buckets v now } := by
  unfold Rolling.add addBuckets
  simp only
  cases addInBucket keep r.bucketDuration now v r.buckets with
  | some bs => rfl
  | none =>
    simp only
    cases liveAt r.maxBucketDuration now r.buckets with
    | nil => rfl
    | cons b0 rest => simp only; split <;> rfl

theorem add_count (keep : α → Bool) (r : Rolling α) (v : α) (now : Nat) : (r.add keep v now).count = r.count + 1 := by
  rw [add_eq]

/-- invariant of the bucket list of a `RollingSummary` with `n` buckets of duration `d`, after the time-stamped
    samples `adds`, none of them later than `T` -/
structure Inv (keep : α → Bool) (d n : Nat) (bs : List (RBucket (α × Nat))) (adds : List (α × Nat)) (T : Nat) : Prop where
  spaced : Spaced d bs
  le_T : ∀ b ∈ bs, b.begin ≤ T
  sound : ∀ b ∈ bs, ∀ a ∈ b.samples, b.begin ≤ a.2 ∧ a.2 < b.begin + d ∧ a ∈ adds ∧ keep a.1 = true
  /-- a kept sample is only ever lost together with a bucket that has left the window -/
  complete : ∀ a ∈ adds, keep a.1 = true → (∃ b ∈ bs, a ∈ b.samples) ∨ a.2 + d * n < T + d

section step
variable {keep : α → Bool} {d n T : Nat} {bs : List (RBucket (α × Nat))} {adds : List (α × Nat)}

theorem Inv.init (keep : α → Bool) (d n : Nat) : Inv keep d n [] [] 0 :=
  ⟨.nil, nofun, nofun, nofun⟩

theorem Inv.mono (inv : Inv keep d n bs adds T) {T' : Nat} (h : T ≤ T') : Inv keep d n bs adds T' :=
  ⟨inv.spaced, fun b hb => Nat.le_trans (inv.le_T b hb) h, inv.sound,
    fun a ha hk => (inv.complete a ha hk).imp_right fun h' => Nat.lt_of_lt_of_le h' (Nat.add_le_add_right h d)⟩

theorem Inv.expire (inv : Inv keep d n bs adds T) (now : Nat) (h : T ≤ now) :
    Inv keep d n (liveAt (d * n) now bs) adds now := by
  have inv := inv.mono h
  have sub : ∀ b ∈ liveAt (d * n) now bs, b ∈ bs := fun b hb => (mem_liveAt.mp hb).1
  refine ⟨List.Pairwise.sublist (liveAt_sublist _ _ _) inv.spaced, fun b hb => inv.le_T b (sub b hb),
    fun b hb => inv.sound b (sub b hb), fun a ha hk => ?_⟩
  rcases inv.complete a ha hk with ⟨b, hb, hab⟩ | h'
  · by_cases hl : now < b.begin + d * n
    · exact .inl ⟨b, mem_liveAt.mpr ⟨hb, hl⟩, hab⟩
    · have := (inv.sound b hb a hab).2.1
      exact .inr (by omega)
  · exact .inr h'

theorem Inv.cons_empty (inv : Inv keep d n bs adds T) (beg : Nat) (hs : ∀ b ∈ bs, b.begin + d ≤ beg) (hT : beg ≤ T) :
    Inv keep d n (⟨beg, []⟩ :: bs) adds T := by
  refine ⟨List.pairwise_cons.mpr ⟨hs, inv.spaced⟩, fun b hb => ?_, fun b hb => ?_,
    fun a ha hk => (inv.complete a ha hk).imp_left fun ⟨b, hb, h⟩ => ⟨b, List.mem_cons_of_mem _ hb, h⟩⟩
  · rcases List.mem_cons.mp hb with rfl | hb
    · exact hT
    · exact inv.le_T b hb
  · rcases List.mem_cons.mp hb with rfl | hb
    · intro a ha; cases ha
    · exact inv.sound b hb

theorem Inv.insert {l r : List (RBucket (α × Nat))} {b : RBucket (α × Nat)} (inv : Inv keep d n (l ++ b :: r) adds T)
    (v : α) {now : Nat} (hT : T ≤ now) (h1 : b.begin ≤ now) (h2 : now < b.begin + d) :
    Inv keep d n (l ++ ⟨b.begin, summaryAdd (fun p => keep p.1) b.samples (v, now)⟩ :: r) (adds ++ [(v, now)]) now := by
  have inv := inv.mono hT
  -- a bucket of either list is the one that takes the sample, or one of the others
  have mem : ∀ {c b' : RBucket (α × Nat)}, c ∈ l ++ b' :: r ↔ c = b' ∨ (c ∈ l ∨ c ∈ r) := by simp [or_left_comm]
  have took : ∀ a, a ∈ b.samples ∨ (a = (v, now) ∧ keep v = true) →
      ∃ c ∈ l ++ ⟨b.begin, summaryAdd (fun p => keep p.1) b.samples (v, now)⟩ :: r, a ∈ c.samples :=
    fun a h => ⟨_, mem.mpr (.inl rfl), (mem_summaryAdd (fun p => keep p.1) b.samples (v, now) a).mpr h⟩
  refine ⟨?_, fun c hc => ?_, fun c hc a ha => ?_, fun a ha hk => ?_⟩
  · have := spaced_iff.mp inv.spaced
    rw [spaced_iff]
    simpa using this
  · rcases mem.mp hc with rfl | ho
    · exact h1
    · exact inv.le_T c (mem.mpr (.inr ho))
  · rcases mem.mp hc with rfl | ho
    · rcases (mem_summaryAdd (fun p => keep p.1) b.samples (v, now) a).mp ha with ha | ⟨rfl, hk⟩
      · obtain ⟨s1, s2, s3, s4⟩ := inv.sound b (mem.mpr (.inl rfl)) a ha
        exact ⟨s1, s2, List.mem_append_left _ s3, s4⟩
      · exact ⟨h1, h2, List.mem_append_right _ (List.mem_singleton_self _), hk⟩
    · obtain ⟨s1, s2, s3, s4⟩ := inv.sound c (mem.mpr (.inr ho)) a ha
      exact ⟨s1, s2, List.mem_append_left _ s3, s4⟩
  · rcases List.mem_append.mp ha with ha | ha
    · rcases inv.complete a ha hk with ⟨c, hc, hac⟩ | h
      · rcases mem.mp hc with rfl | ho
        · exact .inl (took a (.inl hac))
        · exact .inl ⟨c, mem.mpr (.inr ho), hac⟩
      · exact .inr h
    · cases List.mem_singleton.mp ha
      exact .inl (took _ (.inr ⟨rfl, hk⟩))

theorem Inv.step (hd : 1 ≤ d) (inv : Inv keep d n bs adds T) (v : α) (now : Nat) (hT : T ≤ now) :
    Inv keep d n (addBuckets (fun p => keep p.1) n d (d * n) bs (v, now) now) (adds ++ [(v, now)]) now := by
  unfold addBuckets
  cases hsearch : addInBucket (fun p : α × Nat => keep p.1) d now (v, now) bs with
  | some bs' =>
    obtain ⟨l, b, r, rfl, h1, h2, rfl⟩ := addInBucket_some _ d now (v, now) bs bs' hsearch
    exact inv.insert v hT h1 h2
  | none =>
    have live := inv.expire now hT
    cases hlive : liveAt (d * n) now bs with
    | nil =>
      rw [hlive] at live
      exact (live.cons_empty now (by simp) (Nat.le_refl _)).insert (l := []) v (Nat.le_refl _) (Nat.le_refl _) (Nat.lt_add_of_pos_right hd)
    | cons b0 rest =>
      rw [hlive] at live
      have hin : ∀ c ∈ b0 :: rest, c ∈ bs ∧ now < c.begin + d * n := fun c hc => mem_liveAt.mp (hlive ▸ hc)
      -- the search found nothing, so the latest live bucket lies a whole duration back
      have hcov := addInBucket_none _ d now (v, now) bs inv.spaced hsearch b0 (hin b0 List.mem_cons_self).1
      have hge : b0.begin + d ≤ now := Nat.le_of_not_lt fun h => hcov ⟨live.le_T b0 List.mem_cons_self, h⟩
      have hgt : now > b0.begin := Nat.lt_of_lt_of_le (Nat.lt_add_of_pos_right hd) hge
      obtain ⟨a1, a2, a3⟩ := alignLoop_spec d now hd (now + 1) (b0.begin + d) hge (Nat.lt_succ_of_le (Nat.sub_le _ _))
      simp only [hgt, if_true, List.take_of_length_le (live_length live.spaced (fun c hc => (hin c hc).2) hge)]
      refine (live.cons_empty _ (fun c hc => ?_) a2).insert (l := []) v (Nat.le_refl _) a2 a3
      rcases List.mem_cons.mp hc with rfl | hc
      · exact a1
      · exact Nat.le_trans (Nat.le_trans ((List.pairwise_cons.mp live.spaced).1 c hc) (Nat.le_add_right _ d)) a1

def runBuckets (keep : α → Bool) (n d W : Nat) (bs : List (RBucket (α × Nat))) (adds : List (α × Nat)) :
    List (RBucket (α × Nat)) :=
  adds.foldl (fun bs a => addBuckets (fun p => keep p.1) n d W bs a a.2) bs

theorem Inv.run (hd : 1 ≤ d) (adds2 : List (α × Nat)) (now : Nat) (inv : Inv keep d n bs adds T)
    (hp : adds2.Pairwise (fun a b => a.2 ≤ b.2)) (hb : ∀ a ∈ adds2, T ≤ a.2 ∧ a.2 ≤ now) (hT : T ≤ now) :
    Inv keep d n (runBuckets keep n d (d * n) bs adds2) (adds ++ adds2) now := by
  induction adds2 generalizing bs adds T with
  | nil => simpa [runBuckets] using inv.mono hT
  | cons a rest ih =>
    have hp' := List.pairwise_cons.mp hp
    have ht := hb a List.mem_cons_self
    have := ih (inv.step hd a.1 a.2 ht.1) hp'.2
      (fun x hx => ⟨hp'.1 x hx, (hb x (List.mem_cons_of_mem _ hx)).2⟩) ht.2
    simpa [runBuckets] using this

end step

/-- the model itself, started fresh, on time-stamped samples -/
def runT (keep : α → Bool) (n d : Nat) (adds : List (α × Nat)) : Rolling (α × Nat) :=
  adds.foldl (fun r a => r.add (fun p => keep p.1) a a.2) (Rolling.new n d)

theorem runT_eq (keep : α → Bool) (n d : Nat) (adds : List (α × Nat)) :
    runT keep n d adds = { buckets := runBuckets keep n d (d * n) [] adds, maxBuckets := n, bucketDuration := d,
                           maxBucketDuration := d * n, count := adds.length } := by
  have gen : ∀ (adds : List (α × Nat)) (r : Rolling (α × Nat)),
      adds.foldl (fun r a => r.add (fun p => keep p.1) a a.2) r
        = { r with buckets := runBuckets keep r.maxBuckets r.bucketDuration r.maxBucketDuration r.buckets adds,
                   count := r.count + adds.length } := by
    intro adds
    induction adds with
    | nil => intro r; rfl
    | cons a rest ih =>
      intro r
      rw [List.foldl_cons, ih, add_eq]
      simp only [runBuckets, List.foldl_cons, List.length_cons, Nat.add_assoc, Nat.add_comm 1]
  simpa [runT, Rolling.new] using gen adds (Rolling.new n d)

theorem mem_snapshot (r : Rolling α) (now : Nat) (a : α) :
    a ∈ r.snapshot now ↔ ∃ b ∈ r.buckets, now < b.begin + r.maxBucketDuration ∧ a ∈ b.samples := by
  simp only [Rolling.snapshot, List.mem_flatMap, mem_liveAt, and_assoc]

def flat (bs : List (RBucket α)) : List α := bs.flatMap (·.samples)

theorem flat_sublist {l1 l2 : List (RBucket α)} (h : l1.Sublist l2) : (flat l1).Sublist (flat l2) := by
  induction h with
  | slnil => exact List.Sublist.refl _
  | cons a _ ih => exact List.Sublist.trans ih (List.sublist_append_right _ _)
  | cons_cons a _ ih => exact List.Sublist.append (List.Sublist.refl _) ih

theorem addBuckets_flat (keep : α → Bool) (n d W : Nat) (bs : List (RBucket α)) (v : α) (now : Nat) :
    ∃ l, (flat (addBuckets keep n d W bs v now)).Perm l ∧ l.Sublist (v :: flat bs) := by
  -- a fresh bucket in front of some of the old ones
  have fresh : ∀ (beg : Nat) (l : List (RBucket α)), l.Sublist bs →
      (flat (⟨beg, summaryAdd keep [] v⟩ :: l)).Sublist (v :: flat bs) := fun beg l hl => by
    have := flat_sublist hl
    simp only [flat, List.flatMap_cons, summaryAdd] at this ⊢
    split
    · exact this.cons_cons v
    · exact this.cons v
  unfold addBuckets
  cases hs : addInBucket keep d now v bs with
  | some bs' =>
    obtain ⟨l, b, r, rfl, _, _, rfl⟩ := addInBucket_some keep d now v bs bs' hs
    simp only [flat, List.flatMap_append, List.flatMap_cons, summaryAdd]
    split
    · rw [List.append_assoc, List.singleton_append]
      exact ⟨_, (List.perm_middle.append_left _).trans List.perm_middle, List.Sublist.refl _⟩
    · exact ⟨_, List.Perm.refl _, List.sublist_cons_self _ _⟩
  | none =>
    have hsub := liveAt_sublist W now bs
    cases hl : liveAt W now bs with
    | nil => exact ⟨_, List.Perm.refl _, fresh now [] (List.nil_sublist _)⟩
    | cons b0 rest =>
      rw [hl] at hsub
      simp only
      split
      · exact ⟨_, List.Perm.refl _, fresh _ _ (List.Sublist.trans (List.take_sublist _ _) hsub)⟩
      · exact ⟨_, List.Perm.refl _, (flat_sublist hsub).cons v⟩

theorem runBuckets_nodup (keep : α → Bool) (n d W : Nat) (adds : List (α × Nat)) (bs : List (RBucket (α × Nat)))
    (h : (flat bs ++ adds).Nodup) : (flat (runBuckets keep n d W bs adds)).Nodup := by
  induction adds generalizing bs with
  | nil => simpa [runBuckets] using h
  | cons a rest ih =>
    obtain ⟨l, hp, hs⟩ := addBuckets_flat (fun p : α × Nat => keep p.1) n d W bs a a.2
    have h' : ((a :: flat bs) ++ rest).Nodup := List.perm_middle.nodup_iff.mp h
    exact ih _ ((hp.append_right rest).nodup_iff.mpr (h'.sublist (hs.append (List.Sublist.refl rest))))

theorem snapshot_nodup (keep : α → Bool) (n d : Nat) (adds : List (α × Nat)) (hnd : adds.Nodup) (now : Nat) :
    ((runT keep n d adds).snapshot now).Nodup := by
  rw [runT_eq]
  exact List.Nodup.sublist (flat_sublist (liveAt_sublist _ _ _)) (runBuckets_nodup keep n d (d * n) adds [] hnd)

section naturality
variable {β : Type} (f : α → β)

def RBucket.map (b : RBucket α) : RBucket β := ⟨b.begin, b.samples.map f⟩

def Rolling.map (r : Rolling α) : Rolling β :=
  { buckets := r.buckets.map (RBucket.map f), maxBuckets := r.maxBuckets, bucketDuration := r.bucketDuration,
    maxBucketDuration := r.maxBucketDuration, count := r.count }

theorem liveAt_map (W now : Nat) (bs : List (RBucket α)) :
    liveAt W now (bs.map (RBucket.map f)) = (liveAt W now bs).map (RBucket.map f) := by
  unfold liveAt; split
  · rw [List.filter_map]; rfl
  · rfl

theorem snapshot_map (r : Rolling α) (now : Nat) : (r.map f).snapshot now = (r.snapshot now).map f := by
  simp only [Rolling.snapshot, Rolling.map, liveAt_map, List.flatMap_map, List.map_flatMap]
  rfl

section
variable (keepA : α → Bool) (keepB : β → Bool) (hk : ∀ a, keepB (f a) = keepA a)
include hk

theorem summaryAdd_map (s : List α) (v : α) : summaryAdd keepB (s.map f) (f v) = (summaryAdd keepA s v).map f := by
  unfold summaryAdd; rw [hk]; split <;> simp

theorem addInBucket_map (d now : Nat) (v : α) (bs : List (RBucket α)) :
    addInBucket keepB d now (f v) (bs.map (RBucket.map f)) = (addInBucket keepA d now v bs).map (·.map (RBucket.map f)) := by
  induction bs with
  | nil => rfl
  | cons b bs ih =>
    simp only [List.map_cons, addInBucket]
    have e : (RBucket.map f b).begin = b.begin := rfl
    simp only [e]
    split
    · rfl
    · split
      · simp [RBucket.map, summaryAdd_map f keepA keepB hk]
      · rw [ih]; cases addInBucket keepA d now v bs <;> simp

theorem addBuckets_map (n d W : Nat) (bs : List (RBucket α)) (v : α) (now : Nat) :
    addBuckets keepB n d W (bs.map (RBucket.map f)) (f v) now = (addBuckets keepA n d W bs v now).map (RBucket.map f) := by
  have fresh : ∀ beg : Nat, (⟨beg, summaryAdd keepB [] (f v)⟩ : RBucket β) = RBucket.map f ⟨beg, summaryAdd keepA [] v⟩ :=
    fun beg => congrArg (RBucket.mk beg) (summaryAdd_map f keepA keepB hk [] v)
  unfold addBuckets
  rw [addInBucket_map f keepA keepB hk, liveAt_map]
  cases addInBucket keepA d now v bs with
  | some r => rfl
  | none =>
    simp only [Option.map_none]
    cases liveAt W now bs with
    | nil => simp only [List.map_nil, List.map_cons, fresh]
    | cons b0 rest =>
      simp only [List.map_cons]
      have e : (RBucket.map f b0).begin = b0.begin := rfl
      rw [e]
      split
      · simp only [List.map_cons, List.map_take, fresh]
      · rfl

theorem add_map (r : Rolling α) (v : α) (now : Nat) : (r.map f).add keepB (f v) now = (r.add keepA v now).map f := by
  simp only [add_eq, Rolling.map, addBuckets_map f keepA keepB hk]

end

theorem run_map (keep : α → Bool) (n d : Nat) (adds : List (α × Nat)) :
    adds.foldl (fun r a => r.add keep a.1 a.2) (Rolling.new n d) = (runT keep n d adds).map Prod.fst :=
  List.foldl_hom (init := Rolling.new n d) (Rolling.map Prod.fst) fun r a => add_map Prod.fst (fun p : α × Nat => keep p.1) keep (fun _ => rfl) r a a.2

theorem run_count (keep : α → Bool) (n d : Nat) (adds : List (α × Nat)) :
    (adds.foldl (fun r a => r.add keep a.1 a.2) (Rolling.new n d)).count = adds.length := by
  rw [run_map, runT_eq]; rfl

end naturality

theorem keepFV_iff (v : FV) : keepFV v = true ↔ v.isInfinite = false := by simp [keepFV]

theorem recordSamples_eq (samples : List (FV × Nat)) : ∀ s : SummaryDist, s.recordSamples samples =
    { rolling := samples.foldl (fun r a => r.add keepFV a.1 a.2) s.rolling,
      sum := (samples.map Prod.fst).foldl FSum.add s.sum } := by
  induction samples with
  | nil => intro s; rfl
  | cons a rest ih => intro s; exact ih _

def isFin : FV → Bool
  | .fin _ => true
  | _ => false

/-- `m` counts the finite samples `S`; while there are none it holds the initial +∞ / -∞ of `DDSketch::new`, afterwards
    its min and max are members of `S` -/
def Good (m : MinMax) (S : List FV) : Prop :=
  m.total = S.length ∧ m.pos ≤ m.total ∧ (m.total = 0 → m.min = .pinf ∧ m.max = .ninf)
  ∧ (0 < m.total → m.min ∈ S ∧ m.max ∈ S)

theorem Good.empty : Good {} [] := ⟨rfl, Nat.le_refl _, fun _ => ⟨rfl, rfl⟩, nofun⟩

theorem ite_mem {c : Prop} [Decidable c] {x y : FV} {l : List FV} (hx : c → x ∈ l) (hy : ¬ c → y ∈ l) :
    (if c then x else y) ∈ l := by
  split
  · exact hx ‹_›
  · exact hy ‹_›

theorem Good.add {m : MinMax} {S : List FV} (g : Good m S) (v : FV) (hv : isFin v = true) : Good (m.add v) (S ++ [v]) := by
  obtain ⟨g1, g2, g3, g4⟩ := g
  cases v with
  | fin n =>
    -- the old min/max is a sample unless there is none yet, and then the initial +∞ / -∞ gives way to the new value
    have hmin : ¬ FV.lt (.fin n) m.min = true → m.min ∈ S := fun h =>
      (Nat.eq_zero_or_pos m.total).elim (fun h0 => by rw [(g3 h0).1] at h; exact absurd rfl h) fun h0 => (g4 h0).1
    have hmax : ¬ FV.lt m.max (.fin n) = true → m.max ∈ S := fun h =>
      (Nat.eq_zero_or_pos m.total).elim (fun h0 => by rw [(g3 h0).2] at h; exact absurd rfl h) fun h0 => (g4 h0).2
    have new : FV.fin n ∈ S ++ [FV.fin n] := List.mem_append_right _ (List.mem_singleton_self _)
    refine ⟨?_, ?_, fun h => absurd h (Nat.succ_ne_zero _), fun _ =>
      ⟨ite_mem (fun _ => new) fun h => List.mem_append_left _ (hmin h),
       ite_mem (fun _ => new) fun h => List.mem_append_left _ (hmax h)⟩⟩
    · rw [List.length_append, ← g1]; rfl
    · show (if isPositive (.fin n) = true then m.pos + 1 else m.pos) ≤ m.total + 1
      split <;> omega
  | nan => cases hv
  | pinf => cases hv
  | ninf => cases hv

theorem Good.bucket : ∀ (xs : List FV) (m : MinMax) (S : List FV), Good m S → (∀ x ∈ xs, isFin x = true) →
    Good (xs.foldl MinMax.add m) (S ++ xs) := by
  intro xs
  induction xs with
  | nil => intro m S g _; simpa using g
  | cons x xs ih =>
    intro m S g h
    have := ih (m.add x) (S ++ [x]) (g.add x (h x List.mem_cons_self)) (fun y hy => h y (List.mem_cons_of_mem _ hy))
    simpa [List.append_assoc] using this

theorem Good.of_bucket {xs : List FV} (h : ∀ x ∈ xs, isFin x = true) : Good (bucketMinMax xs) xs :=
  Good.bucket xs {} [] Good.empty h

/-- the repaired `Summary::merge` keeps min and max among the samples -/
theorem Good.merge {s o : MinMax} {S So : List FV} (gs : Good s S) (go : Good o So) :
    Good (summaryMerge true s o) (S ++ So) := by
  obtain ⟨s1, s2, s3, s4⟩ := gs
  obtain ⟨o1, o2, o3, o4⟩ := go
  unfold summaryMerge
  by_cases h0 : o.total = 0
  · -- an empty `other` is skipped
    rw [if_pos (by simp [h0]), List.length_eq_zero_iff.mp (o1.symm.trans h0), List.append_nil]
    exact ⟨s1, s2, s3, s4⟩
  · rw [if_neg (by simp [h0])]
    obtain ⟨m1, m2⟩ := o4 (Nat.pos_of_ne_zero h0)
    -- `s` keeps its min/max only if it has a positive sample, hence a sample
    have keep : ¬ (s.pos == 0) = true → s.min ∈ S ∧ s.max ∈ S := fun h =>
      s4 (Nat.lt_of_lt_of_le (Nat.pos_of_ne_zero (mt beq_iff_eq.mpr h)) s2)
    refine ⟨?_, Nat.add_le_add s2 o2, fun h => absurd (Nat.eq_zero_of_add_eq_zero h).2 h0, fun _ => ⟨?_, ?_⟩⟩
    · rw [List.length_append, ← s1, ← o1]; rfl
    · exact ite_mem (fun _ => List.mem_append_right _ m1) fun h =>
        ite_mem (fun _ => List.mem_append_right _ m1) fun _ => List.mem_append_left _ (keep h).1
    · exact ite_mem (fun _ => List.mem_append_right _ m2) fun h =>
        ite_mem (fun _ => List.mem_append_right _ m2) fun _ => List.mem_append_left _ (keep h).2

theorem Good.buckets : ∀ (bs : List (RBucket FV)) (acc : MinMax) (S : List FV), Good acc S →
    (∀ b ∈ bs, ∀ x ∈ b.samples, isFin x = true) →
    Good (bs.foldl (fun acc b => summaryMerge true acc (bucketMinMax b.samples)) acc) (S ++ bs.flatMap (·.samples)) := by
  intro bs
  induction bs with
  | nil => intro acc S g _; simpa using g
  | cons b bs ih =>
    intro acc S g h
    have := ih _ (S ++ b.samples) (g.merge (Good.of_bucket (h b List.mem_cons_self)))
      (fun b' hb' => h b' (List.mem_cons_of_mem _ hb'))
    simpa [List.append_assoc] using this

theorem Good.snapshot (r : Rolling FV) (now : Nat) (hfin : ∀ x ∈ r.snapshot now, isFin x = true) :
    Good (snapshotMinMax true r now) (r.snapshot now) := by
  have := Good.buckets (liveAt r.maxBucketDuration now r.buckets) {} [] Good.empty
    fun b hb x hx => hfin x (List.mem_flatMap.mpr ⟨b, hb, hx⟩)
  simpa [snapshotMinMax, Rolling.snapshot] using this

/-- the stores of `s` hold only samples of `xs`, each in the store of its class, a non-zero zero count is witnessed by a
    zero-class sample of `xs`, and `s` counts as many samples as `xs` has -/
structure Within (minU : Nat) (s : Sketch) (xs : List FV) : Prop where
  neg : ∀ v ∈ s.neg, v ∈ xs ∧ clsOf minU v = .neg
  pos : ∀ v ∈ s.pos, v ∈ xs ∧ clsOf minU v = .pos
  zero : 0 < s.zero → ∃ v ∈ xs, clsOf minU v = .zero
  count : s.count = xs.length

theorem Within.empty (minU : Nat) : Within minU {} [] :=
  ⟨(fun _ h => nomatch h), (fun _ h => nomatch h), fun h => absurd h (Nat.lt_irrefl 0), rfl⟩

theorem Within.merge {minU : Nat} {s o : Sketch} {xs ys : List FV} (ws : Within minU s xs) (wo : Within minU o ys) :
    Within minU (s.merge o) (xs ++ ys) := by
  -- a store of the merge is the two stores appended; so are the samples
  have store : ∀ {c : Cls} {a b : List FV}, (∀ v ∈ a, v ∈ xs ∧ clsOf minU v = c) → (∀ v ∈ b, v ∈ ys ∧ clsOf minU v = c) →
      ∀ v ∈ a ++ b, v ∈ xs ++ ys ∧ clsOf minU v = c := fun ha hb v hv =>
    (List.mem_append.mp hv).elim (fun h => (ha v h).imp_left (List.mem_append_left _))
      fun h => (hb v h).imp_left (List.mem_append_right _)
  refine ⟨store ws.neg wo.neg, store ws.pos wo.pos, fun hz => ?_, ?_⟩
  · rcases Nat.eq_zero_or_pos s.zero with h | h
    · obtain ⟨x, hx, hx'⟩ := wo.zero (by rw [Sketch.merge, h, Nat.zero_add] at hz; exact hz)
      exact ⟨x, List.mem_append_right _ hx, hx'⟩
    · obtain ⟨x, hx, hx'⟩ := ws.zero h
      exact ⟨x, List.mem_append_left _ hx, hx'⟩
  · have a := ws.count
    have b := wo.count
    simp only [Sketch.count, Sketch.merge, List.length_append] at a b ⊢
    omega

/-- `DDSketch::add` is the merge with the sketch of that one sample -/
theorem Within.add {minU : Nat} {s : Sketch} {xs : List FV} (w : Within minU s xs) (v : FV) :
    Within minU (s.add minU v) (xs ++ [v]) := by
  have single : Within minU (Sketch.add minU {} v) [v] := by
    have mem : ∀ {c : Cls}, clsOf minU v = c → ∀ x ∈ [v], x ∈ [v] ∧ clsOf minU x = c :=
      fun hc x hx => ⟨hx, List.mem_singleton.mp hx ▸ hc⟩
    unfold Sketch.add
    cases hc : clsOf minU v with
    | neg => exact ⟨mem hc, (fun _ h => nomatch h), fun h => absurd h (Nat.lt_irrefl 0), rfl⟩
    | zero => exact ⟨(fun _ h => nomatch h), (fun _ h => nomatch h), fun _ => ⟨v, List.mem_singleton_self v, hc⟩, rfl⟩
    | pos => exact ⟨(fun _ h => nomatch h), mem hc, fun h => absurd h (Nat.lt_irrefl 0), rfl⟩
  have e : s.add minU v = s.merge (Sketch.add minU {} v) := by
    unfold Sketch.add Sketch.merge
    cases clsOf minU v <;> simp
  rw [e]
  exact w.merge single

theorem Within.bucket (minU : Nat) : ∀ (ys : List FV) (acc : Sketch) (xs : List FV), Within minU acc xs →
    Within minU (ys.foldl (Sketch.add minU) acc) (xs ++ ys) := by
  intro ys
  induction ys with
  | nil => intro acc xs w; simpa using w
  | cons y ys ih =>
    intro acc xs w
    have := ih (acc.add minU y) (xs ++ [y]) (w.add y)
    simpa [List.append_assoc] using this

theorem Within.of_bucket (minU : Nat) (ys : List FV) : Within minU (bucketSketch minU ys) ys :=
  Within.bucket minU ys {} [] (Within.empty minU)

theorem Within.buckets (minU : Nat) : ∀ (bs : List (RBucket FV)) (acc : Sketch) (xs : List FV), Within minU acc xs →
    Within minU (bs.foldl (fun acc b => acc.merge (bucketSketch minU b.samples)) acc) (xs ++ bs.flatMap (·.samples)) := by
  intro bs
  induction bs with
  | nil => intro acc xs w; simpa using w
  | cons b bs ih =>
    intro acc xs w
    have := ih _ (xs ++ b.samples) (w.merge (Within.of_bucket minU b.samples))
    simpa [List.append_assoc] using this

theorem Within.snapshot (minU : Nat) (r : Rolling FV) (now : Nat) :
    Within minU (snapshotSketch minU r now) (r.snapshot now) := by
  have := Within.buckets minU (liveAt r.maxBucketDuration now r.buckets) {} [] (Within.empty minU)
  simpa [snapshotSketch, Rolling.snapshot] using this

theorem insertBy_perm (le : FV → FV → Bool) (x : FV) : ∀ l, (insertBy le x l).Perm (x :: l)
  | [] => .refl _
  | y :: l => by
    rw [insertBy]
    split
    · exact .refl _
    · exact ((insertBy_perm le x l).cons y).trans (.swap x y l)

theorem sortBy_perm (le : FV → FV → Bool) : ∀ l, (sortBy le l).Perm l
  | [] => .refl _
  | x :: l => (insertBy_perm le x _).trans ((sortBy_perm le l).cons x)

theorem storeAtRank_spec (le : FV → FV → Bool) (store : List FV) (rank : Nat) (h : store ≠ []) :
    ∃ x ∈ store, storeAtRank le store rank = some x := by
  have p := sortBy_perm le store
  unfold storeAtRank
  split
  · rename_i y hy
    exact ⟨y, p.mem_iff.mp (List.mem_of_getElem? hy), rfl⟩
  · cases hl : (sortBy le store).getLast? with
    | some x => exact ⟨x, p.mem_iff.mp (List.mem_of_getLast? hl), rfl⟩
    | none =>
      rw [List.getLast?_eq_none_iff.mp hl] at p
      exact absurd p.nil_eq.symm h

theorem rankOf_lt {num den : Nat} (h : num ≤ den) {c : Nat} (hc : 0 < c) : rankOf num den c < c := by
  have : num * (c - 1) / den ≤ c - 1 := Nat.div_le_of_le_mul (Nat.mul_le_mul_right _ h)
  unfold rankOf
  omega

end MetricsVerif.Rolling
