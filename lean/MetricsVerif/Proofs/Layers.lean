/-
Helper lemmas for C13 (layers): strings, the trie model, the route builder (`get_built`: what the finished tries
hold), list forms of the mutually recursive model functions, handle-tree counting, runs of the `FilterLayer` builder.
-/
import MetricsVerif.Model.Layers

namespace MetricsVerif.Layers

theorem isPrefixOf_iff (p s : Str) : isPrefixOf p s = true ↔ p <+: s := by
  induction p generalizing s with
  | nil => simp [isPrefixOf]
  | cons a as ih =>
    cases s with
    | nil => simp [isPrefixOf]
    | cons b bs =>
      simp only [isPrefixOf, Bool.and_eq_true, beq_iff_eq, ih, List.prefix_cons_iff]
      constructor
      · rintro ⟨rfl, h⟩; exact Or.inr ⟨as, rfl, h⟩
      · rintro (h | ⟨t, h, ht⟩)
        · cases h
        · cases h; exact ⟨rfl, ht⟩

theorem isInfixOf_iff (p s : Str) : isInfixOf p s = true ↔ p <:+: s := by
  induction s with
  | nil => simp [isInfixOf, isPrefixOf_iff]
  | cons c cs ih =>
    simp only [isInfixOf, Bool.or_eq_true, isPrefixOf_iff, ih, List.infix_cons_iff]

theorem Trie.get_child (t : Trie) (c : Char) (k : Str) :
    Trie.get (Trie.child t c) k = Trie.get t (c :: k) := by
  induction t with
  | nil => simp [Trie.child, Trie.get]
  | cons e rest ih =>
    obtain ⟨k', v⟩ := e
    cases k' with
    | nil => simp [Trie.child, Trie.get, ih]
    | cons c' k'' =>
      simp only [Trie.child]
      by_cases hc : c' = c
      · subst hc
        simp only [if_true, Trie.get, ih, List.cons.injEq, true_and]
      · have : ¬ (c' :: k'' = c :: k) := fun h => hc (List.cons.inj h).1
        simp [hc, Trie.get, ih, this]

/-- `get_ancestor` finds nothing only when no prefix of the name carries a value -/
theorem Trie.getAncestor_none (t : Trie) (name : Str) (h : Trie.getAncestor t name = none) :
    ∀ k', k' <+: name → Trie.get t k' = none := by
  induction name generalizing t with
  | nil =>
    intro k' hk'
    rw [List.prefix_nil] at hk'
    subst hk'
    simpa [Trie.getAncestor] using h
  | cons c cs ih =>
    intro k' hk'
    simp only [Trie.getAncestor] at h
    cases hr : Trie.getAncestor (Trie.child t c) cs with
    | some kv => rw [hr] at h; simp at h
    | none =>
      rw [hr] at h
      rcases List.prefix_cons_iff.mp hk' with rfl | ⟨t', rfl, ht'⟩
      · simpa using h
      · rw [← Trie.get_child]; exact ih _ hr t' ht'

/-- `get_ancestor` returns a key that is a prefix of the name, carries that value, and no longer prefix of
    the name carries a value -/
theorem Trie.getAncestor_some (t : Trie) (name k : Str) (v : Nat)
    (h : Trie.getAncestor t name = some (k, v)) :
    k <+: name ∧ Trie.get t k = some v ∧
      ∀ k', k' <+: name → (Trie.get t k').isSome = true → k'.length ≤ k.length := by
  induction name generalizing t k v with
  | nil =>
    simp only [Trie.getAncestor, Option.map_eq_some_iff, Prod.mk.injEq] at h
    obtain ⟨v', hv, rfl, rfl⟩ := h
    refine ⟨List.prefix_refl _, hv, ?_⟩
    intro k' hk' _
    rw [List.prefix_nil] at hk'
    subst hk'; simp
  | cons c cs ih =>
    simp only [Trie.getAncestor] at h
    cases hr : Trie.getAncestor (Trie.child t c) cs with
    | some kv =>
      obtain ⟨k0, v0⟩ := kv
      rw [hr] at h
      simp only [Option.some.injEq, Prod.mk.injEq] at h
      obtain ⟨rfl, rfl⟩ := h
      obtain ⟨h1, h2, h3⟩ := ih _ _ _ hr
      refine ⟨?_, ?_, ?_⟩
      · exact List.prefix_cons_iff.mpr (Or.inr ⟨k0, rfl, h1⟩)
      · rw [← Trie.get_child]; exact h2
      · intro k' hk' hs
        rcases List.prefix_cons_iff.mp hk' with rfl | ⟨t', rfl, ht'⟩
        · simp
        · have := h3 t' ht' (by rw [Trie.get_child]; exact hs)
          simp only [List.length_cons]; omega
    | none =>
      rw [hr] at h
      simp only [Option.map_eq_some_iff, Prod.mk.injEq] at h
      obtain ⟨v', hv, rfl, rfl⟩ := h
      refine ⟨List.nil_prefix, hv, ?_⟩
      intro k' hk' hs
      rcases List.prefix_cons_iff.mp hk' with rfl | ⟨t', rfl, ht'⟩
      · simp
      · exfalso
        have hn := Trie.getAncestor_none (Trie.child t c) cs hr t' ht'
        rw [Trie.get_child] at hn
        rw [hn] at hs
        simp at hs

/-- position of the last route (in `add_route` order) that covers kind `k` and has exactly the pattern `p` -/
def lastIdx (k : Kind) (p : Str) : List (Mask × Str) → Option Nat
  | [] => none
  | (m, q) :: rest =>
    match lastIdx k p rest with
    | some j => some (j + 1)
    | none => if m.covers k = true ∧ q = p then some 0 else none

theorem lastIdx_none (k : Kind) (p : Str) (rs : List (Mask × Str)) (h : lastIdx k p rs = none) :
    ∀ m, (m, p) ∈ rs → ¬ m.covers k = true := by
  induction rs with
  | nil => intro m hm; simp at hm
  | cons r rest ih =>
    obtain ⟨m0, q⟩ := r
    simp only [lastIdx] at h
    cases hr : lastIdx k p rest with
    | some j0 => rw [hr] at h; simp at h
    | none =>
      rw [hr] at h
      intro m hm hc
      rcases List.mem_cons.mp hm with heq | hmem
      · simp only [Prod.mk.injEq] at heq
        obtain ⟨rfl, rfl⟩ := heq
        simp [hc] at h
      · exact ih hr m hmem hc

theorem lastIdx_some (k : Kind) (p : Str) (rs : List (Mask × Str)) (j : Nat) (h : lastIdx k p rs = some j) :
    ∃ m, rs[j]? = some (m, p) ∧ m.covers k = true ∧
      ∀ j' m', rs[j']? = some (m', p) → m'.covers k = true → j' ≤ j := by
  induction rs generalizing j with
  | nil => cases h
  | cons r rest ih =>
    obtain ⟨m, q⟩ := r
    cases hr : lastIdx k p rest with
    | some j0 =>
      simp only [lastIdx, hr, Option.some.injEq] at h
      subst h
      obtain ⟨m0, h1, h2, h3⟩ := ih j0 hr
      refine ⟨m0, h1, h2, fun j' m' hj' hc => ?_⟩
      cases j' with
      | zero => exact Nat.zero_le _
      | succ j'' => exact Nat.succ_le_succ (h3 j'' m' hj' hc)
    | none =>
      simp only [lastIdx, hr] at h
      split at h
      · next hc =>
        cases h
        obtain ⟨hc1, rfl⟩ := hc
        refine ⟨m, rfl, hc1, fun j' m' hj' hc' => ?_⟩
        cases j' with
        | zero => exact Nat.le_refl _
        | succ j'' => exact absurd hc' (lastIdx_none k q rest hr m' (List.mem_of_getElem? hj'))
      · cases h

theorem Builder.nTargets_addRoute (b : Builder) (m : Mask) (q : Str) :
    (b.addRoute m q).nTargets = b.nTargets + 1 := by
  cases m <;> rfl

theorem Builder.get_addRoute (b : Builder) (m : Mask) (q : Str) (k : Kind) (p : Str) :
    Trie.get ((b.addRoute m q).routes k) p
      = if m.covers k = true ∧ q = p then some b.nTargets else Trie.get (b.routes k) p := by
  cases m <;> cases k <;>
    simp [Builder.addRoute, Builder.routes, Mask.covers, Trie.insert, Trie.get]

theorem Builder.maskCovers_addRoute (b : Builder) (m : Mask) (q : Str) (k : Kind) :
    (b.addRoute m q).maskCovers k = (b.maskCovers k || m.covers k) := by
  cases m <;> cases k <;> simp [Builder.addRoute, Builder.maskCovers, Mask.covers]

theorem Builder.get_addRoutes (rs : List (Mask × Str)) (b : Builder) (k : Kind) (p : Str) :
    Trie.get ((b.addRoutes rs).routes k) p
      = match lastIdx k p rs with
        | some j => some (b.nTargets + j)
        | none => Trie.get (b.routes k) p := by
  induction rs generalizing b with
  | nil => simp [Builder.addRoutes, lastIdx]
  | cons r rest ih =>
    obtain ⟨m, q⟩ := r
    simp only [Builder.addRoutes, lastIdx]
    rw [ih]
    cases hr : lastIdx k p rest with
    | some j => simp only [Builder.nTargets_addRoute]; congr 1; omega
    | none =>
      simp only [Builder.get_addRoute]
      split <;> simp

theorem Builder.maskCovers_addRoutes (rs : List (Mask × Str)) (b : Builder) (k : Kind) :
    (b.addRoutes rs).maskCovers k = (b.maskCovers k || rs.any (fun r => r.1.covers k)) := by
  induction rs generalizing b with
  | nil => simp [Builder.addRoutes]
  | cons r rest ih =>
    obtain ⟨m, q⟩ := r
    simp only [Builder.addRoutes, ih, Builder.maskCovers_addRoute, List.any_cons, Bool.or_assoc]

/-- what the finished router's trie for kind `k` holds under key `p` -/
theorem get_built (rs : List (Mask × Str)) (k : Kind) (p : Str) :
    Trie.get ((Builder.addRoutes {} rs).routes k) p = lastIdx k p rs := by
  rw [Builder.get_addRoutes]
  cases lastIdx k p rs with
  | some j => simp
  | none => cases k <;> simp [Builder.routes, Trie.get]

theorem deliverAll_eq (rs : List Rec) (op : Op) : deliverAll rs op = rs.flatMap (·.deliver op) := by
  induction rs with
  | nil => simp [deliverAll]
  | cons r rs ih => simp [deliverAll, ih]

theorem handleAll_eq (rs : List Rec) (op : Op) : handleAll rs op = rs.map (·.handle op) := by
  induction rs with
  | nil => simp [handleAll]
  | cons r rs ih => simp [handleAll, ih]

theorem deliverNth_of_get (ts : List Rec) (i : Nat) (t : Rec) (op : Op) (h : ts[i]? = some t) :
    deliverNth ts i op = t.deliver op := by
  induction ts generalizing i with
  | nil => cases h
  | cons r rs ih =>
    cases i with
    | zero => cases h; rw [deliverNth]
    | succ i => rw [deliverNth]; exact ih i h

theorem handleNth_of_get (ts : List Rec) (i : Nat) (t : Rec) (op : Op) (h : ts[i]? = some t) :
    handleNth ts i op = t.handle op := by
  induction ts generalizing i with
  | nil => cases h
  | cons r rs ih =>
    cases i with
    | zero => cases h; rw [handleNth]
    | succ i => rw [handleNth]; exact ih i h

theorem applyAll_eq (hs : List Handle) (u : Upd) : applyAll hs u = hs.flatMap (·.apply u) := by
  induction hs with
  | nil => simp [applyAll]
  | cons h hs ih => simp [applyAll, ih]

mutual
/-- the leaf handles of a handle tree, left to right (with multiplicity) -/
def Handle.leaves : Handle → List (Nat × Op)
  | .noop => []
  | .leaf b op => [(b, op)]
  | .fan hs => leavesAll hs
def leavesAll : List Handle → List (Nat × Op)
  | [] => []
  | h :: hs => h.leaves ++ leavesAll hs
end

theorem leavesAll_eq (hs : List Handle) : leavesAll hs = hs.flatMap (·.leaves) := by
  induction hs with
  | nil => simp [leavesAll]
  | cons h hs ih => simp [leavesAll, ih]

theorem count_pair_map (l l' : Nat × Op) (e : Upd) (es : List Upd) :
    (es.map (fun x => (l', x))).count (l, e) = if l' = l then es.count e else 0 := by
  induction es with
  | nil => simp
  | cons x xs ih =>
    simp only [List.map_cons, List.count_cons, ih, beq_iff_eq, Prod.mk.injEq]
    by_cases h : l' = l <;> simp [h]

theorem rounds_flatMap {α β : Type} (f : α → List β) (n : Nat) (one : List α) :
    (rounds n one).flatMap f = rounds n (one.flatMap f) := by
  induction n with
  | zero => simp [rounds]
  | succ n ih => simp [rounds, List.flatMap_append, ih]

theorem count_rounds {α : Type} [BEq α] (a : α) (n : Nat) (one : List α) :
    (rounds n one).count a = n * one.count a := by
  induction n with
  | zero => simp [rounds]
  | succ n ih => simp [rounds, List.count_append, ih, Nat.succ_mul, Nat.add_comm]

theorem norm_hrec_count (v : Nat) (e : Upd) : (norm (.hrec v)).count e = if Upd.hrec v = e then 1 else 0 := by
  simp [norm, List.count_singleton]

theorem FilterCfg.run_nil (c : FilterCfg) : c.run [] = c := rfl

theorem FilterCfg.run_cons (c : FilterCfg) (o : FOp) (ops : List FOp) : c.run (o :: ops) = (c.step o).run ops := rfl

theorem FilterCfg.run_append (c : FilterCfg) (a b : List FOp) : c.run (a ++ b) = (c.run a).run b := by
  simp [FilterCfg.run, List.foldl_append]

theorem cfgOps_append (a b : List LStep) : cfgOps (a ++ b) = cfgOps a ++ cfgOps b := by
  induction a with
  | nil => rfl
  | cons st rest ih => cases st <;> simp [cfgOps, ih]

theorem Handle.applySeq_cons (h : Handle) (u : Upd) (us : List Upd) :
    h.applySeq (u :: us) = h.apply u ++ h.applySeq us := by
  simp [Handle.applySeq]

theorem Handle.applySeq_append (h : Handle) (us vs : List Upd) :
    h.applySeq (us ++ vs) = h.applySeq us ++ h.applySeq vs := by
  simp [Handle.applySeq]

end MetricsVerif.Layers
