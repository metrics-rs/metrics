/-
Invariants of the two-level map of distributions under the drain loop (`drainOne_inv`).  The kind (histogram / summary)
of every distribution the recorder model ever holds is the kind `get_distribution` gives for the plain name of its
family: `KindInv`, an invariant of `Prom.step`, which C08 and C15 use.  The guarded builder never stores an empty list
of bounds (`foldlM_checked`).
-/
import MetricsVerif.Proofs.Prom
import MetricsVerif.Proofs.PromWhole
import MetricsVerif.Proofs.DistBuilder

namespace MetricsVerif.DistBuilder
open MetricsVerif.Prom MetricsVerif.PromFmt MetricsVerif.PromRender

def isHist : Dist → Bool
  | .hist .. => true
  | .summ .. => false

theorem isHist_record (d : Dist) (v : Int) : isHist (d.record v) = isHist d := by
  cases d <;> rfl

theorem isHist_recordMany (vs : List Int) : ∀ d : Dist, isHist (d.recordMany vs) = isHist d := by
  induction vs with
  | nil => intro d; rfl
  | cons v vs ih => intro d; simp only [Dist.recordMany, List.foldl_cons] at ih ⊢; rw [ih, isHist_record]

/-- `get_distribution(name)` builds a histogram exactly when an override matches the name or global buckets are set -/
theorem isHist_newDist (cfg : Cfg) (name : Str) :
    isHist (newDist cfg name) = (cfg.overrides.any (fun mb => mb.1.matches name) || cfg.buckets.isSome) := by
  rw [← Bool.eq_iff_iff.2 (List.find?_isSome.trans List.any_eq_true.symm)]
  unfold newDist
  cases cfg.overrides.find? _ with
  | some x => rfl
  | none => cases cfg.buckets <;> rfl

/-- an invariant of the two-level map of distributions is kept by one round of the drain loop if the entry the
    round creates or updates satisfies it afterwards -/
theorem drainOne_inv (Q : Str → Prop) (P : Str → List Str → Dist → Prop) (cfg : Cfg)
    (ds : List (Str × List (List Str × Dist))) (kh : MKey × List Int) (hq : Q (partsOf cfg kh.1).1)
    (hnew : P (partsOf cfg kh.1).1 (partsOf cfg kh.1).2 ((newDist cfg (partsOf cfg kh.1).1).recordMany kh.2))
    (hrec : ∀ d, P (partsOf cfg kh.1).1 (partsOf cfg kh.1).2 d →
      P (partsOf cfg kh.1).1 (partsOf cfg kh.1).2 (d.recordMany kh.2))
    (h : ∀ f ∈ ds, Q f.1 ∧ ∀ ld ∈ f.2, P f.1 ld.1 ld.2) :
    ∀ f ∈ drainOne cfg ds kh, Q f.1 ∧ ∀ ld ∈ f.2, P f.1 ld.1 ld.2 := by
  unfold drainOne
  unfold partsOf at hq hnew hrec
  generalize keyToParts kh.1.name kh.1.labels cfg.globals = np at hq hnew hrec
  obtain ⟨n, l⟩ := np
  refine upsert_inv (fun k a => Q k ∧ ∀ ld ∈ a, P k ld.1 ld.2) ds n [] _ h ?_ ?_
  · exact ⟨hq, upsert_inv (P n) [] l _ _ (fun _ hx => nomatch hx) hnew hrec⟩
  · exact fun a ha => ⟨ha.1, upsert_inv (P n) a l _ _ ha.2 hnew hrec⟩

/-- the invariant: every distribution kept under family `name` has the kind of `newDist cfg name` -/
def KindInv (cfg : Cfg) (ds : List (Str × List (List Str × Dist))) : Prop :=
  ∀ f ∈ ds, ∀ ld ∈ f.2, isHist ld.2 = isHist (newDist cfg f.1)

theorem drainOne_kind (cfg : Cfg) (ds : List (Str × List (List Str × Dist))) (kh : MKey × List Int)
    (h : KindInv cfg ds) : KindInv cfg (drainOne cfg ds kh) := fun f hf =>
  (drainOne_inv (fun _ => True) (fun n _ d => isHist d = isHist (newDist cfg n)) cfg ds kh trivial
    (isHist_recordMany _ _) (fun d hd => (isHist_recordMany _ d).trans hd) (fun f hf => ⟨trivial, h f hf⟩) f hf).2

theorem drain_kind (s : St) (h : KindInv s.cfg s.dists) : KindInv (drain s).cfg (drain s).dists := by
  rw [drain_cfg, drain_dists]
  exact foldl_inv (KindInv s.cfg) (fun _ => True) (drainOne s.cfg) s.hists
    (fun b a hb _ => drainOne_kind s.cfg b a hb) s.dists h (fun _ _ => trivial)

theorem step_kind (s : St) (op : Op) (h : KindInv s.cfg s.dists) : KindInv (step s op).cfg (step s op).dists := by
  cases op with
  | describe n u d => simp only [step]; split <;> exact h
  | upkeep => exact drain_kind s h
  | _ => exact h

theorem run_kind (ops : List Op) : ∀ s : St, KindInv s.cfg s.dists → KindInv (run s ops).cfg (run s ops).dists := by
  induction ops with
  | nil => intro s h; exact h
  | cons op ops ih => intro s h; simp only [run, List.foldl_cons] at ih ⊢; exact ih _ (step_kind s op h)

theorem foldlM_checked (calls : List (Matcher × List Int)) :
    ∀ (ovs0 ovs : List (Matcher × List Int)), (∀ x ∈ ovs0, x.2 ≠ []) →
      calls.foldlM (fun ovs c => setBucketsForMetricChecked ovs c.1 c.2) ovs0 = some ovs →
      ovs = calls.foldl (fun ovs c => setBucketsForMetric ovs c.1 c.2) ovs0
      ∧ (∀ x ∈ ovs, x.2 ≠ []) ∧ (∀ c ∈ calls, c.2 ≠ []) := by
  induction calls with
  | nil =>
    intro ovs0 ovs h0 h
    cases h
    exact ⟨rfl, h0, nofun⟩
  | cons c cs ih =>
    intro ovs0 ovs h0 h
    rw [List.foldlM_cons, setBucketsForMetricChecked] at h
    split at h
    · rename_i hg
      have hc : c.2 ≠ [] := by simpa [guardNonEmpty] using hg
      obtain ⟨e, h1, h2⟩ := ih _ ovs (upsert_inv (fun _ a => a ≠ []) ovs0 _ [] _ h0 hc fun _ _ => hc) h
      exact ⟨e, h1, List.forall_mem_cons.2 ⟨hc, h2⟩⟩
    · cases h

end MetricsVerif.DistBuilder
