/-
The ownership invariant of the `Cow` heap model (C14) and its preservation by every operation.

Values come and go at two places of the value table only (`pushVal` appends, `killVal` blanks one slot), and each
operation touches at most one heap cell, the one the value points to.  So the invariant is re-established from three
kinds of facts: what a push / kill does to lookups and reference counts, that a value which does not point to the
touched cell still fits the heap (`EntryOk.mono`, `.setVec`, `.setArc`), and the bookkeeping of the touched cell.
-/
import MetricsVerif.Model.Cow
import MetricsVerif.Proofs.ListAt

namespace MetricsVerif.Cow

@[simp] theorem pushVal_statics (s : St) (v g) : (pushVal s v g).statics = s.statics := rfl
@[simp] theorem pushVal_vecs (s : St) (v g) : (pushVal s v g).vecs = s.vecs := rfl
@[simp] theorem pushVal_arcs (s : St) (v g) : (pushVal s v g).arcs = s.arcs := rfl
@[simp] theorem pushVal_leaked (s : St) (v g) : (pushVal s v g).leaked = s.leaked := rfl
@[simp] theorem pushVal_vals (s : St) (v g) : (pushVal s v g).vals = s.vals ++ [some ⟨v, g⟩] := rfl
@[simp] theorem killVal_statics (s : St) (h) : (killVal s h).statics = s.statics := rfl
@[simp] theorem killVal_vecs (s : St) (h) : (killVal s h).vecs = s.vecs := rfl
@[simp] theorem killVal_arcs (s : St) (h) : (killVal s h).arcs = s.arcs := rfl
@[simp] theorem killVal_leaked (s : St) (h) : (killVal s h).leaked = s.leaked := rfl
@[simp] theorem killVal_vals (s : St) (h) : (killVal s h).vals = s.vals.set h none := rfl

theorem getElem?_append_of_some {α} {l l' : List α} {i : Nat} {x : α} (h : l[i]? = some x) :
    (l ++ l')[i]? = some x := by
  rw [List.getElem?_append_left (lt_of_getElem?_some h)]; exact h

theorem getElem?_snoc_some {α} {l : List α} {x y : α} {h : Nat} (hh : (l ++ [x])[h]? = some y) :
    l[h]? = some y ∨ (h = l.length ∧ x = y) := by
  rw [List.getElem?_append] at hh
  split at hh
  · exact .inl hh
  · rw [List.getElem?_singleton] at hh
    split at hh
    · exact .inr ⟨by omega, Option.some.inj hh⟩
    · cases hh

theorem getElem?_set_some {α} {l : List α} {i j : Nat} {x y : α} (h : (l.set i x)[j]? = some y) :
    (j = i ∧ y = x) ∨ (j ≠ i ∧ l[j]? = some y) := by
  rw [List.getElem?_set] at h
  split at h
  · next e =>
    split at h
    · exact .inl ⟨e.symm, (Option.some.inj h).symm⟩
    · cases h
  · next e => exact .inr ⟨fun e' => e e'.symm, h⟩

def refVec (i : Nat) : Option Entry → Bool
  | some e => e.val.ptr == .vec i
  | none => false

def refArc (i : Nat) : Option Entry → Bool
  | some e => e.val.ptr == .arc i
  | none => false

def vecRefs (s : St) (i : Nat) : Nat := s.vals.countP (refVec i)
def arcRefs (s : St) (i : Nat) : Nat := s.vals.countP (refArc i)

theorem refVec_ne {i : Nat} {e : Entry} (h : e.val.ptr ≠ .vec i) : refVec i (some e) = false :=
  beq_eq_false_iff_ne.2 h

theorem refArc_ne {i : Nat} {e : Entry} (h : e.val.ptr ≠ .arc i) : refArc i (some e) = false :=
  beq_eq_false_iff_ne.2 h

theorem refVec_eq {i : Nat} {e : Entry} (h : e.val.ptr = .vec i) : refVec i (some e) = true :=
  beq_iff_eq.2 h

theorem refArc_eq {i : Nat} {e : Entry} (h : e.val.ptr = .arc i) : refArc i (some e) = true :=
  beq_iff_eq.2 h

theorem vals_push {l : List (Option Entry)} {e e' : Entry} {h : Nat} (hh : (l ++ [some e])[h]? = some (some e')) :
    l[h]? = some (some e') ∨ e' = e := by
  rcases getElem?_snoc_some hh with hh | ⟨_, hh⟩
  · exact .inl hh
  · exact .inr (Option.some.inj hh).symm

theorem vals_kill {l : List (Option Entry)} {h h' : Nat} {e' : Entry} (hh : (l.set h none)[h']? = some (some e')) :
    l[h']? = some (some e') := by
  rcases getElem?_set_some hh with ⟨_, hh⟩ | ⟨_, hh⟩
  · cases hh
  · exact hh

theorem count_push {p : Option Entry → Bool} {l : List (Option Entry)} {e : Entry} {b : Bool} (hp : p (some e) = b) :
    (l ++ [some e]).countP p = l.countP p + b.toNat := by
  rw [List.countP_append, List.countP_singleton, hp]
  cases b <;> rfl

theorem count_kill {p : Option Entry → Bool} (hp0 : p none = false) {l : List (Option Entry)} {h : Nat} {e : Entry}
    (hl : l[h]? = some (some e)) {b : Bool} (hp : p (some e) = b) : (l.set h none).countP p + b.toNat = l.countP p := by
  obtain ⟨hlt, hx⟩ := List.getElem?_eq_some_iff.1 hl
  rw [List.countP_set hlt, hx, hp0, hp]
  cases b with
  | true => exact Nat.sub_add_cancel (List.countP_pos_iff.2 ⟨_, List.mem_of_getElem? hl, hp⟩)
  | false => rfl

theorem count_move {p : Option Entry → Bool} (hp0 : p none = false) {l : List (Option Entry)} {h : Nat} {e : Entry}
    (hl : l[h]? = some (some e)) : (l.set h none ++ [some e]).countP p = l.countP p :=
  (count_push rfl).trans (count_kill hp0 hl rfl)

theorem count_eq_zero {p : Option Entry → Bool} (hp0 : p none = false) {l : List (Option Entry)}
    (h : ∀ (h : Nat) (e : Entry), l[h]? = some (some e) → p (some e) = false) : l.countP p = 0 :=
  List.countP_eq_zero.2 fun
    | none, _ => ne_true_of_eq_false hp0
    | some e, hx => let ⟨h', hh⟩ := List.getElem?_of_mem hx; ne_true_of_eq_false (h h' e hh)

/-- a live value fits what its pointer really points to, and reads back what it was built from -/
def EntryOk (s : St) (e : Entry) : Prop :=
  match e.val.ptr with
  | .dangling => e.val.cap = 0 ∧ e.val.len = 0 ∧ e.built = []
  | .stat i => e.val.cap = 0 ∧ s.statics[i]? = some e.built ∧ e.val.len = e.built.length
  | .vec i => e.val.cap ≠ 0 ∧ e.val.cap ≠ usizeMax ∧
      ∃ c, s.vecs[i]? = some c ∧ c.live = true ∧ c.cap = e.val.cap ∧ c.content = e.built ∧ e.val.len = e.built.length
  | .arc i => e.val.cap = usizeMax ∧
      ∃ c, s.arcs[i]? = some c ∧ c.live = true ∧ c.content = e.built ∧ e.val.len = e.built.length

/-- a buffer is live iff exactly one value points to it; it has been freed once iff it is not live -/
def VecOk (s : St) (i : Nat) (c : VecCell) : Prop :=
  vecRefs s i = (if c.live then 1 else 0) ∧ c.frees = (if c.live then 0 else 1)

/-- strong count = the caller's references + the values pointing to the block; live iff count > 0 -/
def ArcOk (s : St) (i : Nat) (c : ArcCell) : Prop :=
  c.strong = c.ext + arcRefs s i ∧ c.live = decide (0 < c.strong) ∧ c.frees = (if c.live then 0 else 1)

structure Inv (s : St) : Prop where
  ent : ∀ (h : Nat) (e : Entry), s.vals[h]? = some (some e) → EntryOk s e
  vec : ∀ (i : Nat) (c : VecCell), s.vecs[i]? = some c → VecOk s i c
  arc : ∀ (i : Nat) (c : ArcCell), s.arcs[i]? = some c → ArcOk s i c
  leak : s.leaked = 0
  small : (∀ (h : Nat) (e : Entry), s.vals[h]? = some (some e) → e.built.length < usizeMax) ∧
    (∀ (i : Nat) (c : ArcCell), s.arcs[i]? = some c → c.content.length < usizeMax)

theorem inv_init : Inv init := by
  constructor <;> simp [init]

theorem Inv.mk' {s : St}
    (ent : ∀ (h : Nat) (e : Entry), s.vals[h]? = some (some e) → EntryOk s e ∧ e.built.length < usizeMax)
    (vec : ∀ (i : Nat) (c : VecCell), s.vecs[i]? = some c → VecOk s i c)
    (arc : ∀ (i : Nat) (c : ArcCell), s.arcs[i]? = some c → ArcOk s i c ∧ c.content.length < usizeMax)
    (leak : s.leaked = 0) : Inv s :=
  ⟨fun h e hh => (ent h e hh).1, vec, fun i c hc => (arc i c hc).1, leak, fun h e hh => (ent h e hh).2,
    fun i c hc => (arc i c hc).2⟩

theorem Inv.ent' {s : St} (hI : Inv s) {h : Nat} {e : Entry} (hh : s.vals[h]? = some (some e)) :
    EntryOk s e ∧ e.built.length < usizeMax :=
  ⟨hI.ent h e hh, hI.small.1 h e hh⟩

theorem Inv.arc' {s : St} (hI : Inv s) {i : Nat} {c : ArcCell} (hc : s.arcs[i]? = some c) :
    ArcOk s i c ∧ c.content.length < usizeMax :=
  ⟨hI.arc i c hc, hI.small.2 i c hc⟩

theorem ArcOk.live {s : St} {i : Nat} {c : ArcCell} (h : ArcOk s i c) (hp : 0 < c.strong) : c.live = true :=
  h.2.1.trans (decide_eq_true hp)

theorem ArcOk.pos {s : St} {i : Nat} {c : ArcCell} (h : ArcOk s i c) (hl : c.live = true) : 0 < c.strong :=
  of_decide_eq_true (h.2.1.symm.trans hl)

theorem VecOk.of_refs {s s' : St} {i : Nat} {c : VecCell} (h : VecOk s i c) (hr : vecRefs s' i = vecRefs s i) :
    VecOk s' i c := by
  unfold VecOk; rw [hr]; exact h

theorem ArcOk.of_refs {s s' : St} {i : Nat} {c : ArcCell} (h : ArcOk s i c) (hr : arcRefs s' i = arcRefs s i) :
    ArcOk s' i c := by
  unfold ArcOk; rw [hr]; exact h

theorem Inv.vecRefs_fresh {s : St} (hI : Inv s) : vecRefs s s.vecs.length = 0 :=
  count_eq_zero rfl fun h e hh => refVec_ne fun hp => by
    have hE := hI.ent h e hh
    rw [EntryOk, hp] at hE
    obtain ⟨_, _, c, hc, _⟩ := hE
    exact Nat.lt_irrefl _ (lt_of_getElem?_some hc)

theorem Inv.arcRefs_fresh {s : St} (hI : Inv s) : arcRefs s s.arcs.length = 0 :=
  count_eq_zero rfl fun h e hh => refArc_ne fun hp => by
    have hE := hI.ent h e hh
    rw [EntryOk, hp] at hE
    obtain ⟨_, c, hc, _⟩ := hE
    exact Nat.lt_irrefl _ (lt_of_getElem?_some hc)

theorem EntryOk.frame {s s' : St} {e : Entry} (h : EntryOk s e)
    (hs : ∀ (i : Nat) (c : Content), s.statics[i]? = some c → s'.statics[i]? = some c)
    (hv : ∀ (i : Nat) (c : VecCell), e.val.ptr = .vec i → s.vecs[i]? = some c → c.live = true →
      ∃ c', s'.vecs[i]? = some c' ∧ c'.live = true ∧ c'.cap = c.cap ∧ c'.content = c.content)
    (ha : ∀ (i : Nat) (c : ArcCell), e.val.ptr = .arc i → s.arcs[i]? = some c → c.live = true →
      ∃ c', s'.arcs[i]? = some c' ∧ c'.live = true ∧ c'.content = c.content) :
    EntryOk s' e := by
  unfold EntryOk at h ⊢
  split at h
  · exact h
  · exact ⟨h.1, hs _ _ h.2.1, h.2.2⟩
  · next i hp =>
    obtain ⟨h1, h2, c, hc, hl, hcap, hcont, hlen⟩ := h
    obtain ⟨c', hc', hl', hcap', hcont'⟩ := hv i c hp hc hl
    exact ⟨h1, h2, c', hc', hl', hcap'.trans hcap, hcont'.trans hcont, hlen⟩
  · next i hp =>
    obtain ⟨h1, c, hc, hl, hcont, hlen⟩ := h
    obtain ⟨c', hc', hl', hcont'⟩ := ha i c hp hc hl
    exact ⟨h1, c', hc', hl', hcont'.trans hcont, hlen⟩

theorem EntryOk.mono {s s' : St} {e : Entry} (h : EntryOk s e)
    (hs : ∀ (i : Nat) (c : Content), s.statics[i]? = some c → s'.statics[i]? = some c)
    (hv : ∀ (i : Nat) (c : VecCell), s.vecs[i]? = some c → s'.vecs[i]? = some c)
    (ha : ∀ (i : Nat) (c : ArcCell), s.arcs[i]? = some c → s'.arcs[i]? = some c) : EntryOk s' e :=
  h.frame hs (fun i c _ hc hl => ⟨c, hv i c hc, hl, rfl, rfl⟩) (fun i c _ hc hl => ⟨c, ha i c hc, hl, rfl⟩)

theorem EntryOk.setVec {s : St} {e : Entry} (h : EntryOk s e) {i : Nat} (hn : e.val.ptr ≠ .vec i) (c' : VecCell)
    {s' : St} (hs : s'.statics = s.statics) (hv : s'.vecs = s.vecs.set i c') (ha : s'.arcs = s.arcs) :
    EntryOk s' e :=
  h.frame (fun _ _ h => hs ▸ h)
    (fun j c hp hc hl => ⟨c, by rw [hv, List.getElem?_set_ne fun (ej : i = j) => hn (ej ▸ hp)]; exact hc, hl, rfl, rfl⟩)
    (fun _ c _ hc hl => ⟨c, ha ▸ hc, hl, rfl⟩)

theorem EntryOk.setArc {s : St} {e : Entry} (h : EntryOk s e) {i : Nat} {c c' : ArcCell} (hc : s.arcs[i]? = some c)
    {s' : St} (hs : s'.statics = s.statics) (hv : s'.vecs = s.vecs) (ha : s'.arcs = s.arcs.set i c')
    (hcont : c'.content = c.content) (hl' : e.val.ptr = .arc i → c'.live = true) : EntryOk s' e :=
  h.frame (fun _ _ h => hs ▸ h) (fun _ c _ hc hl => ⟨c, hv ▸ hc, hl, rfl, rfl⟩) fun j cj hp hcj hlj => by
    rw [ha]
    by_cases ej : j = i
    · subst ej
      cases hc.symm.trans hcj
      exact ⟨c', List.getElem?_set_self (lt_of_getElem?_some hc), hl' hp, hcont⟩
    · exact ⟨cj, by rw [List.getElem?_set_ne (Ne.symm ej)]; exact hcj, hlj, rfl⟩

theorem inv_addStatic {s : St} (hI : Inv s) (c : Content) : Inv { s with statics := s.statics ++ [c] } :=
  ⟨fun h e hh => (hI.ent h e hh).mono (fun _ _ h => getElem?_append_of_some h) (fun _ _ h => h) (fun _ _ h => h),
    hI.vec, hI.arc, hI.leak, hI.small⟩

/-- a new value that owns nothing (Borrowed: `from_borrowed`, a clone of a Borrowed value, a capacity-0 `Vec`) -/
theorem inv_pushPlain {s : St} (hI : Inv s) (e : Entry) (he : EntryOk s e)
    (hnv : ∀ i, e.val.ptr ≠ .vec i) (hna : ∀ i, e.val.ptr ≠ .arc i) (hs : e.built.length < usizeMax) :
    Inv (pushVal s e.val e.built) := by
  refine .mk' (fun h e' hh => ?_) (fun i c hc => (hI.vec i c hc).of_refs (count_push (refVec_ne (hnv i))))
    (fun i c hc => ⟨(hI.arc i c hc).of_refs (count_push (refArc_ne (hna i))), hI.small.2 i c hc⟩) hI.leak
  rcases vals_push hh with hh | rfl
  · exact hI.ent' hh
  · exact ⟨he, hs⟩

/-- `from_owned` of a `Vec` with a real buffer / clone of an Owned value -/
theorem inv_newOwned {s : St} (hI : Inv s) (c : Content) (cap : Nat) (h0 : cap ≠ 0) (hm : cap ≠ usizeMax)
    (hs : c.length < usizeMax) :
    Inv (pushVal { s with vecs := s.vecs ++ [{ cap, content := c, live := true, frees := 0 }] }
          ⟨.vec s.vecs.length, c.length, cap⟩ c) := by
  refine .mk' (fun h e hh => ?_) (fun i c1 hc => ?_)
    (fun i c1 hc => ⟨(hI.arc i c1 hc).of_refs (count_push rfl), hI.small.2 i c1 hc⟩) hI.leak
  · rcases vals_push hh with hh | rfl
    · exact ⟨(hI.ent h e hh).mono (fun _ _ h => h) (fun _ _ h => getElem?_append_of_some h) (fun _ _ h => h),
        hI.small.1 h e hh⟩
    · exact ⟨⟨h0, hm, _, List.getElem?_concat_length, rfl, rfl, rfl, rfl⟩, hs⟩
  · rcases getElem?_snoc_some hc with hc | ⟨rfl, rfl⟩
    · refine (hI.vec i c1 hc).of_refs (count_push (refVec_ne fun hp => ?_))
      cases hp
      exact Nat.lt_irrefl _ (lt_of_getElem?_some hc)
    · exact ⟨(count_push (refVec_eq rfl)).trans (congrArg (· + 1) hI.vecRefs_fresh), rfl⟩

/-- `from_shared` of a clone of a held `Arc` / clone of a Shared value -/
theorem inv_newShared {s : St} (hI : Inv s) (a : Nat) (c : ArcCell) (hc : s.arcs[a]? = some c) (hl : c.live = true) :
    Inv (pushVal { s with arcs := s.arcs.set a { c with strong := c.strong + 1 } }
          ⟨.arc a, c.content.length, usizeMax⟩ c.content) := by
  refine .mk' (fun h e hh => ?_) (fun i c1 hc1 => (hI.vec i c1 hc1).of_refs (count_push rfl)) (fun i c1 hc1 => ?_)
    hI.leak
  · rcases vals_push hh with hh | rfl
    · exact ⟨(hI.ent h e hh).setArc hc rfl rfl rfl rfl fun _ => hl, hI.small.1 h e hh⟩
    · exact ⟨⟨rfl, _, List.getElem?_set_self (lt_of_getElem?_some hc), hl, rfl, rfl⟩, hI.small.2 a c hc⟩
  · rcases getElem?_set_some hc1 with ⟨rfl, rfl⟩ | ⟨hi, hx⟩
    · obtain ⟨⟨h1, h2, h3⟩, h4⟩ := hI.arc' hc
      refine ⟨⟨?_, ?_, h3⟩, h4⟩
      · show c.strong + 1 = c.ext + (pushVal _ _ _).vals.countP (refArc i)
        rw [pushVal_vals, count_push (refArc_eq rfl), h1]; rfl
      · exact hl.trans (decide_eq_true (Nat.succ_pos _)).symm
    · obtain ⟨h1, h4⟩ := hI.arc' hx
      exact ⟨h1.of_refs (count_push (refArc_ne fun hp => hi (Ptr.arc.inj hp).symm)), h4⟩

/-- a value that owns nothing goes away (drop / move-out of a Borrowed value) -/
theorem inv_killPlain {s : St} (hI : Inv s) (h : Nat) (e : Entry) (he : s.vals[h]? = some (some e))
    (hnv : ∀ i, e.val.ptr ≠ .vec i) (hna : ∀ i, e.val.ptr ≠ .arc i) : Inv (killVal s h) :=
  .mk' (fun _ _ hh => hI.ent' (vals_kill hh))
    (fun i c hc => (hI.vec i c hc).of_refs (count_kill rfl he (refVec_ne (hnv i))))
    (fun i c hc => ⟨(hI.arc i c hc).of_refs (count_kill rfl he (refArc_ne (hna i))), hI.small.2 i c hc⟩) hI.leak

/-- a value is moved to a new handle (`into_owned` of an Owned value, `Borrowed` → `std::Cow::Borrowed`) -/
theorem inv_move {s : St} (hI : Inv s) (h : Nat) (e : Entry) (he : s.vals[h]? = some (some e)) :
    Inv (pushVal (killVal s h) e.val e.built) := by
  refine .mk' (fun h' e' hh => ?_) (fun i c hc => (hI.vec i c hc).of_refs (count_move rfl he))
    (fun i c hc => ⟨(hI.arc i c hc).of_refs (count_move rfl he), hI.small.2 i c hc⟩) hI.leak
  rcases vals_push hh with hh | rfl
  · exact hI.ent' (vals_kill hh)
  · exact hI.ent' he

theorem inv_dropOwned {s : St} (hI : Inv s) (h : Nat) (e : Entry) (he : s.vals[h]? = some (some e))
    (i : Nat) (hp : e.val.ptr = .vec i) (c : VecCell) (hc : s.vecs[i]? = some c) :
    Inv (killVal { s with vecs := s.vecs.set i { c with live := false, frees := c.frees + 1 },
                          leaked := s.leaked + (c.content.length - e.val.len) } h) := by
  have hE := hI.ent h e he
  rw [EntryOk, hp] at hE
  obtain ⟨_, _, c', hc', hl, _, hcont, hlen⟩ := hE
  cases hc.symm.trans hc'
  obtain ⟨hr, hf⟩ := hI.vec i c hc
  rw [hl] at hr hf
  -- the only reference to the buffer was `h`
  have hz : (s.vals.set h none).countP (refVec i) = 0 :=
    Nat.add_right_cancel ((count_kill rfl he (refVec_eq hp)).trans hr)
  refine .mk' (fun h' e' hh => ?_) (fun j cj hcj => ?_)
    (fun j cj hcj => ⟨(hI.arc j cj hcj).of_refs (count_kill rfl he (refArc_ne (hp ▸ Ptr.noConfusion))),
      hI.small.2 j cj hcj⟩) ?_
  · have hn : e'.val.ptr ≠ .vec i := fun hp' => List.countP_eq_zero.1 hz _ (List.mem_of_getElem? hh) (refVec_eq hp')
    exact ⟨(hI.ent h' e' (vals_kill hh)).setVec hn _ rfl rfl rfl, hI.small.1 h' e' (vals_kill hh)⟩
  · rcases getElem?_set_some hcj with ⟨rfl, rfl⟩ | ⟨hj, hx⟩
    · exact ⟨hz, congrArg (· + 1) hf⟩
    · exact (hI.vec j cj hx).of_refs
        (count_kill rfl he (refVec_ne fun hp' => hj (Ptr.vec.inj (hp.symm.trans hp')).symm))
  · show s.leaked + (c.content.length - e.val.len) = 0
    rw [hI.leak, hcont, hlen, Nat.sub_self]

/-- one strong reference to a live block is given back, by the caller (`dext` = 1) or by a value that goes away
    (`dext` = 0, one value fewer points to the block) -/
theorem ArcOk.dec {s s' : St} {i : Nat} {c : ArcCell} (h : ArcOk s i c) (hl : c.live = true) {dext : Nat}
    (hr : arcRefs s' i + 1 = arcRefs s i + dext) (he : dext ≤ c.ext) : ArcOk s' i (c.dec dext) := by
  have hpos := h.pos hl
  obtain ⟨h1, _, h3⟩ := h
  rw [hl] at h3
  refine ⟨?_, ?_, ?_⟩
  · show c.strong - 1 = c.ext - dext + arcRefs s' i
    apply Nat.sub_eq_of_eq_add
    rw [Nat.add_assoc, hr, ← Nat.add_assoc, Nat.add_right_comm, Nat.sub_add_cancel he]
    exact h1
  · show decide (1 < c.strong) = decide (0 < c.strong - 1)
    exact decide_eq_decide.2 (by rw [Nat.lt_sub_iff_add_lt, Nat.zero_add])
  · show (if c.strong = 1 then c.frees + 1 else c.frees) = if decide (1 < c.strong) = true then 0 else 1
    by_cases h : c.strong = 1
    · rw [if_pos h, if_neg (by rw [h]; decide), h3]; rfl
    · rw [if_neg h, if_pos (decide_eq_true (Nat.lt_of_le_of_ne hpos (Ne.symm h))), h3]; rfl

theorem inv_dropShared {s : St} (hI : Inv s) (h : Nat) (e : Entry) (he : s.vals[h]? = some (some e))
    (i : Nat) (hp : e.val.ptr = .arc i) (c : ArcCell) (hc : s.arcs[i]? = some c) :
    Inv (killVal { s with arcs := s.arcs.set i (c.dec 0) } h) := by
  have hE := hI.ent h e he
  rw [EntryOk, hp] at hE
  obtain ⟨_, c', hc', hl, _⟩ := hE
  cases hc.symm.trans hc'
  obtain ⟨hA, hsm⟩ := hI.arc' hc
  have hcnt : (s.vals.set h none).countP (refArc i) + 1 = s.vals.countP (refArc i) :=
    count_kill rfl he (refArc_eq hp)
  refine .mk' (fun h' e' hh => ?_)
    (fun j cj hcj => (hI.vec j cj hcj).of_refs (count_kill rfl he (refVec_ne (hp ▸ Ptr.noConfusion))))
    (fun j cj hcj => ?_) hI.leak
  · refine ⟨(hI.ent h' e' (vals_kill hh)).setArc hc rfl rfl rfl rfl fun hp' => ?_, hI.small.1 h' e' (vals_kill hh)⟩
    -- another value still points to the block: the count stays positive
    have hpos : 0 < (s.vals.set h none).countP (refArc i) := List.countP_pos_iff.2 ⟨_, List.mem_of_getElem? hh, refArc_eq hp'⟩
    have h1 : c.strong = c.ext + s.vals.countP (refArc i) := hA.1
    exact decide_eq_true (by omega)
  · rcases getElem?_set_some hcj with ⟨rfl, rfl⟩ | ⟨hj, hx⟩
    · exact ⟨hA.dec hl hcnt (Nat.zero_le _), hsm⟩
    · exact ⟨(hI.arc j cj hx).of_refs
        (count_kill rfl he (refArc_ne fun hp' => hj (Ptr.arc.inj (hp.symm.trans hp')).symm)), hI.small.2 j cj hx⟩

theorem inv_newArc {s : St} (hI : Inv s) (c : Content) (hs : c.length < usizeMax) :
    Inv { s with arcs := s.arcs ++ [{ strong := 1, ext := 1, content := c, live := true, frees := 0 }] } := by
  refine .mk' (fun h e hh => ⟨(hI.ent h e hh).mono (fun _ _ h => h) (fun _ _ h => h)
    (fun _ _ h => getElem?_append_of_some h), hI.small.1 h e hh⟩) hI.vec (fun i c1 hc => ?_) hI.leak
  rcases getElem?_snoc_some hc with hc | ⟨rfl, rfl⟩
  · exact hI.arc' hc
  · exact ⟨⟨congrArg (1 + ·) hI.arcRefs_fresh.symm, rfl, rfl⟩, hs⟩

theorem inv_dropArc {s : St} (hI : Inv s) (a : Nat) (c : ArcCell) (hc : s.arcs[a]? = some c)
    (hl : c.live = true) (hext : 0 < c.ext) :
    Inv { s with arcs := s.arcs.set a (c.dec 1) } := by
  obtain ⟨hA, hsm⟩ := hI.arc' hc
  refine .mk' (fun h e hh => ?_) hI.vec (fun j cj hcj => ?_) hI.leak
  · refine ⟨(hI.ent h e hh).setArc hc rfl rfl rfl rfl fun hp => ?_, hI.small.1 h e hh⟩
    have hpos : 0 < s.vals.countP (refArc a) := List.countP_pos_iff.2 ⟨_, List.mem_of_getElem? hh, refArc_eq hp⟩
    have h1 : c.strong = c.ext + s.vals.countP (refArc a) := hA.1
    exact decide_eq_true (by omega)
  · rcases getElem?_set_some hcj with ⟨rfl, rfl⟩ | ⟨_, hx⟩
    · exact ⟨hA.dec hl rfl hext, hsm⟩
    · exact hI.arc' hx

theorem kindOf_zero : kindOf 0 = .borrowed := rfl
theorem kindOf_max : kindOf usizeMax = .shared := rfl
theorem kindOf_owned {cap : Nat} (h0 : cap ≠ 0) (hm : cap ≠ usizeMax) : kindOf cap = .owned := by
  rw [kindOf, if_neg hm, if_neg h0]

/-- the kind decoded from the capacity word of a live value is what its pointer really is -/
theorem EntryOk.cases {s : St} {e : Entry} (h : EntryOk s e) :
    (e.val.kind = .borrowed ∧ (∀ i, e.val.ptr ≠ .vec i) ∧ ∀ i, e.val.ptr ≠ .arc i) ∨
    (e.val.kind = .owned ∧ e.val.cap ≠ 0 ∧ ∃ i c, e.val.ptr = .vec i ∧ s.vecs[i]? = some c ∧ c.live = true ∧
      c.cap = e.val.cap ∧ e.val.len ≤ c.content.length) ∨
    (e.val.kind = .shared ∧ ∃ i c, e = ⟨⟨.arc i, c.content.length, usizeMax⟩, c.content⟩ ∧ s.arcs[i]? = some c ∧
      c.live = true) := by
  unfold EntryOk at h
  split at h
  · next hp => exact .inl ⟨congrArg kindOf h.1, fun _ => hp ▸ Ptr.noConfusion, fun _ => hp ▸ Ptr.noConfusion⟩
  · next hp => exact .inl ⟨congrArg kindOf h.1, fun _ => hp ▸ Ptr.noConfusion, fun _ => hp ▸ Ptr.noConfusion⟩
  · next i hp =>
    obtain ⟨h0, hm, c, hc, hl, hcap, hcont, hlen⟩ := h
    exact .inr (.inl ⟨kindOf_owned h0 hm, h0, i, c, hp, hc, hl, hcap, by rw [hcont, hlen]; exact Nat.le_refl _⟩)
  · next i hp =>
    obtain ⟨hcap, c, hc, hl, hcont, hlen⟩ := h
    obtain ⟨⟨p, l, k⟩, b⟩ := e
    simp only at hp hcap hcont hlen
    subst hp hcap hcont hlen
    exact .inr (.inr ⟨rfl, i, c, rfl, hc, hl⟩)

theorem read_ok {s : St} {e : Entry} (h : EntryOk s e) : readPtr s e.val.ptr e.val.len = .ok e.built := by
  unfold EntryOk at h
  split at h
  · next hp => obtain ⟨_, h2, h3⟩ := h; simp [readPtr, hp, h2, h3]
  · next i hp => obtain ⟨_, h2, h3⟩ := h; simp [readPtr, hp, h2, h3]
  · next i hp =>
    obtain ⟨_, _, c, hc, hl, _, hcont, hlen⟩ := h
    simp [readPtr, hp, hc, hl, hlen, hcont]
  · next i hp =>
    obtain ⟨_, c, hc, hl, hcont, hlen⟩ := h
    simp [readPtr, hp, hc, hl, hlen, hcont]

theorem bindNew_ok {s : St} {v : CowVal} {g : Content} (hI : Inv (pushVal s v g)) :
    bindNew s v g = .ok (pushVal s v g, s.vals.length, g) := by
  have hr : readPtr (pushVal s v g) v.ptr v.len = .ok g := read_ok (hI.ent s.vals.length ⟨v, g⟩ List.getElem?_concat_length)
  simp only [bindNew, hr, bind, Except.bind]

theorem freeVec_ok {s : St} {i len cap : Nat} {c : VecCell} (h0 : cap ≠ 0) (hc : s.vecs[i]? = some c)
    (hl : c.live = true) (hcap : c.cap = cap) (hlen : len ≤ c.content.length) :
    freeVec s (.vec i) len cap = .ok { s with vecs := s.vecs.set i { c with live := false, frees := c.frees + 1 },
                                              leaked := s.leaked + (c.content.length - len) } := by
  simp only [freeVec, if_neg h0, hc, hl, hcap, hlen, and_self, if_true]

theorem incStrong_ok {s : St} {i : Nat} {c : ArcCell} (hc : s.arcs[i]? = some c) (hl : c.live = true) :
    incStrong s (.arc i) = .ok { s with arcs := s.arcs.set i { c with strong := c.strong + 1 } } := by
  simp only [incStrong, hc, hl, if_true]

theorem decArc_ok {s : St} {i : Nat} {c : ArcCell} (hc : s.arcs[i]? = some c) (hl : c.live = true)
    (hpos : 0 < c.strong) (dext : Nat) : decArc s i dext = .ok { s with arcs := s.arcs.set i (c.dec dext) } := by
  simp only [decArc, hc, hl, if_true, if_neg (Nat.ne_of_gt hpos)]

theorem ownedIntoParts_arcs (s : St) (c : Content) (cap : Nat) : (ownedIntoParts s c cap).1.arcs = s.arcs := by
  simp only [ownedIntoParts, allocVec]; split <;> rfl

theorem ownedIntoParts_vals (s : St) (c : Content) (cap : Nat) : (ownedIntoParts s c cap).1.vals = s.vals := by
  simp only [ownedIntoParts, allocVec]; split <;> rfl

theorem ownedIntoParts_kill (s : St) (c : Content) (cap : Nat) (h : Nat) :
    killVal (ownedIntoParts s c cap).1 h = (ownedIntoParts (killVal s h) c cap).1
    ∧ (ownedIntoParts s c cap).2 = (ownedIntoParts (killVal s h) c cap).2 := by
  simp only [ownedIntoParts, allocVec]; split <;> exact ⟨rfl, rfl⟩

theorem ownedIntoParts_kill_arcs (s : St) (c : Content) (cap : Nat) (h : Nat) (a : List ArcCell) :
    killVal { (ownedIntoParts s c cap).1 with arcs := a } h = (ownedIntoParts (killVal { s with arcs := a } h) c cap).1
    ∧ (ownedIntoParts s c cap).2 = (ownedIntoParts (killVal { s with arcs := a } h) c cap).2 := by
  simp only [ownedIntoParts, allocVec]; split <;> exact ⟨rfl, rfl⟩

theorem inv_ownedIntoParts {s : St} (hI : Inv s) (c : Content) (cap : Nat) (hle : c.length ≤ cap)
    (hs : cap < usizeMax) :
    Inv (pushVal (ownedIntoParts s c cap).1 (ownedIntoParts s c cap).2 c) := by
  by_cases h0 : cap = 0
  · subst h0
    cases List.eq_nil_of_length_eq_zero (Nat.le_zero.1 hle)
    exact inv_pushPlain hI ⟨⟨.dangling, 0, 0⟩, []⟩ ⟨rfl, rfl, rfl⟩ (fun _ => Ptr.noConfusion)
      (fun _ => Ptr.noConfusion) (by decide)
  · simp only [ownedIntoParts, allocVec, h0, if_false]
    exact inv_newOwned hI c cap h0 (Nat.ne_of_lt hs) (Nat.lt_of_le_of_lt hle hs)

theorem freshCap_ok (len fc : Nat) (h : len < usizeMax) : len ≤ freshCap len fc ∧ freshCap len fc < usizeMax := by
  unfold freshCap
  split
  · next hh => exact hh
  · exact ⟨Nat.le_refl _, h⟩

theorem fromOwned_ok {s : St} {c : Content} {cap : Nat} (h1 : c.length ≤ cap) (h2 : cap < usizeMax) :
    fromOwned s c cap = .ok (ownedIntoParts s c cap) := by
  have h3 : ¬ (ownedIntoParts s c cap).2.cap = usizeMax := Nat.ne_of_lt h2
  rw [fromOwned, if_neg (Nat.not_lt.2 h1), if_neg (Nat.not_lt.2 (Nat.le_of_lt h2))]
  exact if_neg h3

theorem fromOwned_err {s : St} {c : Content} {cap : Nat} (h : ¬ (c.length ≤ cap ∧ cap < usizeMax)) :
    ∃ e, fromOwned s c cap = .error e ∧ e.isMisuse = true := by
  unfold fromOwned
  split
  · exact ⟨_, rfl, rfl⟩
  · split
    · exact ⟨_, rfl, rfl⟩
    · next h1 h2 =>
      have h3 : (ownedIntoParts s c cap).2.cap = usizeMax :=
        Nat.le_antisymm (Nat.not_lt.1 h2) (Nat.not_lt.1 fun h3 => h ⟨Nat.not_lt.1 h1, h3⟩)
      exact ⟨.invalidCapacity, if_pos h3, rfl⟩

theorem cloneFromParts_spec {s : St} (hI : Inv s) {h : Nat} {e : Entry} (he : s.vals[h]? = some (some e)) :
    ∃ r, cloneFromParts s e.val = .ok r ∧ Inv (pushVal r.1 r.2 e.built) := by
  obtain ⟨hE, hsm⟩ := hI.ent' he
  have hr := read_ok hE
  rcases hE.cases with ⟨hk, hnv, hna⟩ | ⟨hk, _⟩ | ⟨hk, i, c, hv, hc, hl⟩
  · exact ⟨(s, e.val), by simp only [cloneFromParts, hk], inv_pushPlain hI e hE hnv hna hsm⟩
  · exact ⟨_, by simp only [cloneFromParts, hk, hr, bind, Except.bind],
      inv_ownedIntoParts hI e.built e.built.length (Nat.le_refl _) hsm⟩
  · have hp : e.val.ptr = .arc i := hv ▸ rfl
    refine ⟨({ s with arcs := s.arcs.set i { c with strong := c.strong + 1 } }, e.val), ?_, ?_⟩
    · simp only [cloneFromParts, hk, bind, Except.bind]
      rw [hp, incStrong_ok hc hl]
    · rw [hv]
      exact inv_newShared hI i c hc hl

theorem dropFromParts_spec {s : St} (hI : Inv s) {h : Nat} {e : Entry} (he : s.vals[h]? = some (some e)) :
    ∃ s1, dropFromParts s e.val = .ok s1 ∧ Inv (killVal s1 h) := by
  have hE := hI.ent h e he
  rcases hE.cases with ⟨hk, hnv, hna⟩ | ⟨hk, h0, i, c, hp, hc, hl, hcap, hlen⟩ | ⟨hk, i, c, hv, hc, hl⟩
  · exact ⟨s, by simp only [dropFromParts, hk], inv_killPlain hI h e he hnv hna⟩
  · refine ⟨_, ?_, inv_dropOwned hI h e he i hp c hc⟩
    simp only [dropFromParts, hk]
    rw [hp, freeVec_ok h0 hc hl hcap hlen]
  · have hp : e.val.ptr = .arc i := hv ▸ rfl
    refine ⟨_, ?_, inv_dropShared hI h e he i hp c hc⟩
    simp only [dropFromParts, hk]
    rw [hp, decStrong, decArc_ok hc hl ((hI.arc i c hc).pos hl)]

theorem ownedFromParts_spec {s : St} (hI : Inv s) {h : Nat} {e : Entry} (he : s.vals[h]? = some (some e)) (fc : Nat) :
    ∃ r, ownedFromParts s e.val fc = .ok r ∧ Inv (pushVal (killVal r.1 h) r.2 e.built) := by
  obtain ⟨hE, hsm⟩ := hI.ent' he
  have hr := read_ok hE
  obtain ⟨hf1, hf2⟩ := freshCap_ok e.built.length fc hsm
  rcases hE.cases with ⟨hk, hnv, hna⟩ | ⟨hk, _⟩ | ⟨hk, i, c, hv, hc, hl⟩
  · refine ⟨_, by simp only [ownedFromParts, hk, hr, bind, Except.bind]; rfl, ?_⟩
    obtain ⟨e1, e2⟩ := ownedIntoParts_kill s e.built (freshCap e.built.length fc) h
    rw [e1, e2]
    exact inv_ownedIntoParts (inv_killPlain hI h e he hnv hna) e.built _ hf1 hf2
  · exact ⟨(s, e.val), by simp only [ownedFromParts, hk], inv_move hI h e he⟩
  · have hp : e.val.ptr = .arc i := hv ▸ rfl
    refine ⟨({ (ownedIntoParts s e.built (freshCap e.built.length fc)).1 with arcs := s.arcs.set i (c.dec 0) },
      (ownedIntoParts s e.built (freshCap e.built.length fc)).2), ?_, ?_⟩
    · simp only [ownedFromParts, hk, hr, bind, Except.bind]
      rw [hp, decStrong, decArc_ok ((ownedIntoParts_arcs s ..).symm ▸ hc) hl ((hI.arc i c hc).pos hl),
        ownedIntoParts_arcs]
    · obtain ⟨e1, e2⟩ := ownedIntoParts_kill_arcs s e.built (freshCap e.built.length fc) h (s.arcs.set i (c.dec 0))
      rw [e1, e2]
      exact inv_ownedIntoParts (inv_dropShared hI h e he i hp c hc) e.built _ hf1 hf2

/-- what `owned_from_parts` leaves behind when its element copy unwinds, by kind -/
theorem ownedFromPartsUnwind_spec {s : St} (hI : Inv s) {h : Nat} {e : Entry} (he : s.vals[h]? = some (some e)) :
    (e.val.kind = .owned ∧ ownedFromPartsUnwind s e.val = .ok none) ∨
    (e.val.kind = .borrowed ∧ ownedFromPartsUnwind s e.val = .ok (some s) ∧ Inv (killVal s h)) ∨
    (e.val.kind = .shared ∧ ∃ i c, e.val.ptr = .arc i ∧ s.arcs[i]? = some c ∧ c.live = true ∧ 0 < c.strong ∧
      ownedFromPartsUnwind s e.val = .ok (some { s with arcs := s.arcs.set i (c.dec 0) }) ∧
      Inv (killVal { s with arcs := s.arcs.set i (c.dec 0) } h)) := by
  have hE := hI.ent h e he
  have hr := read_ok hE
  rcases hE.cases with ⟨hk, hnv, hna⟩ | ⟨hk, _⟩ | ⟨hk, i, c, hv, hc, hl⟩
  · exact .inr (.inl ⟨hk, by simp only [ownedFromPartsUnwind, hk, hr, bind, Except.bind],
      inv_killPlain hI h e he hnv hna⟩)
  · exact .inl ⟨hk, by simp only [ownedFromPartsUnwind, hk]⟩
  · have hp : e.val.ptr = .arc i := hv ▸ rfl
    have hpos := (hI.arc i c hc).pos hl
    refine .inr (.inr ⟨hk, i, c, hp, hc, hl, hpos, ?_, inv_dropShared hI h e he i hp c hc⟩)
    simp only [ownedFromPartsUnwind, hk, hr, bind, Except.bind]
    rw [hp, decStrong, decArc_ok hc hl hpos]

/-- only the Owned arm of `clone_from_parts` runs user code; reading the source succeeds -/
theorem cloneFromPartsUnwind_spec {s : St} (hI : Inv s) {h : Nat} {e : Entry} (he : s.vals[h]? = some (some e)) :
    (e.val.kind = .owned ∧ cloneFromPartsUnwind s e.val = .ok true) ∨
    (e.val.kind ≠ .owned ∧ cloneFromPartsUnwind s e.val = .ok false) := by
  have hr := read_ok (hI.ent h e he)
  cases hk : e.val.kind with
  | owned => exact .inl ⟨rfl, by simp only [cloneFromPartsUnwind, hk, hr, bind, Except.bind]⟩
  | borrowed => exact .inr ⟨Kind.noConfusion, by simp only [cloneFromPartsUnwind, hk]⟩
  | shared => exact .inr ⟨Kind.noConfusion, by simp only [cloneFromPartsUnwind, hk]⟩

theorem freeVec_vals {s s1 : St} {p : Ptr} {len cap : Nat} (h : freeVec s p len cap = .ok s1) : s1.vals = s.vals := by
  unfold freeVec at h
  repeat' split at h
  all_goals cases h <;> rfl

theorem incStrong_vals {s s1 : St} {p : Ptr} (h : incStrong s p = .ok s1) : s1.vals = s.vals := by
  unfold incStrong at h
  repeat' split at h
  all_goals cases h <;> rfl

theorem decArc_vals {s s1 : St} {i d : Nat} (h : decArc s i d = .ok s1) : s1.vals = s.vals := by
  unfold decArc at h
  repeat' split at h
  all_goals cases h <;> rfl

theorem dropFromParts_vals {s s1 : St} {v : CowVal} (h : dropFromParts s v = .ok s1) : s1.vals = s.vals := by
  unfold dropFromParts at h
  split at h
  · cases h; rfl
  · exact freeVec_vals h
  · unfold decStrong at h
    split at h
    · exact decArc_vals h
    · cases h

theorem cloneFromParts_vals {s s1 : St} {v v' : CowVal}
    (h : cloneFromParts s v = .ok (s1, v')) : s1.vals = s.vals := by
  unfold cloneFromParts at h
  split at h
  · cases h; rfl
  · cases hr : readPtr s v.ptr v.len with
    | error e => rw [hr] at h; cases h
    | ok c => rw [hr] at h; cases h; exact ownedIntoParts_vals ..
  · cases hi : incStrong s v.ptr with
    | error e => rw [hi] at h; cases h
    | ok s2 => rw [hi] at h; cases h; exact incStrong_vals hi

/-- how an operation may end from a state satisfying the invariant: the invariant again, or a caller error (never a
    memory error), and that only if the operation was not well-formed (`wf`) -/
def Good (wf : Bool) : Except Err (St × Ans) → Prop
  | .ok (s', _) => Inv s'
  | .error e => e.isMisuse = true ∧ wf = false

theorem Good.ok {r : Except Err (St × Ans)} (h : Good true r) : ∃ s' a, r = .ok (s', a) ∧ Inv s' := by
  cases r with
  | ok r => exact ⟨r.1, r.2, rfl, h⟩
  | error e => exact nomatch h.2

theorem getVal_of_some {s : St} {h : Nat} {e : Entry} (he : s.vals[h]? = some (some e)) : getVal s h = .ok e := by
  rw [getVal, he]

@[elab_as_elim] theorem getVal_ind {s : St} {h : Nat} {P : Except Err Entry → Prop}
    (dead : liveHandle s h = false → P (.error .deadHandle))
    (live : ∀ e, s.vals[h]? = some (some e) → P (.ok e)) : P (getVal s h) := by
  unfold getVal
  unfold liveHandle at dead
  cases hv : s.vals[h]? with
  | none => rw [hv] at dead; exact dead rfl
  | some o => cases o with
    | none => rw [hv] at dead; exact dead rfl
    | some e => exact live e hv

theorem heldArc_cases {s : St} (hI : Inv s) (a : Nat) :
    (heldArc s a = false ∧ ∀ c, s.arcs[a]? = some c → c.ext = 0) ∨
    (heldArc s a = true ∧ ∃ c, s.arcs[a]? = some c ∧ 0 < c.ext ∧ c.live = true ∧ 0 < c.strong) := by
  unfold heldArc
  cases hc : s.arcs[a]? with
  | none => exact .inl ⟨rfl, fun _ h => nomatch h⟩
  | some c =>
    by_cases hext : 0 < c.ext
    · have hA := hI.arc a c hc
      have hpos : 0 < c.strong := hA.1 ▸ Nat.lt_of_lt_of_le hext (Nat.le_add_right _ _)
      exact .inr ⟨decide_eq_true hext, c, rfl, hext, hA.live hpos, hpos⟩
    · exact .inl ⟨decide_eq_false hext, fun c' h => Option.some.inj h ▸ Nat.eq_zero_of_not_pos hext⟩

theorem stepClone_good {s : St} (hI : Inv s) (h : Nat) : Good (liveHandle s h) (stepClone s h) := by
  unfold stepClone
  refine getVal_ind (fun hl => ⟨rfl, hl⟩) fun e he => ?_
  obtain ⟨r, hc, hI'⟩ := cloneFromParts_spec hI he
  simp only [hc, bind, Except.bind, bindNew_ok hI']
  exact hI'

theorem stepIntoOwned_good {s : St} (hI : Inv s) (h fc : Nat) : Good (liveHandle s h) (stepIntoOwned s h fc) := by
  unfold stepIntoOwned
  refine getVal_ind (fun hl => ⟨rfl, hl⟩) fun e he => ?_
  obtain ⟨r, hc, hI'⟩ := ownedFromParts_spec hI he fc
  simp only [intoOwned, hc, bind, Except.bind, bindNew_ok hI']
  exact hI'

theorem stepIntoOwnedUnwind_good {s : St} (hI : Inv s) (h fc : Nat) :
    Good (liveHandle s h) (stepIntoOwnedUnwind s h fc) := by
  unfold stepIntoOwnedUnwind
  refine getVal_ind (fun hl => ⟨rfl, hl⟩) fun e he => ?_
  rcases ownedFromPartsUnwind_spec hI he with ⟨_, hu⟩ | ⟨_, hu, hI'⟩ | ⟨_, i, c, _, _, _, _, hu, hI'⟩
  · simp only [hu]
    exact stepIntoOwned_good hI h fc
  · simp only [hu]
    exact hI'
  · simp only [hu]
    exact hI'

theorem stepCloneUnwind_good {s : St} (hI : Inv s) (h : Nat) : Good (liveHandle s h) (stepCloneUnwind s h) := by
  unfold stepCloneUnwind
  refine getVal_ind (fun hl => ⟨rfl, hl⟩) fun e he => ?_
  rcases cloneFromPartsUnwind_spec hI he with ⟨_, hu⟩ | ⟨_, hu⟩
  · simp only [hu]
    exact hI
  · simp only [hu]
    exact stepClone_good hI h

theorem stepClone_spec {s : St} (hI : Inv s) {h : Nat} {e : Entry} (he : s.vals[h]? = some (some e)) :
    ∃ s1 v, cloneFromParts s e.val = .ok (s1, v) ∧ s1.vals = s.vals ∧ Inv (pushVal s1 v e.built) ∧
      stepClone s h = .ok (pushVal s1 v e.built, .handle s.vals.length e.built) := by
  obtain ⟨⟨s1, v⟩, hc, hI'⟩ := cloneFromParts_spec hI he
  have hv := cloneFromParts_vals hc
  refine ⟨s1, v, hc, hv, hI', ?_⟩
  simp only [stepClone, getVal_of_some he, hc, bind, Except.bind, bindNew_ok hI', hv]

/-- as in `clone_from`: the source is cloned first, then the destination's old value is released by `drop_from_parts`
    in the state that already holds the clone -/
theorem stepCloneFrom_spec {s : St} (hI : Inv s) {hd hs : Nat} {ed es : Entry}
    (hed : s.vals[hd]? = some (some ed)) (hes : s.vals[hs]? = some (some es)) :
    ∃ s1 v s2, cloneFromParts s es.val = .ok (s1, v) ∧ s1.vals = s.vals ∧ Inv (pushVal s1 v es.built) ∧
      stepClone s hs = .ok (pushVal s1 v es.built, .handle s.vals.length es.built) ∧
      dropFromParts (pushVal s1 v es.built) ed.val = .ok s2 ∧ s2.vals = s.vals ++ [some ⟨v, es.built⟩] ∧
      Inv (killVal s2 hd) ∧
      stepCloneFrom s hd hs = .ok (killVal s2 hd, .handle s.vals.length es.built) := by
  obtain ⟨s1, v, hc, hv, hI', hst⟩ := stepClone_spec hI hes
  have hed' : (pushVal s1 v es.built).vals[hd]? = some (some ed) := by
    rw [pushVal_vals, hv]
    exact getElem?_append_of_some hed
  obtain ⟨s2, hdp, hI2⟩ := dropFromParts_spec hI' hed'
  refine ⟨s1, v, s2, hc, hv, hI', hst, hdp, by rw [dropFromParts_vals hdp, pushVal_vals, hv], hI2, ?_⟩
  simp only [stepCloneFrom, getVal_of_some hed, hst, hdp]

theorem stepCloneFrom_good {s : St} (hI : Inv s) (hd hs : Nat) :
    Good (liveHandle s hd && liveHandle s hs) (stepCloneFrom s hd hs) := by
  unfold stepCloneFrom
  refine getVal_ind (fun hl => ⟨rfl, by rw [hl]; rfl⟩) fun ed hed => ?_
  unfold stepClone
  refine getVal_ind (fun hl => ⟨rfl, by rw [hl, Bool.and_false]⟩) fun es hes => ?_
  obtain ⟨s1, v, s2, _, _, _, hcl, hdp, _, hI2, _⟩ := stepCloneFrom_spec hI hed hes
  unfold stepClone at hcl
  rw [getVal_of_some hes] at hcl
  rw [hcl]
  simp only [hdp]
  exact hI2

theorem stepCloneFromUnwind_good {s : St} (hI : Inv s) (hd hs : Nat) :
    Good (liveHandle s hd && liveHandle s hs) (stepCloneFromUnwind s hd hs) := by
  unfold stepCloneFromUnwind
  refine getVal_ind (fun hl => ⟨rfl, by rw [hl]; rfl⟩) fun ed hed => ?_
  refine getVal_ind (fun hl => ⟨rfl, by rw [hl, Bool.and_false]⟩) fun es hes => ?_
  rcases cloneFromPartsUnwind_spec hI hes with ⟨_, hu⟩ | ⟨_, hu⟩
  · simp only [hu]
    exact hI
  · simp only [hu]
    exact stepCloneFrom_good hI hd hs

theorem stepReadUnwind_spec {s : St} (hI : Inv s) {h1 h2 : Nat} {e1 e2 : Entry}
    (he1 : s.vals[h1]? = some (some e1)) (he2 : s.vals[h2]? = some (some e2)) :
    stepReadUnwind s h1 h2 = .ok (s, .unwound) := by
  simp only [stepReadUnwind, getVal_of_some he1, getVal_of_some he2, read_ok (hI.ent h1 e1 he1),
    read_ok (hI.ent h2 e2 he2)]

theorem stepReadUnwind_good {s : St} (hI : Inv s) (h1 h2 : Nat) :
    Good (liveHandle s h1 && liveHandle s h2) (stepReadUnwind s h1 h2) := by
  unfold stepReadUnwind
  refine getVal_ind (fun hl => ⟨rfl, by rw [hl]; rfl⟩) fun e1 he1 => ?_
  refine getVal_ind (fun hl => ⟨rfl, by rw [hl, Bool.and_false]⟩) fun e2 he2 => ?_
  simp only [read_ok (hI.ent h1 e1 he1), read_ok (hI.ent h2 e2 he2)]
  exact hI

theorem step_good {s : St} (hI : Inv s) (op : Op) : Good (wfOp s op) (step s op) := by
  cases op with
  | newArc c =>
    simp only [step, wfOp]
    by_cases hc : usizeMax ≤ c.length
    · rw [if_pos hc]
      exact ⟨rfl, decide_eq_false (Nat.not_lt.2 hc)⟩
    · rw [if_neg hc]
      exact inv_newArc hI c (Nat.lt_of_not_le hc)
  | dropArc a =>
    simp only [step, wfOp]
    rcases heldArc_cases hI a with ⟨hh, _⟩ | ⟨hh, c, hc, hext, hl, hpos⟩
    · rw [hh]
      exact ⟨rfl, rfl⟩
    · simp only [hh, if_true, decArc_ok hc hl hpos, bind, Except.bind]
      exact inv_dropArc hI a c hc hl hext
  | fromBorrowed c =>
    simp only [step, wfOp]
    by_cases hc : usizeMax ≤ c.length
    · rw [if_pos hc]
      exact ⟨rfl, decide_eq_false (Nat.not_lt.2 hc)⟩
    · have hI' : Inv (pushVal { s with statics := s.statics ++ [c] } ⟨.stat s.statics.length, c.length, 0⟩ c) :=
        inv_pushPlain (inv_addStatic hI c) ⟨_, c⟩ ⟨rfl, List.getElem?_concat_length, rfl⟩ (fun _ => Ptr.noConfusion)
          (fun _ => Ptr.noConfusion) (Nat.lt_of_not_le hc)
      simp only [if_neg hc, borrowedIntoParts, bindNew_ok hI', bind, Except.bind]
      exact hI'
  | fromOwned c cap =>
    simp only [step, wfOp]
    by_cases hw : c.length ≤ cap ∧ cap < usizeMax
    · have hI' := inv_ownedIntoParts hI c cap hw.1 hw.2
      simp only [fromOwned_ok hw.1 hw.2, bind, Except.bind, bindNew_ok hI']
      exact hI'
    · obtain ⟨e, he, hm⟩ := fromOwned_err (s := s) hw
      simp only [he, bind, Except.bind]
      exact ⟨hm, by rw [← Bool.not_eq_true, Bool.and_eq_true, decide_eq_true_eq, decide_eq_true_eq]; exact hw⟩
  | fromShared a =>
    simp only [step, wfOp]
    rcases heldArc_cases hI a with ⟨hh, h0⟩ | ⟨hh, c, hc, hext, hl, _⟩
    · rw [hh]
      cases hc : s.arcs[a]? with
      | none => exact ⟨rfl, rfl⟩
      | some c => simp only [if_pos (h0 c hc)]; exact ⟨rfl, rfl⟩
    · have hI' := inv_newShared hI a c hc hl
      simp only [hc, if_neg (Nat.ne_of_gt hext), incStrong_ok hc hl, bind, Except.bind, bindNew_ok hI']
      exact hI'
  | clone h => exact stepClone_good hI h
  | deref h =>
    simp only [step, wfOp]
    refine getVal_ind (fun hl => ⟨rfl, hl⟩) fun e he => ?_
    simp only [bind, Except.bind, read_ok (hI.ent h e he)]
    exact hI
  | eq h1 h2 =>
    simp only [step, wfOp]
    refine getVal_ind (fun hl => ⟨rfl, by rw [hl]; rfl⟩) fun e1 he1 => ?_
    refine getVal_ind (fun hl => ⟨rfl, by rw [hl, Bool.and_false]⟩) fun e2 he2 => ?_
    simp only [bind, Except.bind, read_ok (hI.ent h1 e1 he1), read_ok (hI.ent h2 e2 he2)]
    exact hI
  | intoOwned h fc => exact stepIntoOwned_good hI h fc
  | intoStdCow h fc =>
    simp only [step, wfOp]
    refine getVal_ind (fun hl => ⟨rfl, hl⟩) fun e he => ?_
    cases hk : e.val.kind with
    | borrowed =>
      have hI' := inv_move hI h e he
      simp only [hk, dropFromParts, bind, Except.bind, bindNew_ok hI']
      exact hI'
    | _ =>
      obtain ⟨r, hc, hI'⟩ := ownedFromParts_spec hI he fc
      simp only [hk, intoOwned, hc, bind, Except.bind, bindNew_ok hI']
      exact hI'
  | drop h =>
    simp only [step, wfOp]
    refine getVal_ind (fun hl => ⟨rfl, hl⟩) fun e he => ?_
    obtain ⟨s1, hc, hI'⟩ := dropFromParts_spec hI he
    simp only [hc, bind, Except.bind]
    exact hI'
  | intoOwnedUnwind h fc => exact stepIntoOwnedUnwind_good hI h fc
  | cloneUnwind h => exact stepCloneUnwind_good hI h
  | cloneFrom hd hs => exact stepCloneFrom_good hI hd hs
  | cloneFromUnwind hd hs => exact stepCloneFromUnwind_good hI hd hs
  | readUnwind h1 h2 => exact stepReadUnwind_good hI h1 h2

end MetricsVerif.Cow
