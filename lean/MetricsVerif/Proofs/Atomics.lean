/-
Helper lemmas for C04.  When every update is a single read-modify-write, the invariants of the atomic-storage
machine see a thread only through the updates it has still to apply (`view`): one scheduled step either leaves
that view alone or lets one thread apply the head of its pending updates (`view_step`).  An invariant is
therefore proved by showing that it survives `View.apply` (`run_inv`, `run_inv_pend`): linearization,
exactly-once projection, counting, counter sum, monotonicity under absolutes.  Also: the equations of `step`,
no-op handles, progress, `record_many`.
-/
import MetricsVerif.Model.Atomics
import MetricsVerif.Proofs.ListAt

namespace MetricsVerif.Atomics
variable {F : Type}

/-- every update function is one atomic read-modify-write -/
def AllRmw (sh : Shape) : Prop :=
  sh.inc = true ∧ sh.abs = true ∧ sh.gInc = true ∧ sh.gDec = true ∧ sh.gSet = true

instance (sh : Shape) : Decidable (AllRmw sh) := by unfold AllRmw; infer_instance

theorem rmw_of_all {sh : Shape} (h : AllRmw sh) : (op : Op F) → sh.rmw op = true
  | .inc _ => h.1
  | .abs _ => h.2.1
  | .gInc _ => h.2.2.1
  | .gDec _ => h.2.2.2.1
  | .gSet _ => h.2.2.2.2

theorem allRmw_all : AllRmw allRmw := ⟨rfl, rfl, rfl, rfl, rfl⟩

theorem effOps_noop {c : Call F} {rest : List (Call F)} (h : c.h = none) : effOps (c :: rest) = effOps rest := by
  simp only [effOps, h]

theorem effOps_live {c : Call F} {rest : List (Call F)} {u : Unit} (h : c.h = some u) :
    effOps (c :: rest) = c.op :: effOps rest := by
  simp only [effOps, h]

theorem effOps_nil {p : List (Call F)} (h : ∀ c ∈ p, c.h = none) : effOps p = [] := by
  induction p with
  | nil => rfl
  | cons c rest ih =>
    rw [effOps_noop (h c List.mem_cons_self)]
    exact ih fun c' hc' => h c' (List.mem_cons_of_mem _ hc')

variable (A : Carrier F) {sh : Shape} {s : Sys F} {tid : Nat}

section
variable {t : Thread F} {c : Call F} {rest : List (Call F)} {u : Unit}

theorem step_none (sh : Shape) (hg : s.threads[tid]? = none) : step A sh s tid = s := by
  simp only [step, hg]

theorem step_done (sh : Shape) (hg : s.threads[tid]? = some t) (hp : t.prog = []) : step A sh s tid = s := by
  simp only [step, hg, stepThread, hp, setAt_same _ _ _ hg]

theorem step_noop (sh : Shape) (hg : s.threads[tid]? = some t) (hp : t.prog = c :: rest) (hh : c.h = none) :
    step A sh s tid = { s with threads := setAt s.threads tid { prog := rest, tmp := none } } := by
  simp only [step, hg, stepThread, hp, hh]

theorem step_rmw (hg : s.threads[tid]? = some t) (hp : t.prog = c :: rest) (hh : c.h = some u)
    (hr : sh.rmw c.op = true) :
    step A sh s tid
      = { commit A s tid c.op s.cell with threads := setAt s.threads tid { prog := rest, tmp := none } } := by
  simp only [step, hg, stepThread, hp, hh, hr, if_true]
  rfl

theorem step_threads (h : AllRmw sh) (hg : s.threads[tid]? = some t) (hp : t.prog = c :: rest) :
    (step A sh s tid).threads = setAt s.threads tid { prog := rest, tmp := none } := by
  cases hh : c.h with
  | none => rw [step_noop A sh hg hp hh]
  | some u => rw [step_rmw A hg hp hh (rmw_of_all h c.op)]

end

theorem run_induct (sh : Shape) (P : Sys F → Prop)
    (hstep : ∀ s tid, P s → P (step A sh s tid)) : ∀ (sched : List Nat) (s : Sys F), P s → P (run A sh s sched)
  | [], _, h => h
  | tid :: sched, s, h => run_induct sh P hstep sched _ (hstep s tid h)

theorem run_append (sh : Shape) (s : Sys F) (s1 s2 : List Nat) :
    run A sh s (s1 ++ s2) = run A sh (run A sh s s1) s2 :=
  List.foldl_append

/-- a state with each thread reduced to the updates it has still to apply: calls through no-op handles and the
    `tmp` registers are gone -/
structure View (F : Type) where
  cell : Nat
  pend : List (List (Op F))
  log : List (Nat × Op F)
  wrapped : Bool

/-- updates still to be applied, all threads together -/
def View.count (v : View F) : Nat := (v.pend.map List.length).sum

def view (s : Sys F) : View F := ⟨s.cell, s.threads.map fun t => effOps t.prog, s.log, s.wrapped⟩

/-- thread `tid` applies `op`, the first of its pending updates, and is left with `ops` -/
def View.apply (v : View F) (tid : Nat) (op : Op F) (ops : List (Op F)) : View F :=
  ⟨applyOp A op v.cell, setAt v.pend tid ops, (tid, op) :: v.log, v.wrapped || wraps op v.cell⟩

theorem view_init (c0 : Nat) (progs : List (List (Call F))) : view (init c0 progs) = ⟨c0, progs.map effOps, [], false⟩ := by
  simp only [view, init, List.map_map]
  rfl

variable {v : View F} {op : Op F} {ops : List (Op F)}

theorem pend_getElem? :
    (view s).pend[tid]? = some ops ↔ ∃ t, s.threads[tid]? = some t ∧ effOps t.prog = ops := by
  simp only [view, List.getElem?_map, Option.map_eq_some_iff]

theorem view_step_cases (sh : Shape) (s : Sys F) (tid : Nat) :
    view (step A sh s tid) = view s
    ∨ ∃ t c rest u, s.threads[tid]? = some t ∧ t.prog = c :: rest ∧ c.h = some u := by
  cases hg : s.threads[tid]? with
  | none => rw [step_none A sh hg]; exact .inl rfl
  | some t =>
    cases hp : t.prog with
    | nil => rw [step_done A sh hg hp]; exact .inl rfl
    | cons c rest =>
      cases hh : c.h with
      | some u => exact .inr ⟨t, c, rest, u, rfl, hp, hh⟩
      | none =>
        rw [step_noop A sh hg hp hh]
        refine .inl (congrArg (View.mk s.cell · s.log s.wrapped) (map_setAt_same hg ?_))
        rw [hp, effOps_noop hh]

/-- **one step, all updates single RMWs**: nothing the view shows changes, or thread `tid` applies its next
    pending update to the cell as it is now -/
theorem view_step (h : AllRmw sh) (s : Sys F) (tid : Nat) :
    view (step A sh s tid) = view s
    ∨ ∃ op ops, (view s).pend[tid]? = some (op :: ops) ∧ view (step A sh s tid) = (view s).apply A tid op ops := by
  rcases view_step_cases A sh s tid with e | ⟨t, c, rest, u, hg, hp, hh⟩
  · exact .inl e
  · refine .inr ⟨c.op, effOps rest, pend_getElem?.2 ⟨t, hg, by rw [hp, effOps_live hh]⟩, ?_⟩
    rw [step_rmw A hg hp hh (rmw_of_all h c.op)]
    exact congrArg (View.mk _ · _ _) (setAt_map _ _ _ _).symm

theorem run_inv (h : AllRmw sh) (Q : View F → Prop)
    (hQ : ∀ v tid op ops, v.pend[tid]? = some (op :: ops) → Q v → Q (v.apply A tid op ops))
    (sched : List Nat) (s : Sys F) (hs : Q (view s)) : Q (view (run A sh s sched)) := by
  refine run_induct A sh (fun s => Q (view s)) (fun s tid hs => ?_) sched s hs
  rcases view_step A h s tid with e | ⟨op, ops, hg, e⟩
  · rw [e]; exact hs
  · rw [e]; exact hQ _ tid op ops hg hs

def AllPend (P : Op F → Prop) (v : View F) : Prop := ∀ ops ∈ v.pend, ∀ op ∈ ops, P op

theorem allPend_init {P : Op F → Prop} (c0 : Nat) {progs : List (List (Call F))}
    (h : ∀ p ∈ progs, ∀ op ∈ effOps p, P op) : AllPend P (view (init c0 progs)) := by
  intro ops hops
  rw [view_init] at hops
  obtain ⟨p, hp, rfl⟩ := List.mem_map.1 hops
  exact h p hp

theorem AllPend.apply {P : Op F → Prop} (hv : AllPend P v) (hg : v.pend[tid]? = some (op :: ops)) :
    P op ∧ AllPend P (v.apply A tid op ops) := by
  have h := hv _ (List.mem_of_getElem? hg)
  refine ⟨h op List.mem_cons_self, fun ops' hops' x hx => ?_⟩
  rcases mem_setAt hops' with rfl | hm
  · exact h x (List.mem_cons_of_mem _ hx)
  · exact hv _ hm x hx

theorem view_step_of_none (sh : Shape) (s : Sys F) (tid : Nat) (hs : AllPend (fun _ => False) (view s)) :
    view (step A sh s tid) = view s := by
  refine (view_step_cases A sh s tid).resolve_right ?_
  rintro ⟨t, c, rest, u, hg, hp, hh⟩
  have hm : c.op ∈ effOps t.prog := hp ▸ effOps_live hh ▸ List.mem_cons_self
  exact hs _ (List.mem_of_getElem? (pend_getElem?.2 ⟨t, hg, rfl⟩)) c.op hm

theorem run_inv_pend (h : AllRmw sh) (P : Op F → Prop) (Q : View F → Prop)
    (hQ : ∀ v tid op ops, v.pend[tid]? = some (op :: ops) → P op → Q v → Q (v.apply A tid op ops))
    (sched : List Nat) (s : Sys F) (hP : AllPend P (view s)) (hs : Q (view s)) :
    AllPend P (view (run A sh s sched)) ∧ Q (view (run A sh s sched)) :=
  run_inv A h (fun v => AllPend P v ∧ Q v)
    (fun v tid op ops hg hv => ⟨(hv.1.apply A hg).2, hQ v tid op ops hg (hv.1.apply A hg).1 hv.2⟩) sched s ⟨hP, hs⟩

def Once (progs : List (List (Call F))) (v : View F) : Prop :=
  ∀ tid p, progs[tid]? = some p → ∃ ops, v.pend[tid]? = some ops ∧ effOps p = (proj tid v.log).reverse ++ ops

theorem once_init (c0 : Nat) (progs : List (List (Call F))) : Once progs (view (init c0 progs)) := by
  intro tid p hp
  rw [view_init]
  exact ⟨effOps p, by simp only [List.getElem?_map, hp, Option.map_some], rfl⟩

theorem once_apply (progs : List (List (Call F))) (hg : v.pend[tid]? = some (op :: ops)) (hv : Once progs v) :
    Once progs (v.apply A tid op ops) := by
  intro tid' p hp
  obtain ⟨ops', h1, h2⟩ := hv tid' p hp
  by_cases hne : tid = tid'
  · subst hne
    obtain rfl : op :: ops = ops' := Option.some.inj (hg.symm.trans h1)
    exact ⟨ops, getElem?_setAt_self ops hg, by simp [h2, View.apply, proj]⟩
  · exact ⟨ops', (getElem?_setAt_ne _ _ hne).trans h1, by simp [h2, View.apply, proj, hne]⟩

def pendLen (t : Thread F) : Nat := (effOps t.prog).length
def pendingLen (s : Sys F) : Nat := (s.threads.map pendLen).sum

theorem pendingLen_eq (s : Sys F) : pendingLen s = (view s).count := by
  simp only [pendingLen, view, View.count, List.map_map]
  rfl

theorem count_apply (hg : v.pend[tid]? = some (op :: ops)) :
    (v.apply A tid op ops).log.length + (v.apply A tid op ops).count = v.log.length + v.count := by
  have e : (v.apply A tid op ops).count + 1 = v.count := sum_map_setAt_add List.length hg rfl
  show v.log.length + 1 + _ = _
  rw [← e, Nat.add_assoc, Nat.add_comm 1]

theorem sum_pend_of_done (hd : AllDone s) (f : List (Op F) → Nat) (hf : f [] = 0) :
    ((view s).pend.map f).sum = 0 := by
  refine List.sum_eq_zero_iff_forall_eq_nat.2 fun x hx => ?_
  simp only [view, List.map_map, List.mem_map] at hx
  obtain ⟨t, ht, rfl⟩ := hx
  simp only [Function.comp, hd t ht, effOps, hf]

def incOf : Op F → Nat
  | .inc n => n
  | _ => 0

def progSum (p : List (Call F)) : Nat := ((effOps p).map incOf).sum

def incSum (ops : List (Op F)) : Nat := (ops.map incOf).sum

/-- the increments still to be applied, all threads together -/
def View.incs (v : View F) : Nat := (v.pend.map incSum).sum

def pending (s : Sys F) : Nat := (view s).incs

/-- every update of the program that reaches the storage is an increment -/
def IncOnlyProg (p : List (Call F)) : Prop := ∀ op ∈ effOps p, ∃ n, op = Op.inc n

theorem sum_apply {n : Nat} (hg : v.pend[tid]? = some (.inc n :: ops)) :
    ((v.apply A tid (.inc n) ops).cell + (v.apply A tid (.inc n) ops).incs) % two64 = (v.cell + v.incs) % two64 := by
  have e : (v.apply A tid (.inc n) ops).incs + n = v.incs := sum_map_setAt_add incSum hg (Nat.add_comm n _)
  show ((v.cell + n) % two64 + _) % two64 = _
  rw [Nat.mod_add_mod, ← e, Nat.add_assoc, Nat.add_comm n]

def CounterOp : Op F → Prop
  | .inc _ => True
  | .abs _ => True
  | _ => False

def CounterOnlyProg (p : List (Call F)) : Prop := ∀ op ∈ effOps p, CounterOp op

theorem counter_grows (hop : CounterOp op) {c : Nat} (hw : wraps op c = false) :
    c ≤ applyOp A op c := by
  cases op with
  | inc n =>
    have : c + n < two64 := Nat.lt_of_not_le (of_decide_eq_false hw)
    exact Nat.le_trans (Nat.le_add_right c n) (Nat.le_of_eq (Nat.mod_eq_of_lt this).symm)
  | abs n => exact Nat.le_max_left c n
  | gInc d => exact False.elim hop
  | gDec d => exact False.elim hop
  | gSet d => exact False.elim hop

theorem mono_apply {lo : Nat} (hop : CounterOp op) (hv : v.wrapped = false → lo ≤ v.cell) (hw : (v.apply A tid op ops).wrapped = false) :
    lo ≤ (v.apply A tid op ops).cell := by
  obtain ⟨hw1, hw2⟩ := Bool.or_eq_false_iff.1 hw
  exact Nat.le_trans (hv hw1) (counter_grows A hop hw2)

theorem dom_apply (hop : CounterOp op)
    (hv : v.wrapped = false → ∀ e ∈ v.log, ∀ x, e.2 = Op.abs x → x ≤ v.cell)
    (hw : (v.apply A tid op ops).wrapped = false) :
    ∀ e ∈ (v.apply A tid op ops).log, ∀ x, e.2 = Op.abs x → x ≤ (v.apply A tid op ops).cell := by
  obtain ⟨hw1, hw2⟩ := Bool.or_eq_false_iff.1 hw
  intro e he x hx
  rcases List.mem_cons.1 he with rfl | he
  · obtain rfl : op = Op.abs x := hx
    exact Nat.le_max_right _ x
  · exact Nat.le_trans (hv hw1 e he x hx) (counter_grows A hop hw2)

theorem cell_mono (h : AllRmw sh) (s : Sys F) (hs : AllPend CounterOp (view s))
    (sched : List Nat) (hw : (run A sh s sched).wrapped = false) : s.cell ≤ (run A sh s sched).cell :=
  (run_inv_pend A h CounterOp (fun v => v.wrapped = false → s.cell ≤ v.cell)
    (fun _ _ _ _ _ hop hv => mono_apply A hop hv) sched s hs fun _ => Nat.le_refl _).2 hw

def GaugeOp : Op F → Prop
  | .gInc _ => True
  | .gDec _ => True
  | .gSet _ => True
  | _ => False

/-- the update on gauge VALUES -/
def gApply (A : Carrier F) (op : Op F) (x : F) : F :=
  match op with
  | .gInc d => A.add x d
  | .gDec d => A.sub x d
  | .gSet v => v
  | _ => x

theorem ofBits_applyOp (hrt : ∀ x, A.ofBits (A.toBits x) = x) (hop : GaugeOp op) (c : Nat) :
    A.ofBits (applyOp A op c) = gApply A op (A.ofBits c) := by
  cases op with
  | inc n => exact False.elim hop
  | abs n => exact False.elim hop
  | gInc d => exact hrt _
  | gDec d => exact hrt _
  | gSet v => exact hrt _

theorem mem_of_mem_proj {tid : Nat} {op : Op F} {log : List (Nat × Op F)} (h : op ∈ proj tid log) : (tid, op) ∈ log := by
  induction log with
  | nil => cases h
  | cons e rest ih =>
    simp only [proj] at h
    split at h
    · next he =>
      rcases List.mem_cons.1 h with rfl | h
      · exact he ▸ List.mem_cons_self
      · exact List.mem_cons_of_mem _ (ih h)
    · exact List.mem_cons_of_mem _ (ih h)

/-- calls (effective or not) the threads have still to make -/
def remaining (s : Sys F) : Nat := (s.threads.map fun t => t.prog.length).sum

theorem remaining_step (h : AllRmw sh) {t : Thread F} {c : Call F} {rest : List (Call F)}
    (hg : s.threads[tid]? = some t) (hp : t.prog = c :: rest) :
    remaining (step A sh s tid) + 1 = remaining s := by
  rw [remaining, step_threads A h hg hp]
  exact sum_map_setAt_add (fun t : Thread F => t.prog.length) hg (congrArg List.length hp)

theorem done_of_remaining_zero (s : Sys F) (h : remaining s = 0) : AllDone s := fun _ ht =>
  List.eq_nil_of_length_eq_zero
    (List.sum_eq_zero_iff_forall_eq_nat.1 h _ (List.mem_map_of_mem (f := fun t : Thread F => t.prog.length) ht))

theorem exists_pending (h : 0 < remaining s) : ∃ (tid : Nat) (t : Thread F) (c : Call F) (rest : List (Call F)), s.threads[tid]? = some t ∧ t.prog = c :: rest := by
  obtain ⟨n, hn, hpos⟩ := List.sum_pos_iff_exists_pos_nat.1 h
  obtain ⟨t, ht, rfl⟩ := List.mem_map.1 hn
  obtain ⟨tid, hg⟩ := List.getElem?_of_mem ht
  obtain ⟨c, rest, hp⟩ := List.exists_cons_of_length_pos hpos
  exact ⟨tid, t, c, rest, hg, hp⟩

theorem exists_completion (h : AllRmw sh) :
    ∀ (n : Nat) (s : Sys F), remaining s = n → ∃ sched, AllDone (run A sh s sched)
  | 0, s, hs => ⟨[], done_of_remaining_zero s hs⟩
  | n + 1, s, hs => by
    obtain ⟨tid, t, c, rest, hg, hp⟩ := exists_pending (s := s) (hs ▸ Nat.succ_pos n)
    obtain ⟨sched, hd⟩ := exists_completion h n (step A sh s tid) (Nat.succ.inj ((remaining_step A h hg hp).trans hs))
    exact ⟨tid :: sched, hd⟩

theorem recordManyDefault_log (log : List F) (v : F) (n : Nat) :
    recordManyDefault logRecord log v n = log ++ List.replicate n v := by
  induction n generalizing log with
  | zero => simp [recordManyDefault]
  | succ n ih => simp [recordManyDefault, ih, logRecord, List.replicate_succ]

theorem repeat_comm {α : Type} (f : α → α) (n : Nat) (a : α) : Nat.repeat f n (f a) = f (Nat.repeat f n a) := by
  induction n with
  | zero => rfl
  | succ n ih => exact congrArg f ih

/-- the loop applies `record` first and then iterates; `Nat.repeat` iterates first -/
theorem recordManyDefault_iter {σ : Type} (record : σ → F → σ) (st : σ) (v : F) (n : Nat) :
    recordManyDefault record st v n = Nat.repeat (fun s => record s v) n st := by
  induction n generalizing st with
  | zero => rfl
  | succ n ih => exact (ih _).trans (repeat_comm _ n st)

theorem arcN_record {σ : Type} (inner : HistFn σ F) (k : Nat) : (HistFn.arcN inner k).record = inner.record := by
  induction k with
  | zero => rfl
  | succ k ih => exact ih

end MetricsVerif.Atomics
