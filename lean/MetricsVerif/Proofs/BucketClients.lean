/-
The bucket step machine as its histogram clients use it (Prometheus drain pass, DogStatsD flush, debugging snapshot):
programs whose first threads only push, what `visible` and `delivered` look at, and one thread running on after every
other thread has finished.
-/
import MetricsVerif.Proofs.BucketCons

namespace MetricsVerif.Bucket

theorem count_map_push (vs : List Nat) (v : Nat) : (vs.map Call.push).count (.push v) = vs.count v := by
  induction vs with
  | nil => rfl
  | cons w r ih => simp only [List.map_cons, List.count_cons, ih, beq_iff_eq, Call.push.injEq]

theorem count_push_recorders (recs : List (List Nat)) (others : List (List Call)) (v : Nat)
    (ho : ∀ p ∈ others, Call.push v ∉ p) :
    (recs.map (List.map Call.push) ++ others).flatten.count (.push v) = recs.flatten.count v := by
  have h0 : others.flatten.count (.push v) = 0 :=
    List.count_eq_zero_of_not_mem (fun h => by obtain ⟨p, hp, hv⟩ := List.mem_flatten.mp h; exact ho p hp hv)
  rw [List.flatten_append, List.count_append, h0, Nat.add_zero, List.count_flatten, List.count_flatten, List.map_map]
  exact congrArg List.sum (List.map_congr_left (fun vs _ => count_map_push vs v))

theorem chainData_congr {s s' : Sys} (hb : s'.blocks = s.blocks) (fuel : Nat) (o : Option Nat) :
    chainData s' fuel o = chainData s fuel o := by
  induction fuel generalizing o with
  | zero => rfl
  | succ n ih =>
    cases o with
    | none => rfl
    | some i => simp only [chainData, getBlock, hb, ih]

theorem visible_congr {s s' : Sys} (hb : s'.blocks = s.blocks) (ht : s'.tail = s.tail) : visible s' = visible s := by
  unfold visible
  rw [hb, ht]
  exact chainData_congr hb _ _

theorem visible_of_tail_none (s : Sys) (h : s.tail = none) : visible s = [] := by
  unfold visible
  rw [h]
  exact chainData_none s _

theorem count_cleared_le_delivered (s : Sys) (i : Nat) (t : Thread) (h : s.threads[i]? = some t) (v : Nat) :
    (t.results.flatMap clearedVals).count v ≤ (delivered s).count v := by
  rw [delivered_eq]
  exact (List.sublist_flatten_of_mem
    (List.mem_map_of_mem (f := fun t => t.results.flatMap clearedVals) (List.mem_of_getElem? h))).count_le v

theorem step_done (s : Sys) (tid : Nat) (h : ∀ t, s.threads[tid]? = some t → t.pc = .done) : step s tid = s := by
  cases hg : s.threads[tid]? with
  | none => exact step_none hg
  | some t => rw [step_eq s tid t hg, stepThread_at_done (h t hg), setAt_same _ _ _ hg]

theorem pc_done_of_quiescent {s : Sys} (hq : quiescent s = true) {i : Nat} {t : Thread} (h : s.threads[i]? = some t) :
    t.pc = .done :=
  quiescent_done hq t (List.mem_of_getElem? h)

/-- every thread but `f` has finished, and `P` relates the shared state to thread `f` -/
def Solo (P : Sys → Thread → Prop) (f : Nat) (s : Sys) : Prop :=
  (∀ i t, s.threads[i]? = some t → i ≠ f → t.pc = .done) ∧ ∃ t, s.threads[f]? = some t ∧ P s t

theorem Solo.step {P : Sys → Thread → Prop} (hP : ∀ s t, P s t → P (stepThread s t).1 (stepThread s t).2)
    (hc : ∀ s s' t, s'.tail = s.tail → s'.blocks = s.blocks → P s t → P s' t) {f : Nat} {s : Sys} (h : Solo P f s)
    (tid : Nat) : Solo P f (step s tid) := by
  by_cases hf : tid = f
  · subst hf
    obtain ⟨t, hg, hp⟩ := h.2
    refine ⟨fun i u hu hne => h.1 i u (by rw [← step_other s (Ne.symm hne)]; exact hu) hne,
      (stepThread s t).2, step_self hg, hc _ _ _ ?_ ?_ (hP s t hp)⟩ <;> rw [step_eq s tid t hg]
  · rw [step_done s tid (fun t ht => h.1 tid t ht hf)]; exact h

theorem Solo.run {P : Sys → Thread → Prop} (hP : ∀ s t, P s t → P (stepThread s t).1 (stepThread s t).2)
    (hc : ∀ s s' t, s'.tail = s.tail → s'.blocks = s.blocks → P s t → P s' t) {f : Nat} (sched : List Nat) :
    ∀ {s : Sys}, Solo P f s → Solo P f (run s sched) := by
  induction sched with
  | nil => exact fun h => h
  | cons t ts ih => exact fun h => ih (h.step hP hc t)

end MetricsVerif.Bucket
