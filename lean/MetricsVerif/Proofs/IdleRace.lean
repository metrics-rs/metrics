/-
Invariants of the idle-race step machine (Model/IdleRace).

`Inv` holds in EVERY interleaving.  Its core is `P`: if `Recency`'s entry carries the current generation of the
registered cell and no updater is between its value write and its bump on that cell, then every update written to
the cell has been shown.  On schedules in which no update step lies inside a read→delete window (`windowFree`) the
observer's deletion finds exactly that situation, so nothing is lost (`run_lossless`).  What a step of an updater
does is said once (`UEff`); the invariant, the frame and the ghost counters are read off it.
-/
import MetricsVerif.Model.IdleRace
import MetricsVerif.Proofs.ListAt

namespace MetricsVerif.IdleRace

def noMidOn (s : Sys) (c : Nat) : Prop := ∀ u ∈ s.upds, u.pc = .applied → u.h ≠ c

/-- the part of the invariant that does not mention the updater threads:
    `R` while the observer is not idle, the cell it holds (`obs.c`) is the registered one;
    `Q` no registered cell, no `Recency` entry;
    `L` the entry's generation is not ahead of the registered cell's generation;
    `G` neither is the generation the observer read (`obs.g`) ahead of its cell's;
    `D` the observer is `deleting` only on a metric `should_store` decided to delete (`doomed`) -/
structure InvA (s : Sys) : Prop where
  R : s.obs.pc ≠ .idle → s.reg = some s.obs.c
  Q : s.reg = none → s.entry = none
  L : ∀ c lg lt, s.reg = some c → s.entry = some (lg, lt) → lg ≤ s.gen c
  G : s.obs.pc ≠ .idle → s.obs.g ≤ s.gen s.obs.c
  D : s.obs.pc = .deleting → doomed s = true

def InvP (s : Sys) : Prop :=
  ∀ c lg lt, s.reg = some c → s.entry = some (lg, lt) → lg = s.gen c → noMidOn s c → s.unshown c = 0

/-- the invariant of every interleaving: `A` the observer / registry / `Recency` part, `P` the part about updaters -/
structure Inv (s : Sys) : Prop where
  A : InvA s
  P : InvP s

theorem mem_or_mem_setAt {α : Type} {l : List α} {i : Nat} {a u x : α} (hg : l[i]? = some u) (hx : x ∈ l) :
    x = u ∨ x ∈ setAt l i a := by
  obtain ⟨j, hj⟩ := List.getElem?_of_mem hx
  by_cases e : i = j
  · subst e; exact .inl (Option.some.inj (hj.symm.trans hg))
  · exact .inr (List.mem_of_getElem? (by rw [getElem?_setAt, if_neg fun h => e h.1]; exact hj))

theorem doomed_congr (s s' : Sys) (h1 : s'.timeout = s.timeout) (h2 : s'.covered = s.covered) (h3 : s'.entry = s.entry)
    (h4 : s'.obs.g = s.obs.g) (h5 : s'.now = s.now) : doomed s' = doomed s := by
  unfold doomed; rw [h1, h2, h3, h4, h5]

theorem invA_congr (s s' : Sys) (h : InvA s) (hreg : s'.reg = s.reg) (hentry : s'.entry = s.entry)
    (hgen : ∀ c, s.gen c ≤ s'.gen c) (hobs : s'.obs = s.obs) (h1 : s'.timeout = s.timeout)
    (h2 : s'.covered = s.covered) (h5 : s'.now = s.now) : InvA s' := by
  refine ⟨?_, ?_, ?_, ?_, ?_⟩
  · rw [hobs, hreg]; exact h.R
  · rw [hreg, hentry]; exact h.Q
  · intro c lg lt hr he
    rw [hreg] at hr; rw [hentry] at he
    exact Nat.le_trans (h.L c lg lt hr he) (hgen c)
  · rw [hobs]; intro hp; exact Nat.le_trans (h.G hp) (hgen _)
  · rw [hobs]; intro hp
    rw [doomed_congr s s' h1 h2 hentry (by rw [hobs]) h5]; exact h.D hp

theorem invA_write (s : Sys) (c : Nat) (h : InvA s) : InvA (write s c) :=
  invA_congr s (write s c) h rfl rfl (fun _ => Nat.le_refl _) rfl rfl rfl rfl

theorem invA_bump (s : Sys) (c : Nat) (h : InvA s) : InvA (bump s c) := by
  refine invA_congr s (bump s c) h rfl rfl ?_ rfl rfl rfl rfl
  intro i; simp only [bump]; split <;> omega

theorem invA_upds (s : Sys) (l : List Upd) (h : InvA s) : InvA { s with upds := l } :=
  invA_congr s _ h rfl rfl (fun _ => Nat.le_refl _) rfl rfl rfl rfl

theorem invA_create (s : Sys) (h : InvA s) (hr : s.reg = none) : InvA (create s) := by
  have hidle : s.obs.pc = .idle := by
    cases hp : s.obs.pc with
    | idle => rfl
    | genRead => have := h.R (by rw [hp]; exact fun h => nomatch h); rw [hr] at this; cases this
    | deleting => have := h.R (by rw [hp]; exact fun h => nomatch h); rw [hr] at this; cases this
  have he : s.entry = none := h.Q hr
  refine ⟨?_, ?_, ?_, ?_, ?_⟩
  · intro hp; exact absurd hidle hp
  · intro hc; simp [create] at hc
  · intro c lg lt _ hent; simp only [create] at hent; rw [he] at hent; cases hent
  · intro hp; exact absurd hidle hp
  · intro hp; simp only [create] at hp; rw [hidle] at hp; cases hp

theorem invP_from_nonmid (s s' : Sys) (tid : Nat) (u u' : Upd) (hg : s.upds[tid]? = some u) (hpc : u.pc ≠ .applied)
    (hreg : s'.reg = s.reg) (hentry : s'.entry = s.entry) (hgen : s'.gen = s.gen) (hupds : s'.upds = s.upds)
    (hun : ∀ c, s'.unshown c = s.unshown c ∨ (u'.pc = .applied ∧ u'.h = c))
    (hP : InvP s) : InvP { s' with upds := setAt s'.upds tid u' } := by
  intro c lg lt hr he hl hn
  simp only at hr he hl
  rw [hreg] at hr; rw [hentry] at he; rw [hgen] at hl
  rcases hun c with h | ⟨h1, h2⟩
  · simp only; rw [h]
    apply hP c lg lt hr he hl
    intro x hx hxp
    rcases mem_or_mem_setAt (a := u') hg hx with rfl | hx'
    · exact absurd hxp hpc
    · exact hn x (by simp only; rw [hupds]; exact hx') hxp
  · exfalso
    exact hn u' (by simp only; rw [hupds]; exact mem_setAt_self hg) h1 h2

theorem invP_from_mid (s s' : Sys) (tid : Nat) (u u' : Upd) (hg : s.upds[tid]? = some u) (hh : u'.h = u.h)
    (hreg : s'.reg = s.reg) (hentry : s'.entry = s.entry)
    (hgen : ∀ c, s'.gen c = if c = u.h then s.gen c + 1 else s.gen c) (hupds : s'.upds = s.upds)
    (hun : ∀ c, s'.unshown c = s.unshown c ∨ (u'.pc = .applied ∧ u'.h = c))
    (hA : InvA s) (hP : InvP s) : InvP { s' with upds := setAt s'.upds tid u' } := by
  intro c lg lt hr he hl hn
  simp only at hr he hl
  rw [hreg] at hr; rw [hentry] at he; rw [hgen c] at hl
  by_cases hc : c = u.h
  · rw [if_pos hc] at hl
    have := hA.L c lg lt hr he
    omega
  · rw [if_neg hc] at hl
    rcases hun c with h | ⟨_, h2⟩
    · simp only; rw [h]
      apply hP c lg lt hr he hl
      intro x hx hxp
      rcases mem_or_mem_setAt (a := u') hg hx with rfl | hx'
      · exact fun e => hc e.symm
      · exact hn x (by simp only; rw [hupds]; exact hx') hxp
    · exact absurd (h2.symm.trans hh) hc

theorem invP_create (s : Sys) (s' : Sys) (l : List Upd) (hA : InvA s) (hr : s.reg = none)
    (hentry : s'.entry = s.entry) : InvP { s' with upds := l } := by
  intro c lg lt _ he
  simp only at he
  rw [hentry, hA.Q hr] at he; cases he

/-- What one step of an updater does to the state and to the updater: nothing but a move of its pc; a value write
    through a handle of cell `c` (a fresh-handle updater has just looked `c` up in the registry); the creation of a
    cell followed by the write; the generation bump that ends an update; the bump followed at once by the next write
    through a kept handle. -/
inductive UEff (s : Sys) (u : Upd) : Sys → Upd → Prop
  | move {u' : Upd} : u.pc ≠ .applied → u'.pc ≠ .applied → u'.fresh = u.fresh → UEff s u s u'
  | wrote {u' : Upd} (c : Nat) : u.pc ≠ .applied → u'.pc = .applied → u'.h = c → u'.fresh = u.fresh →
      (u.fresh = true → s.reg = some c) → UEff s u (write s c) u'
  | created {u' : Upd} : s.reg = none → u.pc ≠ .applied → u'.h = s.nCells → u'.fresh = u.fresh →
      UEff s u (write (create s) s.nCells) u'
  | bumped {u' : Upd} : u.pc = .applied → u'.pc ≠ .applied → u'.h = u.h → u'.fresh = u.fresh →
      UEff s u (bump s u.h) u'
  | bumpedWrote {u' : Upd} : u.pc = .applied → u.fresh = false → u'.pc = .applied → u'.h = u.h → u'.fresh = u.fresh →
      UEff s u (write (bump s u.h) u.h) u'

theorem stepUpd_eff (s : Sys) (u : Upd) : UEff s u (stepUpd s u).1 (stepUpd s u).2 := by
  fun_cases stepUpd s u
  · next hp =>
    have hne : u.pc ≠ .applied := hp ▸ nofun
    unfold beginUpd
    split
    · exact .move hne nofun rfl
    · split
      · exact .move hne nofun rfl
      · next hf => exact .wrote u.h hne rfl rfl rfl fun x => absurd x hf
  · next hp c hr => exact .wrote c (hp ▸ nofun) rfl rfl rfl fun _ => hr
  · next hp hr => exact .move (hp ▸ nofun) nofun rfl
  · next hp c hr => exact .wrote c (hp ▸ nofun) rfl rfl rfl fun _ => hr
  · next hp hr => exact .created hr (hp ▸ nofun) rfl rfl
  · next hp =>
    unfold beginUpd
    split
    · exact .bumped hp nofun rfl rfl
    · split
      · exact .bumped hp nofun rfl rfl
      · next hf => exact .bumpedWrote hp (Bool.eq_false_iff.2 hf) rfl rfl rfl
  · next hp => exact .move (hp ▸ nofun) (hp ▸ nofun) rfl

theorem unshown_write (s : Sys) (c i : Nat) : (write s c).unshown i = s.unshown i ∨ c = i := by
  by_cases h : i = c
  · exact .inr h.symm
  · exact .inl (if_neg h)

theorem UEff.inv {s s' : Sys} {u u' : Upd} {tid : Nat} (e : UEff s u s' u') (hg : s.upds[tid]? = some u)
    (h : Inv s) : Inv { s' with upds := setAt s'.upds tid u' } := by
  cases e with
  | move hp hp' =>
    exact ⟨invA_upds s _ h.A, invP_from_nonmid s s tid u _ hg hp rfl rfl rfl rfl (fun _ => .inl rfl) h.P⟩
  | wrote c hp hp' hh =>
    exact ⟨invA_upds _ _ (invA_write s c h.A), invP_from_nonmid s (write s c) tid u _ hg hp rfl rfl rfl rfl
      (fun i => (unshown_write s c i).imp_right fun x => ⟨hp', hh.trans x⟩) h.P⟩
  | created hr =>
    exact ⟨invA_upds _ _ (invA_write _ _ (invA_create s h.A hr)), invP_create s (write (create s) s.nCells) _ h.A hr rfl⟩
  | bumped hp hp' hh =>
    exact ⟨invA_upds _ _ (invA_bump s u.h h.A),
      invP_from_mid s (bump s u.h) tid u _ hg hh rfl rfl (fun _ => rfl) rfl (fun _ => .inl rfl) h.A h.P⟩
  | bumpedWrote hp hf hp' hh =>
    exact ⟨invA_upds _ _ (invA_write _ _ (invA_bump s u.h h.A)),
      invP_from_mid s (write (bump s u.h) u.h) tid u _ hg hh rfl rfl (fun _ => rfl) rfl
        (fun i => (unshown_write (bump s u.h) u.h i).imp_right fun x => ⟨hp', hh.trans x⟩) h.A h.P⟩

theorem inv_of_idle {s : Sys} (hp : s.obs.pc = .idle) (hQ : s.reg = none → s.entry = none)
    (hL : ∀ c lg lt, s.reg = some c → s.entry = some (lg, lt) → lg ≤ s.gen c) (hP : InvP s) : Inv s :=
  ⟨⟨fun h => absurd hp h, hQ, hL, fun h => absurd hp h, fun h => by rw [hp] at h; cases h⟩, hP⟩

theorem inv_of_idle_absent {s : Sys} (hp : s.obs.pc = .idle) (hr : s.reg = none) (he : s.entry = none) : Inv s :=
  inv_of_idle hp (fun _ => he) (fun c lg lt h => by rw [hr] at h; cases h) (fun c lg lt h => by rw [hr] at h; cases h)

theorem stepObs_inv (s : Sys) (h : Inv s) : Inv (stepObs s) := by
  fun_cases stepObs s
  · exact h
  · next hr => exact inv_of_idle_absent rfl hr (h.A.Q hr)
  · -- the snapshot: the handle of the registered cell and its generation
    next c hr =>
    exact ⟨⟨fun _ => hr, fun hc => absurd (hr.symm.trans hc) nofun, h.A.L, fun _ => Nat.le_refl _, nofun⟩, h.P⟩
  · next hpc hd =>
    have hne : s.obs.pc ≠ .idle := hpc ▸ nofun
    exact ⟨⟨fun _ => h.A.R hne, h.A.Q, h.A.L, fun _ => h.A.G hne, fun _ => hd⟩, h.P⟩
  · -- kept: the entry now carries the generation read (or an older stamp with the same generation); all is shown
    next hpc hd =>
    have hne : s.obs.pc ≠ .idle := hpc ▸ nofun
    have hR := h.A.R hne
    have hG := h.A.G hne
    refine inv_of_idle rfl (fun hc => absurd (hR.symm.trans hc) nofun) (fun c lg lt hc he => ?_)
      (fun c lg lt hc _ _ _ => ?_)
    · cases hR.symm.trans hc
      have he : refreshed s = some (lg, lt) := he
      unfold refreshed at he
      split at he
      · exact h.A.L _ lg lt hR he
      · split at he
        · split at he
          · split at he
            · next hent _ => cases he; exact h.A.L _ _ _ hR hent
            · cases he; exact hG
          · cases he; exact hG
        · exact h.A.L _ lg lt hR he
    · cases hR.symm.trans hc
      exact if_pos rfl
  · exact inv_of_idle_absent rfl rfl rfl
  · next hr => exact inv_of_idle_absent rfl hr (h.A.Q hr)

theorem step_inv (s : Sys) (tid : Nat) (h : Inv s) : Inv (step s tid) := by
  unfold step
  split
  · cases hg : s.upds[tid]? with
    | none => exact h
    | some u => exact (stepUpd_eff s u).inv hg h
  · split
    · exact stepObs_inv s h
    · exact h

theorem run_inv (sched : List Nat) : ∀ s, Inv s → Inv (run s sched) := fun _ h =>
  List.foldlRecOn sched step h fun s hs tid _ => step_inv s tid hs

theorem init_inv (c : Cfg) : Inv (init c) := by
  refine ⟨⟨?_, ?_, ?_, ?_, ?_⟩, ?_⟩
  · intro hp; exact absurd rfl hp
  · intro hc; cases hc
  · intro c' lg lt _ he
    simp only [init] at he ⊢
    cases hT : c.timeout with
    | none => rw [hT] at he; cases he
    | some T =>
      rw [hT] at he
      simp only at he
      by_cases hcov : c.covered = true
      · simp only [hcov, if_true, Option.some.injEq, Prod.mk.injEq] at he; omega
      · simp only [hcov] at he; cases he
  · intro hp; exact absurd rfl hp
  · intro hp; cases hp
  · intro c' lg lt _ _ _ _; rfl

def allFresh (s : Sys) : Prop := ∀ u ∈ s.upds, u.fresh = true

/-- inside a window the generation the observer holds is still the cell's generation, and nobody is mid-update -/
def K (s : Sys) : Prop := inWindow s = true → (s.gen s.obs.c = s.obs.g ∧ anyMid s = false)

/-- the ghost counters did not move -/
structure Same (s s' : Sys) : Prop where
  lost : s'.lost = s.lost
  dirty : s'.dirtyDrops = s.dirtyDrops
  orphan : s'.orphanWrites = s.orphanWrites

theorem Same.refl (s : Sys) : Same s s := ⟨rfl, rfl, rfl⟩

theorem Same.trans {a b c : Sys} (h1 : Same a b) (h2 : Same b c) : Same a c :=
  ⟨h2.lost.trans h1.lost, h2.dirty.trans h1.dirty, h2.orphan.trans h1.orphan⟩

theorem inWindow_congr (s s' : Sys) (hobs : s'.obs = s.obs) (h1 : s'.timeout = s.timeout) (h2 : s'.covered = s.covered)
    (h3 : s'.entry = s.entry) (h5 : s'.now = s.now) : inWindow s' = inWindow s := by
  unfold inWindow
  rw [doomed_congr s s' h1 h2 h3 (by rw [hobs]) h5, hobs]

/-- what an updater step never touches -/
structure Frame (s s' : Sys) : Prop where
  obs : s'.obs = s.obs
  timeout : s'.timeout = s.timeout
  covered : s'.covered = s.covered
  entry : s'.entry = s.entry
  now : s'.now = s.now
  upds : s'.upds = s.upds

theorem frame_write (s : Sys) (c : Nat) : Frame s (write s c) := ⟨rfl, rfl, rfl, rfl, rfl, rfl⟩
theorem frame_bump (s : Sys) (c : Nat) : Frame s (bump s c) := ⟨rfl, rfl, rfl, rfl, rfl, rfl⟩
theorem frame_create (s : Sys) : Frame s (create s) := ⟨rfl, rfl, rfl, rfl, rfl, rfl⟩
theorem Frame.trans {a b c : Sys} (h1 : Frame a b) (h2 : Frame b c) : Frame a c :=
  ⟨h2.obs.trans h1.obs, h2.timeout.trans h1.timeout, h2.covered.trans h1.covered, h2.entry.trans h1.entry,
   h2.now.trans h1.now, h2.upds.trans h1.upds⟩

theorem UEff.frame {s s' : Sys} {u u' : Upd} (e : UEff s u s' u') : Frame s s' ∧ u'.fresh = u.fresh := by
  cases e with
  | move _ _ hf => exact ⟨⟨rfl, rfl, rfl, rfl, rfl, rfl⟩, hf⟩
  | wrote c _ _ _ hf => exact ⟨frame_write _ _, hf⟩
  | created _ _ _ hf => exact ⟨(frame_create s).trans (frame_write _ _), hf⟩
  | bumped _ _ _ hf => exact ⟨frame_bump _ _, hf⟩
  | bumpedWrote _ _ _ _ hf => exact ⟨(frame_bump s _).trans (frame_write _ _), hf⟩

theorem same_write (s : Sys) (c : Nat) (hr : s.reg = some c) : Same s (write s c) :=
  ⟨if_pos hr, rfl, if_pos hr⟩

/-- a fresh-handle updater only ever writes to the cell the registry maps the key to -/
theorem UEff.same {s s' : Sys} {u u' : Upd} (e : UEff s u s' u') (hf : u.fresh = true) : Same s s' := by
  cases e with
  | move => exact Same.refl s
  | wrote c _ _ _ _ hr => exact same_write s c (hr hf)
  | created => exact Same.trans (b := create s) ⟨rfl, rfl, rfl⟩ (same_write (create s) s.nCells rfl)
  | bumped => exact ⟨rfl, rfl, rfl⟩
  | bumpedWrote _ hf' => exact absurd (hf.symm.trans hf') nofun


theorem anyMid_of_calm (s : Sys) (hc : calm s = true) (hw : inWindow s = true) : anyMid s = false := by
  unfold calm at hc
  rw [hw] at hc
  cases h : anyMid s with
  | false => rfl
  | true => rw [h] at hc; cases hc

theorem doomed_entry (s : Sys) (h : doomed s = true) : ∃ lt, s.entry = some (s.obs.g, lt) := by
  unfold doomed at h
  cases hT : s.timeout with
  | none => rw [hT] at h; cases h
  | some T =>
    rw [hT] at h
    cases he : s.entry with
    | none => rw [he] at h; simp at h
    | some p =>
      obtain ⟨lg, lt⟩ := p
      rw [he] at h
      simp only [Bool.and_eq_true, decide_eq_true_eq] at h
      exact ⟨lt, by rw [h.2.1]⟩

theorem noMidOn_of_anyMid (s : Sys) (h : anyMid s = false) (c : Nat) : noMidOn s c := by
  intro u hu hp
  unfold anyMid at h
  rw [List.any_eq_false] at h
  have := h u hu
  simp [hp] at this

theorem stepObs_lossless (s : Sys) (hinv : Inv s) (hK : K s) (hcalm : calm (stepObs s) = true) :
    K (stepObs s) ∧ (stepObs s).upds = s.upds ∧ Same s (stepObs s) := by
  -- `calm` gives the half of `K` about the updaters; the generation held inside a window is the cell's
  suffices h : (inWindow (stepObs s) = true → (stepObs s).gen (stepObs s).obs.c = (stepObs s).obs.g)
      ∧ (stepObs s).upds = s.upds ∧ Same s (stepObs s) from
    ⟨fun hw => ⟨h.1 hw, anyMid_of_calm _ hcalm hw⟩, h.2⟩
  clear hcalm
  fun_cases stepObs s
  · exact ⟨fun hw => (hK hw).1, rfl, Same.refl s⟩
  · exact ⟨nofun, rfl, rfl, rfl, rfl⟩
  · exact ⟨fun _ => rfl, rfl, rfl, rfl, rfl⟩
  · next hpc hd =>
    have hw : inWindow s = true := by unfold inWindow; rw [hpc]; exact hd
    exact ⟨fun _ => (hK hw).1, rfl, rfl, rfl, rfl⟩
  · exact ⟨nofun, rfl, rfl, rfl, rfl⟩
  · -- the deletion: the entry carries the cell's generation and nobody is mid-update, so all its updates are shown
    next hpc c0 hr =>
    have hw : inWindow s = true := by unfold inWindow; rw [hpc]
    obtain ⟨hgen, hmid⟩ := hK hw
    have hR : s.reg = some s.obs.c := hinv.A.R (hpc ▸ nofun)
    obtain ⟨lt, hent⟩ := doomed_entry s (hinv.A.D hpc)
    have hz : s.unshown c0 = 0 := by
      cases hR.symm.trans hr
      exact hinv.P s.obs.c s.obs.g lt hR hent hgen.symm (noMidOn_of_anyMid s hmid _)
    exact ⟨nofun, rfl, show s.lost + s.unshown c0 = s.lost by rw [hz]; rfl,
      show (if s.unshown c0 = 0 then _ else _) = s.dirtyDrops from if_pos hz, rfl⟩
  · exact ⟨nofun, rfl, rfl, rfl, rfl⟩

theorem mem_setAt_fresh (l : List Upd) (tid : Nat) (u' : Upd) (hl : ∀ u ∈ l, u.fresh = true) (hu : u'.fresh = true) :
    ∀ u ∈ setAt l tid u', u.fresh = true := by
  intro u hm
  rcases mem_setAt hm with rfl | h
  · exact hu
  · exact hl u h

theorem step_lossless (s : Sys) (t : Nat) (hinv : Inv s) (hK : K s) (hf : allFresh s)
    (hno : t < s.upds.length → inWindow s = false) (hcalm : calm (step s t) = true) :
    K (step s t) ∧ allFresh (step s t) ∧ Same s (step s t) := by
  unfold step at hcalm ⊢
  by_cases ht : t < s.upds.length
  · simp only [ht, if_true] at hcalm ⊢
    cases hg : s.upds[t]? with
    | none => simp only [hg] at hcalm ⊢; exact ⟨hK, hf, Same.refl s⟩
    | some u =>
      simp only
      have hu : u ∈ s.upds := List.mem_of_getElem? hg
      obtain ⟨hfr, hfresh⟩ := (stepUpd_eff s u).frame
      have hsame := (stepUpd_eff s u).same (hf u hu)
      refine ⟨?_, ?_, ⟨hsame.lost, hsame.dirty, hsame.orphan⟩⟩
      · intro hw
        have : inWindow { (stepUpd s u).1 with upds := setAt (stepUpd s u).1.upds t (stepUpd s u).2 } = inWindow s :=
          inWindow_congr s _ hfr.obs hfr.timeout hfr.covered hfr.entry hfr.now
        rw [this, hno ht] at hw; cases hw
      · intro x hx
        simp only at hx
        rw [hfr.upds] at hx
        exact mem_setAt_fresh s.upds t _ hf (by rw [hfresh]; exact hf u hu) x hx
  · simp only [ht, if_false] at hcalm ⊢
    by_cases he : t = s.upds.length
    · simp only [he, if_true] at hcalm ⊢
      obtain ⟨h1, h2, h3⟩ := stepObs_lossless s hinv hK hcalm
      exact ⟨h1, by unfold allFresh; rw [h2]; exact hf, h3⟩
    · simp only [he, if_false] at hcalm ⊢
      exact ⟨hK, hf, Same.refl s⟩

theorem run_lossless (sched : List Nat) : ∀ s, Inv s → K s → allFresh s → windowFree s sched = true →
    Same s (run s sched) := by
  induction sched with
  | nil => intro s _ _ _ _; exact Same.refl s
  | cons t ts ih =>
    intro s hinv hK hf hw
    simp only [windowFree, Bool.and_eq_true] at hw
    obtain ⟨⟨h1, h2⟩, h3⟩ := hw
    have hno : t < s.upds.length → inWindow s = false := by
      intro ht; simp only [ht, if_true] at h1; simpa using h1
    obtain ⟨hK', hf', hs⟩ := step_lossless s t hinv hK hf hno h2
    exact hs.trans (ih (step s t) (step_inv s t hinv) hK' hf' h3)

theorem init_K (c : Cfg) : K (init c) := by
  intro hw; simp [inWindow, init] at hw

theorem init_allFresh (c : Cfg) (h : ∀ p ∈ c.upds, p.1 = true) : allFresh (init c) := by
  intro u hu
  simp only [init, List.mem_map] at hu
  obtain ⟨p, hp, rfl⟩ := hu
  exact h p hp

theorem stepObs_genRead_keep (s : Sys) (hpc : s.obs.pc = .genRead) (hd : doomed s = false) :
    stepObs s = showValue { s with entry := refreshed s } := by
  unfold stepObs
  rw [hpc]
  simp only [hd, Bool.false_eq_true, if_false]

theorem quiet_keeps_fresh (s : Sys) (hinv : Inv s) (hidle : s.obs.pc = .idle) (htodo : s.obs.todo ≠ 0) (c : Nat)
    (hreg : s.reg = some c) (hmid : anyMid s = false) (hfresh : 0 < s.unshown c) :
    (stepObs (stepObs s)).obs.pc = .idle ∧ (stepObs (stepObs s)).reg = some c ∧
    (stepObs (stepObs s)).obs.shown = s.obs.shown ++ [some (s.val c)] ∧
    (stepObs (stepObs s)).unshown c = 0 ∧ Same s (stepObs (stepObs s)) := by
  have h1 : stepObs s = { s with obs := { s.obs with pc := .genRead, c := c, g := s.gen c } } := by
    unfold stepObs; rw [hidle]; simp only [htodo, if_false, hreg]
  have hnd : doomed (stepObs s) = false := by
    cases hd : doomed (stepObs s) with
    | false => rfl
    | true =>
      exfalso
      obtain ⟨lt, hent⟩ := doomed_entry _ hd
      rw [h1] at hent
      simp only at hent
      have := hinv.P c (s.gen c) lt hreg hent rfl (noMidOn_of_anyMid s hmid c)
      omega
  have hpc1 : (stepObs s).obs.pc = .genRead := by rw [h1]
  have h2 : stepObs (stepObs s) = showValue { (stepObs s) with entry := refreshed (stepObs s) } :=
    stepObs_genRead_keep (stepObs s) hpc1 hnd
  rw [h2, h1]
  refine ⟨rfl, hreg, rfl, ?_, ⟨rfl, rfl, rfl⟩⟩
  simp [showValue, finishObs]

def neverDue (s : Sys) : Prop := s.timeout = none ∨ s.covered = false

theorem doomed_false_of_neverDue (s : Sys) (h : neverDue s) : doomed s = false := by
  unfold doomed
  rcases h with h | h
  · rw [h]
  · rw [h]; cases s.timeout <;> rfl

theorem inWindow_false_of_neverDue (s : Sys) (hinv : Inv s) (h : neverDue s) : inWindow s = false := by
  unfold inWindow
  cases hpc : s.obs.pc with
  | idle => rfl
  | genRead => exact doomed_false_of_neverDue s h
  | deleting =>
    have := hinv.A.D hpc
    rw [doomed_false_of_neverDue s h] at this; cases this

theorem stepObs_cfg (s : Sys) : (stepObs s).timeout = s.timeout ∧ (stepObs s).covered = s.covered := by
  fun_cases stepObs s <;> exact ⟨rfl, rfl⟩

theorem step_cfg (s : Sys) (t : Nat) : (step s t).timeout = s.timeout ∧ (step s t).covered = s.covered := by
  unfold step
  split
  · cases s.upds[t]? with
    | none => exact ⟨rfl, rfl⟩
    | some u => exact ⟨(stepUpd_eff s u).frame.1.timeout, (stepUpd_eff s u).frame.1.covered⟩
  · split
    · exact stepObs_cfg s
    · exact ⟨rfl, rfl⟩

theorem windowFree_of_neverDue (sched : List Nat) : ∀ s, Inv s → neverDue s → windowFree s sched = true := by
  induction sched with
  | nil => intro s _ _; rfl
  | cons t ts ih =>
    intro s hinv hn
    have hinv' := step_inv s t hinv
    have hn' : neverDue (step s t) := by
      obtain ⟨h1, h2⟩ := step_cfg s t
      unfold neverDue; rw [h1, h2]; exact hn
    simp only [windowFree, Bool.and_eq_true]
    refine ⟨⟨?_, ?_⟩, ih _ hinv' hn'⟩
    · split
      · rw [inWindow_false_of_neverDue s hinv hn]; rfl
      · rfl
    · unfold calm; rw [inWindow_false_of_neverDue _ hinv' hn']; rfl

end MetricsVerif.IdleRace
