/-
For C06, on top of `Proofs/Registry`:

* the lock-aware machine: what `clear()` has achieved when it returns — every shard its walk has passed holds only
  entries made after the call (`NewBelow`), kept by every token of every thread (`clearInv_lstep`);
* the two-hash registry (`Model/RegistryStore.lean`): entries are filed under `storeHash` (`StoredBy`), and when that
  hash differs from the lookup hash of every equal key no lookup ever hits.
-/
import MetricsVerif.Proofs.Registry
import MetricsVerif.Model.RegistryStore

namespace MetricsVerif.Registry

variable {K : Type}

/-- every kind has `mask + 1` shards -/
def Lens (r : Reg K) : Prop := ∀ kd, (r.get kd).length = r.mask + 1

theorem at_lt {r : Reg K} {kd : Kind} {i : Nat} {e : Entry K} (h : At r kd i e) : i < (r.get kd).length := by
  obtain ⟨sh, h1, _⟩ := h
  exact (List.getElem?_eq_some_iff.mp h1).1

/-- what one token of any thread does to the registry: its entries are old ones in place, or made now -/
structure Grows (r' r : Reg K) : Prop where
  mask : r'.mask = r.mask
  next : r.next ≤ r'.next
  len : ∀ kd, (r'.get kd).length = (r.get kd).length
  ent : ∀ kd (i : Nat) e, At r' kd i e → At r kd i e ∨ r.next ≤ e.id

theorem grows_refl (r : Reg K) : Grows r r := ⟨rfl, Nat.le_refl _, fun _ => rfl, fun _ _ _ h => Or.inl h⟩

theorem grows_of_sub {r' r : Reg K} (hs : Sub r' r) : Grows r' r :=
  ⟨hs.mask, hs.next, hs.len, fun _ _ _ h => Or.inl (hs.at h)⟩

theorem Grows.lens {r' r : Reg K} (g : Grows r' r) (h : Lens r) : Lens r' := by
  intro kd; rw [g.len, g.mask]; exact h kd

/-- the write section of `Model/Registry` is the two-hash one with entries filed under the lookup hash, so what is
    proved of `writeSectionS` below holds of it -/
theorem writeSection_eq_S (ko : KeyOps K) (r : Reg K) (kd : Kind) (k : K) :
    writeSection ko r kd k = writeSectionS ⟨ko, ko.hash⟩ r kd k := rfl

theorem at_writeSectionS {so : StoreOps K} {r : Reg K} {kd kd' : Kind} {k : K} {i : Nat} {e : Entry K}
    (h : At (writeSectionS so r kd k).1 kd' i e) : At r kd' i e ∨ e = ⟨k, so.storeHash k, r.next⟩ := by
  unfold writeSectionS at h
  dsimp only at h
  split at h
  · exact Or.inl h
  · exact (at_push h).imp_right (·.2.2)

theorem writeSectionS_grows (so : StoreOps K) (r : Reg K) (kd : Kind) (k : K) : Grows (writeSectionS so r kd k).1 r := by
  refine ⟨?_, ?_, ?_, fun kd' i e h => (at_writeSectionS h).imp_right (fun he => Nat.le_of_eq (congrArg Entry.id he).symm)⟩
  all_goals
    unfold writeSectionS
    dsimp only
    split
  · rfl
  · rw [bump_mask, setShard_mask]
  · exact Nat.le_refl _
  · rw [bump_next, setShard_next]; exact Nat.le_succ _
  · intro _; rfl
  · intro kd'; rw [bump_get, setShard_eq, length_setIdx]

theorem lstepThread_grows {ko : KeyOps K} (r : Reg K) (others : List Lock) (t : LThread K) :
    Grows (lstepThread ko r others t).1 r :=
  lstepThread_cases t (fun o => Grows o.1 r) (fun _ _ => grows_refl r) (fun _ => grows_refl r)
    (fun kd k _ _ => writeSection_eq_S ko r kd k ▸ writeSectionS_grows ⟨ko, ko.hash⟩ r kd k) (fun kd k _ => grows_of_sub (delete_sub ko r kd k))
    (fun c hold acc kd idx _ _ => grows_of_sub (sweepRun_sub c hold others _ r acc kd idx))

def Kind.rank : Kind → Nat
  | .counter => 0
  | .gauge => 1
  | .histogram => 2

/-- position of shard `(kd, idx)` in the order in which `clear` takes the shard locks of a registry with `n` shards per
    kind: all counter shards, then all gauge shards, then all histogram shards, by index -/
def walkPos (n : Nat) (kd : Kind) (idx : Nat) : Nat := kd.rank * n + idx

theorem Kind.rank_inj {a b : Kind} (h : a.rank = b.rank) : a = b := by
  cases a <;> cases b <;> first | rfl | cases h

theorem Kind.rank_lt (kd : Kind) : kd.rank < 3 := by cases kd <;> decide

theorem walkPos_inj {n : Nat} {kd kd' : Kind} {i idx : Nat} (hi : i < n) (hidx : idx < n)
    (h : walkPos n kd' i = walkPos n kd idx) : kd' = kd ∧ i = idx := by
  have hn : 0 < n := Nat.lt_of_le_of_lt (Nat.zero_le _) hi
  -- quotient and remainder by `n`
  have hq : ∀ (a j : Nat), j < n → (a * n + j) / n = a := fun a j hj => by
    rw [Nat.mul_comm, Nat.mul_add_div hn, Nat.div_eq_of_lt hj, Nat.add_zero]
  have hr : kd'.rank = kd.rank := by rw [← hq kd'.rank i hi, ← hq kd.rank idx hidx]; exact congrArg (· / n) h
  unfold walkPos at h
  rw [hr] at h
  exact ⟨Kind.rank_inj hr, Nat.add_left_cancel h⟩

theorem walkPos_start (n : Nat) : walkPos n .counter 0 = 0 := by
  simp only [walkPos, Kind.rank, Nat.zero_mul]

theorem walkPos_lt {n : Nat} (kd : Kind) {i : Nat} (hi : i < n) : walkPos n kd i < 3 * n := by
  have := Nat.mul_le_mul_right n (Nat.le_of_lt_succ kd.rank_lt)
  unfold walkPos; omega

theorem walkPos_nextSlot {n : Nat} {kd kd' : Kind} {idx idx' : Nat} (hidx : idx < n)
    (h : nextSlot n true kd idx = some (kd', idx')) : idx' < n ∧ walkPos n kd' idx' = walkPos n kd idx + 1 := by
  unfold nextSlot at h
  unfold walkPos
  split at h
  · next hlt => cases h; exact ⟨hlt, rfl⟩
  · cases kd <;> cases h <;> exact ⟨by omega, by simp only [Kind.rank]; omega⟩

theorem walkPos_last {n : Nat} {kd : Kind} {idx : Nat} (hidx : idx < n) (h : nextSlot n true kd idx = none) :
    walkPos n kd idx + 1 = 3 * n := by
  unfold nextSlot at h
  unfold walkPos
  split at h
  · cases h
  · cases kd
    · cases h
    · cases h
    · simp only [Kind.rank]; omega

/-- every entry in a shard at a walk position below `p` was made by the storage factory at or after its `n0`-th call -/
def NewBelow (n0 : Nat) (r : Reg K) (p : Nat) : Prop :=
  ∀ kd (i : Nat) e, At r kd i e → walkPos (r.mask + 1) kd i < p → n0 ≤ e.id

theorem newBelow_grows {n0 : Nat} {r r' : Reg K} {p : Nat} (h : NewBelow n0 r p) (g : Grows r' r) (hn : n0 ≤ r.next) :
    NewBelow n0 r' p := by
  intro kd i e hat hlt
  rcases g.ent kd i e hat with h1 | h1
  · exact h kd i e h1 (g.mask ▸ hlt)
  · exact Nat.le_trans hn h1

theorem setIdx_lens (r : Reg K) (hlen : Lens r) (kd : Kind) (idx : Nat) (sh : Shard K) : Lens (r.setIdx kd idx sh) := by
  intro kd'; rw [length_setIdx, setIdx_mask]; exact hlen kd'

/-- emptying the shard at the walk's position moves the "only new entries" frontier one shard on -/
theorem newBelow_clear_slot {n0 : Nat} (r : Reg K) (hlen : Lens r) (kd : Kind) (idx : Nat) (hidx : idx < r.mask + 1)
    (h : NewBelow n0 r (walkPos (r.mask + 1) kd idx)) :
    NewBelow n0 (r.setIdx kd idx []) (walkPos (r.mask + 1) kd idx + 1) := by
  intro kd' i e hat hlt
  rw [setIdx_mask] at hlt
  rcases at_setIdx hat with ⟨_, _, hmem⟩ | ⟨hat', hne⟩
  · cases hmem
  · have hi : i < r.mask + 1 := by rw [← hlen kd']; exact at_lt hat'
    by_cases hc : walkPos (r.mask + 1) kd' i < walkPos (r.mask + 1) kd idx
    · exact h kd' i e hat' hc
    · exact absurd (walkPos_inj hi hidx (by omega)) hne

/-- where a run of `clear`'s sections may stop, and what holds there -/
def StopOK (n0 : Nat) (out : Reg K × List (K × Nat) × SweepStop) : Prop :=
  match out.2.2 with
  | .waiting kd idx => idx < out.1.mask + 1 ∧ NewBelow n0 out.1 (walkPos (out.1.mask + 1) kd idx)
  | .parked _ _ => False
  | .finished => NewBelow n0 out.1 (3 * (out.1.mask + 1))

/-- **the sections of `clear`**: started at a shard below which everything is new, a run of sections stops — waiting
    for a held lock or at the end — at a shard below which everything is new; at the end that is the whole registry.
    (Whatever the fuel: a run that is cut short simply waits where it is.) -/
theorem sweepRun_clear (n0 : Nat) (others : List Lock) (fuel : Nat) :
    ∀ (r : Reg K) (acc : List (K × Nat)) (kd : Kind) (idx : Nat), Lens r → idx < r.mask + 1 →
      NewBelow n0 r (walkPos (r.mask + 1) kd idx) →
      StopOK n0 (sweepRun (LCall.clear : LCall K) false others fuel r acc kd idx) := by
  induction fuel with
  | zero => intro r acc kd idx _ hidx h; exact ⟨hidx, h⟩
  | succ n ih =>
    intro r acc kd idx hlen hidx h
    have hstep := newBelow_clear_slot r hlen kd idx hidx h
    have hmask : (r.setIdx kd idx []).mask = r.mask := setIdx_mask ..
    unfold sweepRun
    split
    · exact ⟨hidx, h⟩
    · simp only [Bool.false_and, Bool.false_eq_true, if_false]
      split
      · next hns =>
        show NewBelow n0 (r.setIdx kd idx []) (3 * ((r.setIdx kd idx []).mask + 1))
        rw [hmask, ← walkPos_last hidx hns]; exact hstep
      · next kd' idx' hns =>
        obtain ⟨hlt, hpos⟩ := walkPos_nextSlot hidx hns
        exact ih (r.setIdx kd idx []) acc kd' idx' (setIdx_lens r hlen kd idx []) (hmask ▸ hlt)
          (by rw [hmask, hpos]; exact hstep)

theorem advance_calls (t : LThread K) (x : LRes K) : (t.advance x).calls = t.calls.tail := rfl

theorem advance_calls_le (t : LThread K) (x : LRes K) : (t.advance x).calls.length ≤ t.calls.length := by
  rw [advance_calls, List.length_tail]; exact Nat.sub_le _ _

theorem afterSweep_calls_le (c : LCall K) (t : LThread K) (out : Reg K × List (K × Nat) × SweepStop) :
    (afterSweep c t out).calls.length ≤ t.calls.length := by
  unfold afterSweep
  split
  · exact Nat.le_refl _
  · exact Nat.le_refl _
  · exact advance_calls_le t _

theorem lstepThread_calls_le {ko : KeyOps K} (r : Reg K) (others : List Lock) (t : LThread K) :
    (lstepThread ko r others t).2.calls.length ≤ t.calls.length :=
  lstepThread_cases t (fun o => o.2.calls.length ≤ t.calls.length) (fun _ h => Nat.le_of_eq (congrArg _ h))
    (advance_calls_le t) (fun _ _ _ h => Nat.le_of_eq (congrArg _ h)) (fun _ _ => advance_calls_le t)
    (fun c _ _ _ _ t' h => h ▸ afterSweep_calls_le c t' _)

/-- thread `tid` called `clear()` when the storage factory had made `n0` storages; `rest` are its calls after it.
    Either the call has returned and no entry older than the call is left anywhere, or the thread stands before
    shard `(kd, idx)` of its walk and none is left in the shards before that one. -/
structure ClearInv (ko : KeyOps K) (n0 : Nat) (rest : List (LCall K)) (tid : Nat) (s : LSys K) : Prop where
  lens : Lens s.reg
  le : n0 ≤ s.reg.next
  thr : ∃ t, s.threads[tid]? = some t ∧
    ((t.calls.length ≤ rest.length ∧ NewBelow n0 s.reg (3 * (s.reg.mask + 1))) ∨
     (t.calls = LCall.clear :: rest ∧ ∃ kd idx, t.pc = .sweep kd idx ∧ idx < s.reg.mask + 1 ∧
        NewBelow n0 s.reg (walkPos (s.reg.mask + 1) kd idx)))

theorem lstepThread_clear {ko : KeyOps K} (r : Reg K) (others : List Lock) (t : LThread K) (rest : List (LCall K))
    (kd : Kind) (idx : Nat) (hc : t.calls = LCall.clear :: rest) (hpc : t.pc = .sweep kd idx) :
    lstepThread ko r others t
      = ((sweepRun (LCall.clear : LCall K) false others (sweepFuel r) r t.acc kd idx).1,
         afterSweep LCall.clear t (sweepRun (LCall.clear : LCall K) false others (sweepFuel r) r t.acc kd idx)) := by
  unfold lstepThread
  rw [hpc, hc]
  rfl

theorem clearInv_lstep {ko : KeyOps K} {n0 : Nat} {rest : List (LCall K)} {tid : Nat} {s : LSys K}
    (h : ClearInv ko n0 rest tid s) (tid' : Nat) : ClearInv ko n0 rest tid (lstep ko s tid') := by
  unfold lstep
  split
  · exact h
  · next t' ht' =>
    have hlen : Lens s.reg := h.lens
    have g := lstepThread_grows (ko := ko) s.reg (otherLocks s.threads tid') t'
    refine ⟨g.lens hlen, Nat.le_trans h.le g.next, ?_⟩
    obtain ⟨t, ht, hcase⟩ := h.thr
    -- whoever steps: what was new below a position stays so, the positions do not move
    have keep : ∀ p, NewBelow n0 s.reg p → NewBelow n0 (lstepThread ko s.reg (otherLocks s.threads tid') t').1 p :=
      fun p hnb => newBelow_grows hnb g h.le
    by_cases htid : tid' = tid
    · subst htid
      cases ht'.symm.trans ht
      have hlt : tid' < s.threads.length := (List.getElem?_eq_some_iff.mp ht').1
      refine ⟨_, by rw [getElem?_setAt, if_pos ⟨rfl, hlt⟩], ?_⟩
      rcases hcase with ⟨hdone, hnb⟩ | ⟨hc, kd, idx, hpc, hidx, hnb⟩
      · exact Or.inl ⟨Nat.le_trans (lstepThread_calls_le _ _ _) hdone, g.mask ▸ keep _ hnb⟩
      · rw [lstepThread_clear s.reg _ t' rest kd idx hc hpc]
        have hstop := sweepRun_clear n0 (otherLocks s.threads tid') (sweepFuel s.reg) s.reg t'.acc kd idx hlen hidx hnb
        dsimp only
        generalize sweepRun (LCall.clear : LCall K) false (otherLocks s.threads tid') (sweepFuel s.reg) s.reg t'.acc kd idx = out at hstop ⊢
        obtain ⟨r', acc', stop⟩ := out
        cases stop with
        | waiting kd' idx' => exact Or.inr ⟨hc, kd', idx', rfl, hstop.1, hstop.2⟩
        | parked kd' idx' => exact hstop.elim
        | finished => exact Or.inl ⟨by simp only [afterSweep, advance_calls, hc, List.tail_cons, Nat.le_refl], hstop⟩
    · have hne : ¬ (tid' = tid ∧ tid < s.threads.length) := fun c => htid c.1
      refine ⟨t, by rw [getElem?_setAt, if_neg hne]; exact ht, ?_⟩
      rcases hcase with ⟨hdone, hnb⟩ | ⟨hc, kd, idx, hpc, hidx, hnb⟩
      · exact Or.inl ⟨hdone, g.mask ▸ keep _ hnb⟩
      · exact Or.inr ⟨hc, kd, idx, hpc, g.mask ▸ hidx, g.mask ▸ keep _ hnb⟩

theorem lstep_lens {ko : KeyOps K} (s : LSys K) (h : Lens s.reg) (tid : Nat) : Lens (lstep ko s tid).reg := by
  unfold lstep
  split
  · exact h
  · exact (lstepThread_grows s.reg _ _).lens h

/-- every entry is filed under the store hash of its key -/
def StoredBy (so : StoreOps K) (r : Reg K) : Prop := ∀ kd (i : Nat) e, At r kd i e → e.hash = so.storeHash e.key

theorem storedBy_sub {so : StoreOps K} {r r' : Reg K} (hs : Sub r' r) (h : StoredBy so r) : StoredBy so r' :=
  fun kd i e hat => h kd i e (hs.at hat)

theorem writeSectionS_keeps (so : StoreOps K) (r : Reg K) (hlen : Lens r) (hst : StoredBy so r) (kd : Kind) (k : K) :
    Lens (writeSectionS so r kd k).1 ∧ StoredBy so (writeSectionS so r kd k).1 := by
  refine ⟨(writeSectionS_grows so r kd k).lens hlen, fun kd' i e h => ?_⟩
  rcases at_writeSectionS h with h | rfl
  · exact hst kd' i e h
  · rfl

theorem getOrCreateS_keeps (so : StoreOps K) (r : Reg K) (hlen : Lens r) (hst : StoredBy so r) (kd : Kind) (k : K) :
    Lens (getOrCreateS so r kd k).1 ∧ StoredBy so (getOrCreateS so r kd k).1 := by
  unfold getOrCreateS
  split
  · exact ⟨hlen, hst⟩
  · exact writeSectionS_keeps so r hlen hst kd k

theorem stepS_keeps (so : StoreOps K) (r : Reg K) (hlen : Lens r) (hst : StoredBy so r) (op : Op K) :
    Lens (stepS so r op).1 ∧ StoredBy so (stepS so r op).1 := by
  have of_sub : ∀ {r'}, Sub r' r → Lens r' ∧ StoredBy so r' :=
    fun hs => ⟨(grows_of_sub hs).lens hlen, storedBy_sub hs hst⟩
  cases op with
  | goc kd k => exact getOrCreateS_keeps so r hlen hst kd k
  | delete kd k => exact of_sub (delete_sub so.ko r kd k)
  | retain kd f => exact of_sub (retain_sub r kd f)
  | clear => exact of_sub (clear_sub r)
  | _ => exact ⟨hlen, hst⟩

theorem new_storedBy (so : StoreOps K) (count : Nat) : StoredBy so (Reg.new count : Reg K) :=
  fun kd i e h => absurd h (not_at_new count kd i e)

/-- the store hash of a key is never the lookup hash of an equal key (two unrelated hash functions; the harness'
    `FlipHasher` makes it certain: the top bit differs) -/
def Split (so : StoreOps K) : Prop := ∀ k k', so.ko.eqv k k' = true → so.storeHash k' ≠ so.ko.hash k

/-- with split hashes no lookup ever finds anything: every entry sits under a hash no lookup of an equal key uses -/
theorem lookup_none_of_split {so : StoreOps K} (hsp : Split so) (r : Reg K) (hst : StoredBy so r)
    (kd : Kind) (k : K) : lookup so.ko (r.shard kd (so.ko.hash k)) (so.ko.hash k) k = none := by
  unfold lookup
  rw [List.find?_eq_none]
  intro e he hhit
  obtain ⟨hh, hq⟩ := hit_iff.mp hhit
  exact hsp k e.key hq ((hst kd _ e (at_shard he)).symm.trans hh)

theorem readSection_none_of_split {so : StoreOps K} (hsp : Split so) (r : Reg K) (hst : StoredBy so r)
    (kd : Kind) (k : K) : readSection so.ko r kd k = none :=
  (readSection_none_iff so.ko r kd k).mpr (lookup_none_of_split hsp r hst kd k)

end MetricsVerif.Registry
