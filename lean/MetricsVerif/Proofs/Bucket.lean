/-
The bucket step machine (`Model/Bucket.lean`), for C05: lemmas about blocks and cells, and one step of a thread
described by what it touches (`Eff`).  Every invariant of the machine (`Proofs/BucketAll.lean`,
`Proofs/BucketClear.lean`, `Proofs/BucketSnap.lean`) is checked against these few effects instead of the twenty pcs of
`stepThread`; what a step does to the stepping thread alone (`TEff`) and what is known of the state in which a
thread arrives at a pc (`Arrived`) are read off them.
-/
import MetricsVerif.Model.Bucket
import MetricsVerif.Proofs.ListAt

namespace MetricsVerif.Bucket

theorem getBlock_eq {s : Sys} {i : Nat} {b : Block} (h : s.blocks[i]? = some b) : getBlock s i = b := by
  simp [getBlock, h]

theorem getBlock_get {s : Sys} {i : Nat} (h : i < s.blocks.length) : s.blocks[i]? = some (getBlock s i) := by
  rw [List.getElem?_eq_getElem h, getBlock, List.getElem?_eq_getElem h]; rfl

theorem setBlock_blocks (s : Sys) (i : Nat) (b : Block) : (setBlock s i b).blocks = setAt s.blocks i b := rfl
theorem setBlock_tail (s : Sys) (i : Nat) (b : Block) : (setBlock s i b).tail = s.tail := rfl
theorem setBlock_threads (s : Sys) (i : Nat) (b : Block) : (setBlock s i b).threads = s.threads := rfl
theorem setBlock_B (s : Sys) (i : Nat) (b : Block) : (setBlock s i b).B = s.B := rfl

theorem getBlock_of_ge (s : Sys) (k : Nat) (h : s.blocks.length ≤ k) : getBlock s k = newBlock := by
  unfold getBlock; rw [List.getElem?_eq_none h]; rfl

theorem getBlock_setBlock (s : Sys) (blk : Nat) (b' : Block) (k : Nat) :
    getBlock (setBlock s blk b') k = if blk = k ∧ k < s.blocks.length then b' else getBlock s k := by
  unfold getBlock setBlock
  simp only [getElem?_setAt]
  split <;> simp

theorem getBlock_append (s : Sys) (nb : Block) (tl : Option Nat) (k : Nat) :
    getBlock { s with blocks := s.blocks ++ [nb], tail := tl } k
      = if k < s.blocks.length then getBlock s k else if k = s.blocks.length then nb else newBlock := by
  unfold getBlock
  simp only
  by_cases h1 : k < s.blocks.length
  · rw [List.getElem?_append_left h1]; simp [h1]
  · by_cases h2 : k = s.blocks.length
    · subst h2; simp
    · have h3 : (s.blocks ++ [nb]).length ≤ k := by simp; omega
      rw [List.getElem?_eq_none h3]; simp [h1, h2]

theorem chainData_none (s : Sys) (fuel : Nat) : chainData s fuel none = [] := by cases fuel <;> rfl

theorem publishCell_length (cs : List Cell) (i : Nat) : (publishCell cs i).length = cs.length := by
  induction cs generalizing i with
  | nil => rfl
  | cons c cs ih => cases i <;> simp [publishCell, ih]

theorem publishCell_vals (cs : List Cell) (i : Nat) : (publishCell cs i).map Cell.val = cs.map Cell.val := by
  induction cs generalizing i with
  | nil => rfl
  | cons c cs ih => cases i <;> simp [publishCell, ih, Cell.val]

theorem publishCell_get (cs : List Cell) (i j : Nat) :
    (publishCell cs i)[j]? = if i = j then (cs[j]?).map (fun c => Cell.published c.val) else cs[j]? := by
  induction cs generalizing i j with
  | nil => simp [publishCell]
  | cons c cs ih =>
    cases i with
    | zero => cases j <;> simp [publishCell]
    | succ n =>
      cases j with
      | zero => simp [publishCell]
      | succ m => simp only [publishCell, List.getElem?_cons_succ, ih, Nat.add_right_cancel_iff]

/-- number of `written` (claimed, unpublished) cells -/
def wcount (cs : List Cell) : Nat := cs.countP (fun c => !c.isPub)

theorem wcount_append (a b : List Cell) : wcount (a ++ b) = wcount a + wcount b := List.countP_append

theorem wcount_publish (cs : List Cell) (i : Nat) (v : Nat) (h : cs[i]? = some (.written v)) :
    wcount (publishCell cs i) + 1 = wcount cs := by
  induction cs generalizing i with
  | nil => simp at h
  | cons c cs ih =>
    cases i with
    | zero =>
      simp only [List.getElem?_cons_zero, Option.some.injEq] at h
      subst h
      simp [publishCell, wcount, Cell.isPub, Cell.val]
    | succ n =>
      have := ih n (by simpa using h)
      simp only [publishCell, wcount, List.countP_cons] at this ⊢
      omega

theorem takeWhile_all {α : Type} (p : α → Bool) (l : List α) (h : ∀ x ∈ l, p x = true) : l.takeWhile p = l := by
  induction l with
  | nil => rfl
  | cons x xs ih =>
    rw [List.takeWhile_cons, h x List.mem_cons_self, if_pos rfl, ih (fun y hy => h y (List.mem_cons_of_mem _ hy))]

theorem wcount_zero_all_pub (cs : List Cell) (h : wcount cs = 0) : ∀ c ∈ cs, c.isPub = true := by
  simpa [wcount, List.countP_eq_zero] using h

theorem data_of_no_written (b : Block) (h : wcount b.cells = 0) : b.data = b.cells.map Cell.val := by
  rw [Block.data, takeWhile_all _ _ (wcount_zero_all_pub b.cells h)]

theorem threads_after {l : List Thread} {tid : Nat} {t t' : Thread} (hg : l[tid]? = some t) (i : Nat) (u : Thread)
    (h : (setAt l tid t')[i]? = some u) : (i = tid ∧ u = t') ∨ (i ≠ tid ∧ l[i]? = some u) := by
  by_cases hi : tid = i
  · subst hi
    rw [getElem?_setAt_self t' hg] at h
    exact Or.inl ⟨rfl, (Option.some.inj h).symm⟩
  · rw [getElem?_setAt_ne l t' hi] at h
    exact Or.inr ⟨fun e => hi e.symm, h⟩

def isPusherPC : PC → Bool
  | .pLoadTail | .pCasFirst | .pClaim _ _ | .pPublish _ _ | .pCasNew _ => true
  | _ => false

/-- branches that change nothing but the pc of the stepping thread -/
inductive Hop (s : Sys) (t : Thread) : PC → Prop
  | start : t.pc = .start → Hop s t (startPC t.calls)
  | pLoadNone : t.pc = .pLoadTail → s.tail = none → Hop s t .pCasFirst
  | pLoadSome (b : Nat) : t.pc = .pLoadTail → s.tail = some b → Hop s t (.pClaim b false)
  | pCasFirstLose (b : Nat) : t.pc = .pCasFirst → s.tail = some b → Hop s t (.pClaim b false)
  | pCasNewLose (old : Nat) : t.pc = .pCasNew old → s.tail ≠ some old → Hop s t .pLoadTail
  | dLoad (b : Nat) : t.pc = .dLoadTail → s.tail = some b → Hop s t (.dQuiesced b)
  | dWait (blk : Nat) : t.pc = .dQuiesced blk ∨ t.pc = .dWait blk →
      Hop s t (if (getBlock s blk).quiesced s.B then .dRead blk else .dWait blk)
  | dNext (blk n : Nat) : t.pc = .dNext blk → (getBlock s blk).next = some n → Hop s t (.dQuiesced n)
  | cLoad (b : Nat) : t.pc = .cLoadTail → s.tail = some b → Hop s t (.cCas b)
  | cCasLose (old : Nat) : t.pc = .cCas old → s.tail ≠ some old → Hop s t .cLoadTail
  | cWait (blk : Nat) : t.pc = .cQuiesced blk ∨ t.pc = .cWait blk →
      Hop s t (if (getBlock s blk).quiesced s.B then .cRead blk else .cWait blk)
  | cNext (blk n : Nat) : t.pc = .cNext blk → (getBlock s blk).next = some n → Hop s t (.cQuiesced n)
  | eLoad (b : Nat) : t.pc = .eLoadTail → s.tail = some b → Hop s t (.eLen b)

/-- branches in which a `data_with`, `clear_with` or `is_empty` call returns -/
inductive Ret (s : Sys) (t : Thread) : Res → Prop
  | dEmpty : t.pc = .dLoadTail → s.tail = none → Ret s t (.snapshot t.acc)
  | dEnd (blk : Nat) : t.pc = .dNext blk → (getBlock s blk).next = none → Ret s t (.snapshot t.acc)
  | cEmpty : t.pc = .cLoadTail → s.tail = none → Ret s t (.cleared [])
  | cEnd (blk : Nat) : t.pc = .cNext blk → (getBlock s blk).next = none → Ret s t (.cleared t.acc)
  | eEmpty : t.pc = .eLoadTail → s.tail = none → Ret s t (.empty true)
  | eLen (blk : Nat) (r : Bool) : t.pc = .eLen blk → Ret s t (.empty r)

/-- one step of thread `t` in state `s`: the shared state and the thread afterwards -/
inductive Eff (s : Sys) (t : Thread) : Sys → Thread → Prop
  | idle : t.pc = .done → Eff s t s t
  | hop (pc' : PC) : Hop s t pc' → Eff s t s { t with pc := pc' }
  | ret (r : Res) : Ret s t r → Eff s t s (t.advance r)
  | read (blk : Nat) (pc' : PC) : t.pc = .dRead blk ∧ pc' = .dNext blk ∨ t.pc = .cRead blk ∧ pc' = .cNext blk →
      Eff s t s { t with acc := t.acc ++ (getBlock s blk).data, pc := pc' }
  | detach (old : Nat) : t.pc = .cCas old → s.tail = some old →
      Eff s t { s with tail := none } { t with pc := .cQuiesced old }
  /-- a winning `pCasFirst` (tail `none`) or `pCasNew old` (tail `some old`): the fresh block links to the old tail -/
  | append (r : Bool) : t.pc = .pCasFirst ∧ s.tail = none ∨ (∃ old, t.pc = .pCasNew old ∧ s.tail = some old) →
      Eff s t { s with blocks := s.blocks ++ [{ newBlock with next := s.tail }], tail := some s.blocks.length }
        { t with pc := .pClaim s.blocks.length r }
  | claimOk (blk : Nat) (r : Bool) : t.pc = .pClaim blk r → (getBlock s blk).write < s.B →
      Eff s t (setBlock s blk { getBlock s blk with write := (getBlock s blk).write + 1,
                                                     cells := (getBlock s blk).cells ++ [.written (curVal t)] })
        { t with pc := .pPublish blk (getBlock s blk).write }
  | claimFull (blk : Nat) (r : Bool) (pc' : PC) : t.pc = .pClaim blk r → ¬ (getBlock s blk).write < s.B →
      pc' = .pLoadTail ∨ pc' = .pCasNew blk →
      Eff s t (setBlock s blk { getBlock s blk with write := (getBlock s blk).write + 1 }) { t with pc := pc' }
  | publish (blk idx : Nat) : t.pc = .pPublish blk idx →
      Eff s t (setBlock s blk { getBlock s blk with cells := publishCell (getBlock s blk).cells idx })
        (t.advance .pushed)

theorem stepThread_eff (s : Sys) (t : Thread) : Eff s t (stepThread s t).1 (stepThread s t).2 := by
  unfold stepThread
  cases hp : t.pc with
  | start => exact .hop _ (.start hp)
  | done => exact .idle hp
  | pLoadTail =>
    cases ht : s.tail with
    | none => exact .hop _ (.pLoadNone hp ht)
    | some b => exact .hop _ (.pLoadSome b hp ht)
  | pCasFirst =>
    cases ht : s.tail with
    | none => have := Eff.append (s := s) (t := t) false (.inl ⟨hp, ht⟩); rwa [ht] at this
    | some b => exact .hop _ (.pCasFirstLose b hp ht)
  | pClaim blk r =>
    by_cases hw : (getBlock s blk).write < s.B
    · simp only [hw, if_true]; exact .claimOk blk r hp hw
    · cases r with
      | true => simp only [hw, if_false, if_true]; exact .claimFull blk true _ hp hw (.inl rfl)
      | false => simp only [hw, if_false, Bool.false_eq_true]; exact .claimFull blk false _ hp hw (.inr rfl)
  | pPublish blk idx => exact .publish blk idx hp
  | pCasNew old =>
    by_cases ht : s.tail = some old
    · have := Eff.append (s := s) (t := t) true (.inr ⟨old, hp, ht⟩)
      simp only [ht, if_true] at this ⊢; exact this
    · simp only [ht, if_false]; exact .hop _ (.pCasNewLose old hp ht)
  | dLoadTail =>
    cases ht : s.tail with
    | none => exact .ret _ (.dEmpty hp ht)
    | some b => exact .hop _ (.dLoad b hp ht)
  | dQuiesced blk => exact .hop _ (.dWait blk (.inl hp))
  | dWait blk => exact .hop _ (.dWait blk (.inr hp))
  | dRead blk => exact .read blk _ (.inl ⟨hp, rfl⟩)
  | dNext blk =>
    simp only
    cases hn : (getBlock s blk).next with
    | none => exact .ret _ (.dEnd blk hp hn)
    | some n => exact .hop _ (.dNext blk n hp hn)
  | cLoadTail =>
    cases ht : s.tail with
    | none => exact .ret _ (.cEmpty hp ht)
    | some b => exact .hop _ (.cLoad b hp ht)
  | cCas old =>
    by_cases ht : s.tail = some old
    · simp only [ht, if_true]; exact .detach old hp ht
    · simp only [ht, if_false]; exact .hop _ (.cCasLose old hp ht)
  | cQuiesced blk => exact .hop _ (.cWait blk (.inl hp))
  | cWait blk => exact .hop _ (.cWait blk (.inr hp))
  | cRead blk => exact .read blk _ (.inr ⟨hp, rfl⟩)
  | cNext blk =>
    simp only
    cases hn : (getBlock s blk).next with
    | none => exact .ret _ (.cEnd blk hp hn)
    | some n => exact .hop _ (.cNext blk n hp hn)
  | eLoadTail =>
    cases ht : s.tail with
    | none => exact .ret _ (.eEmpty hp ht)
    | some b => exact .hop _ (.eLoad b hp ht)
  | eLen blk => exact .ret _ (.eLen blk _ hp)

theorem Eff.frame {s s' : Sys} {t t' : Thread} (h : Eff s t s' t') : s'.B = s.B ∧ s'.threads = s.threads := by
  cases h <;> exact ⟨rfl, rfl⟩

theorem step_none {s : Sys} {tid : Nat} (h : s.threads[tid]? = none) : step s tid = s := by
  unfold step; rw [h]

theorem step_threads (s : Sys) (tid : Nat) (t : Thread) (hg : s.threads[tid]? = some t) :
    (step s tid).threads = setAt s.threads tid (stepThread s t).2 ∧ (stepThread s t).1.threads = s.threads := by
  have h := (stepThread_eff s t).frame.2
  exact ⟨by simp only [step, hg, h], h⟩

theorem step_eq (s : Sys) (tid : Nat) (t : Thread) (hg : s.threads[tid]? = some t) :
    step s tid = { B := s.B, blocks := (stepThread s t).1.blocks, tail := (stepThread s t).1.tail,
                   threads := setAt s.threads tid (stepThread s t).2 } := by
  obtain ⟨hB, hth⟩ := (stepThread_eff s t).frame
  simp only [step, hg, hth, ← hB]

theorem step_cases {P : Sys → Prop} (s : Sys) (tid : Nat) (hnone : s.threads[tid]? = none → P s)
    (hsome : ∀ t s' t', s.threads[tid]? = some t → Eff s t s' t' →
      P { B := s.B, blocks := s'.blocks, tail := s'.tail, threads := setAt s.threads tid t' }) : P (step s tid) := by
  cases hg : s.threads[tid]? with
  | none => rw [step_none hg]; exact hnone hg
  | some t => rw [step_eq s tid t hg]; exact hsome t _ _ hg (stepThread_eff s t)

theorem step_self {s : Sys} {tid : Nat} {t : Thread} (h : s.threads[tid]? = some t) :
    (step s tid).threads[tid]? = some (stepThread s t).2 := by
  rw [(step_threads s tid t h).1]; exact getElem?_setAt_self _ h

theorem step_other (s : Sys) {tid i : Nat} (h : tid ≠ i) : (step s tid).threads[i]? = s.threads[i]? := by
  cases hg : s.threads[tid]? with
  | none => rw [step_none hg]
  | some t => rw [(step_threads s tid t hg).1]; exact getElem?_setAt_ne _ _ h

inductive CallKind
  | push | data | clear | isEmpty
  deriving DecidableEq

/-- the call whose code a pc belongs to (`none`: between calls) -/
def PC.kind : PC → Option CallKind
  | .start | .done => none
  | .pLoadTail | .pCasFirst | .pClaim _ _ | .pPublish _ _ | .pCasNew _ => some .push
  | .dLoadTail | .dQuiesced _ | .dWait _ | .dRead _ | .dNext _ => some .data
  | .cLoadTail | .cCas _ | .cQuiesced _ | .cWait _ | .cRead _ | .cNext _ => some .clear
  | .eLoadTail | .eLen _ => some .isEmpty

def Res.kind : Res → CallKind
  | .pushed => .push
  | .snapshot _ => .data
  | .cleared _ => .clear
  | .empty _ => .isEmpty

theorem isPusherPC_eq (pc : PC) : isPusherPC pc = (pc.kind == some .push) := by cases pc <;> rfl

theorem startPC_head (calls : List Call) (h : isPusherPC (startPC calls) = true) :
    ∃ v rest, calls = .push v :: rest := by
  cases calls with
  | nil => simp [startPC, isPusherPC] at h
  | cons c r => cases c <;> simp_all [startPC, pcOfCall, isPusherPC]

theorem startPC_plain (calls : List Call) :
    (∀ blk r, startPC calls ≠ .pClaim blk r) ∧ (∀ blk idx, startPC calls ≠ .pPublish blk idx) := by
  cases calls with
  | nil => simp [startPC]
  | cons c r => cases c <;> simp [startPC, pcOfCall]

theorem Hop.not_publish {s : Sys} {t : Thread} {pc' : PC} (h : Hop s t pc') :
    (∀ b i, t.pc ≠ .pPublish b i) ∧ ∀ b i, pc' ≠ .pPublish b i := by
  cases h with
  | start hp => exact ⟨by simp [hp], (startPC_plain _).2⟩
  | dWait blk hp | cWait blk hp => rcases hp with hp | hp <;> split <;> simp [hp]
  | _ => simp_all

theorem Hop.kind {s : Sys} {t : Thread} {pc' : PC} (h : Hop s t pc') :
    t.pc = .start ∧ pc' = startPC t.calls ∨ ∃ k, t.pc.kind = some k ∧ pc'.kind = some k := by
  cases h with
  | dWait blk hp | cWait blk hp => rcases hp with hp | hp <;> split <;> simp [hp, PC.kind]
  | _ => simp_all [PC.kind]

theorem Ret.kind {s : Sys} {t : Thread} {r : Res} (h : Ret s t r) : t.pc.kind = some r.kind := by
  cases h <;> simp [*, PC.kind, Res.kind]

theorem Ret.reader {s : Sys} {t : Thread} {r : Res} (h : Ret s t r) :
    isPusherPC t.pc = false ∧ t.pc ≠ .start ∧ ∀ b i, t.pc ≠ .pPublish b i := by
  cases h <;> simp [*, isPusherPC]

/-- what is known of the state `s'` after a step that leaves the stepping thread at the given pc: a claim on `blk` is
    entered only with `blk` the tail; the hand-over CAS for `old` only from a claim on `old` that found it full (its claim
    counter was incremented); a clearer's read only from a quiescence check that succeeded in the same state -/
def Arrived (s : Sys) (t : Thread) (s' : Sys) : PC → Prop
  | .pClaim blk _ => s'.tail = some blk
  | .pCasNew old => (∃ r, t.pc = .pClaim old r) ∧ (old < s.blocks.length → 1 ≤ (getBlock s' old).write)
  | .cRead blk => (getBlock s blk).quiesced s.B = true ∧ s' = s
  | _ => True

theorem arrived_startPC (s : Sys) (t : Thread) (s' : Sys) (calls : List Call) : Arrived s t s' (startPC calls) := by
  cases calls with
  | nil => trivial
  | cons c _ => cases c <;> trivial

theorem Hop.arrived {s : Sys} {t : Thread} {pc' : PC} (h : Hop s t pc') : Arrived s t s pc' := by
  cases h with
  | start => exact arrived_startPC _ _ _ _
  | pLoadSome b _ ht | pCasFirstLose b _ ht => exact ht
  | dWait => split <;> trivial
  | cWait =>
    split
    · exact ⟨‹_›, rfl⟩
    · trivial
  | _ => trivial

theorem Eff.arrived {s s' : Sys} {t t' : Thread} (e : Eff s t s' t') : Arrived s t s' t'.pc := by
  cases e with
  | idle hp => rw [hp]; trivial
  | hop pc' hop => exact hop.arrived
  | ret | publish => exact arrived_startPC _ _ _ _
  | read blk pc' hpc => rcases hpc with ⟨_, rfl⟩ | ⟨_, rfl⟩ <;> trivial
  | detach | claimOk => trivial
  | append => exact rfl
  | claimFull blk r pc' hp _ hpc' =>
    rcases hpc' with rfl | rfl
    · trivial
    · refine ⟨⟨r, hp⟩, fun hlt => ?_⟩
      rw [getBlock_setBlock, if_pos ⟨rfl, hlt⟩]
      exact Nat.le_add_left 1 _

/-- what a step does to the stepping thread alone -/
inductive TEff (t : Thread) : Thread → Prop
  | start : t.pc = .start → TEff t { t with pc := startPC t.calls }
  | done : t.pc = .done → TEff t t
  | goto (pc' : PC) (acc' : List Nat) (k : CallKind) : t.pc.kind = some k → pc'.kind = some k →
      TEff t { t with acc := acc', pc := pc' }
  | ret (r : Res) : t.pc.kind = some r.kind → TEff t (t.advance r)

theorem Eff.teff {s s' : Sys} {t t' : Thread} (e : Eff s t s' t') : TEff t t' := by
  cases e with
  | idle hp => exact .done hp
  | hop pc' hop =>
    rcases hop.kind with ⟨hp, rfl⟩ | ⟨k, h1, h2⟩
    · exact .start hp
    · exact .goto pc' t.acc k h1 h2
  | ret r hr => exact .ret r hr.kind
  | read blk pc' hpc =>
    rcases hpc with ⟨hp, rfl⟩ | ⟨hp, rfl⟩
    · exact .goto _ _ .data (by rw [hp]; rfl) rfl
    · exact .goto _ _ .clear (by rw [hp]; rfl) rfl
  | detach old hp => exact .goto _ t.acc .clear (by rw [hp]; rfl) rfl
  | append r hpc => rcases hpc with ⟨hp, _⟩ | ⟨old, hp, _⟩ <;> exact .goto _ t.acc .push (by rw [hp]; rfl) rfl
  | claimOk blk r hp => exact .goto _ t.acc .push (by rw [hp]; rfl) rfl
  | claimFull blk r pc' hp _ hpc' => rcases hpc' with rfl | rfl <;> exact .goto _ t.acc .push (by rw [hp]; rfl) rfl
  | publish blk idx hp => exact .ret .pushed (by rw [hp]; rfl)

theorem stepThread_teff (s : Sys) (t : Thread) : TEff t (stepThread s t).2 := (stepThread_eff s t).teff

theorem TEff.results {t t' : Thread} (h : TEff t t') :
    t'.results = t.results ∨ ∃ r, t'.results = t.results ++ [r] ∧ t.pc.kind = some r.kind := by
  cases h with
  | start | done | goto => exact Or.inl rfl
  | ret r h => exact Or.inr ⟨r, rfl, h⟩

/-- a `P` that every step of the thread itself preserves holds of thread `i` along any run (`threadAt_run`) -/
def ThreadAt (P : Thread → Prop) (s : Sys) (i : Nat) : Prop := ∀ t, s.threads[i]? = some t → P t

theorem threadAt_step {P : Thread → Prop} (hP : ∀ s t, P t → P (stepThread s t).2) (s : Sys) (tid i : Nat)
    (h : ThreadAt P s i) : ThreadAt P (step s tid) i := by
  intro u hu
  by_cases hi : tid = i
  · subst hi
    cases hg : s.threads[tid]? with
    | none => rw [step_none hg] at hu; exact h u hu
    | some t => rw [step_self hg] at hu; cases hu; exact hP s t (h t hg)
  · rw [step_other s hi] at hu; exact h u hu

theorem threadAt_run {P : Thread → Prop} (hP : ∀ s t, P t → P (stepThread s t).2) (i : Nat) (sched : List Nat) :
    ∀ s, ThreadAt P s i → ThreadAt P (run s sched) i := by
  induction sched with
  | nil => intro s h; exact h
  | cons x xs ih => intro s h; exact ih _ (threadAt_step hP s x i h)

theorem init_thread {B : Nat} {progs : List (List Call)} {i : Nat} {t : Thread}
    (ht : (init B progs).threads[i]? = some t) : ∃ p, progs[i]? = some p ∧ t = mkThread p := by
  simp only [init, List.getElem?_map, Option.map_eq_some_iff] at ht
  obtain ⟨p, hp, e⟩ := ht
  exact ⟨p, hp, e.symm⟩

theorem threadAt_init {P : Thread → Prop} (B : Nat) (progs : List (List Call)) (i : Nat)
    (h : ∀ p, progs[i]? = some p → P (mkThread p)) : ThreadAt P (init B progs) i := by
  intro t ht
  obtain ⟨p, hp, rfl⟩ := init_thread ht
  exact h p hp

end MetricsVerif.Bucket
