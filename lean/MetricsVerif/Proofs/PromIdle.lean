/-
Helper lemmas for the exporter side of C12 (model: `Model/PromIdle.lean`): the exporter's loops act on the
registry / `Recency` part of the state exactly as the loops of `Model/Recency.lean`, and the histogram loop
only ever removes distributions.
-/
import MetricsVerif.Model.PromIdle
import MetricsVerif.Proofs.Recency

namespace MetricsVerif.PromIdle
open MetricsVerif.Recency

theorem foldl_drainOne_base (parts : Key → DKey) (l : List (Id × Metric)) (ps : PSt) :
    (l.foldl (drainOne parts) ps).base = ps.base := by
  induction l generalizing ps with
  | nil => rfl
  | cons e es ih => simp only [List.foldl_cons]; rw [ih]; rfl

theorem drain_base (parts : Key → DKey) (ps : PSt) : (drain parts ps).base = ps.base :=
  foldl_drainOne_base ..

theorem visitH_base (parts : Key → DKey) (ps : PSt) (e : Id × Metric) :
    (visitH parts ps e).base = visit ps.base e := by
  unfold visitH visit
  split <;> rfl

theorem foldl_visitH_base (parts : Key → DKey) (l : List (Id × Metric)) (ps : PSt) :
    (l.foldl (visitH parts) ps).base = l.foldl visit ps.base := by
  induction l generalizing ps with
  | nil => rfl
  | cons e es ih => simp only [List.foldl_cons]; rw [ih, visitH_base]

/-- a render acts on registry and `Recency` as one observation of the `Recency` model -/
theorem render_base (parts : Key → DKey) (ps : PSt) : (render parts ps).base = observe ps.base := by
  unfold render
  rw [foldl_visitH_base, drain_base]
  rfl

theorem recordN_base (ps : PSt) (key : Key) (v : Int) (n : Nat) :
    (recordN ps key v n).base = run ps.base (List.replicate n (.upd .histogram key (.record v))) := by
  induction n with
  | zero => rfl
  | succ n ih =>
    have h : (recordN ps key v (n + 1)).base
        = step (recordN ps key v n).base (.upd .histogram key (.record v)) := rfl
    rw [h, ih, List.replicate_succ', run_append]
    rfl

theorem updStep_base (ps : PSt) (k : Kind) (key : Key) (u : Upd) :
    (updStep ps k key u).base = step ps.base (.upd k key u) := by
  unfold updStep
  split <;> rfl

theorem pstep_base (parts : Key → DKey) (ps : PSt) (op : POp) :
    (pstep parts ps op).base = run ps.base op.toOps := by
  cases op with
  | reg k key => rfl
  | upd k key u => exact updStep_base ps k key u
  | recMany key v n =>
    show (recordN _ key v n).base = _
    rw [recordN_base]
    rfl
  | adv n => rfl
  | upkeep => exact drain_base parts ps
  | render => exact render_base parts ps

theorem prun_base (parts : Key → DKey) (ps : PSt) (ops : List POp) :
    (prun parts ps ops).base = run ps.base (ops.flatMap POp.toOps) := by
  induction ops generalizing ps with
  | nil => rfl
  | cons op rest ih =>
    show (prun parts (pstep parts ps op) rest).base = _
    rw [ih, pstep_base, List.flatMap_cons, run_append]

theorem visitH_dists_none (parts : Key → DKey) (ps : PSt) (e : Id × Metric) (d : DKey)
    (h : lookup ps.dists d = none) : lookup (visitH parts ps e).dists d = none := by
  unfold visitH
  split
  · exact h
  · show lookup (erase ps.dists (parts e.1.2)) d = none
    rw [lookup_erase]
    split
    · rfl
    · exact h

theorem foldl_visitH_dists_none (parts : Key → DKey) (l : List (Id × Metric)) (ps : PSt) (d : DKey)
    (h : lookup ps.dists d = none) : lookup (l.foldl (visitH parts) ps).dists d = none := by
  induction l generalizing ps with
  | nil => exact h
  | cons e es ih => exact ih _ (visitH_dists_none parts ps e d h)

/-- the iteration that removes a metric from the registry removes the distribution found under its parts -/
theorem visitH_drop (parts : Key → DKey) (ps : PSt) (e : Id × Metric) (i : Id)
    (hs : (lookup ps.base.metrics i).isSome = true)
    (hn : lookup (visitH parts ps e).base.metrics i = none) :
    lookup (visitH parts ps e).dists (parts i.2) = none := by
  obtain ⟨⟨k, key⟩, m⟩ := e
  rw [visitH_base] at hn
  unfold visit at hn
  unfold visitH
  rcases shouldStore_cases ps.base k key m.gen with h | ⟨_, _, _, _, _, _, _, h⟩ | h
  · simp only [h] at hn
    rw [hn] at hs; cases hs
  · simp only [h] at hn ⊢
    rw [lookup_erase] at hn
    by_cases e : i = (k, key)
    · subst e
      simp [lookup_erase]
    · simp only [e, if_false] at hn
      rw [hn] at hs; cases hs
  · simp only [h] at hn
    rw [hn] at hs; cases hs

theorem foldl_visitH_drop (parts : Key → DKey) (l : List (Id × Metric)) (ps : PSt) (i : Id)
    (hs : (lookup ps.base.metrics i).isSome = true)
    (hn : lookup (l.foldl (visitH parts) ps).base.metrics i = none) :
    lookup (l.foldl (visitH parts) ps).dists (parts i.2) = none := by
  induction l generalizing ps with
  | nil =>
    simp only [List.foldl_nil] at hn
    rw [hn] at hs; cases hs
  | cons e es ih =>
    simp only [List.foldl_cons] at hn ⊢
    cases hmid : lookup (visitH parts ps e).base.metrics i with
    | some m => exact ih _ (by rw [hmid]; rfl) hn
    | none => exact foldl_visitH_dists_none parts es _ _ (visitH_drop parts ps e i hs hmid)

end MetricsVerif.PromIdle
