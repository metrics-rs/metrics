/-
Lemmas about the independent DogStatsD reader (`Model/StatsdRead.lean`) and its round trip with the messages
the writer model renders (`renderMsg` over `trailer`).
-/
import MetricsVerif.Model.StatsdRead
import MetricsVerif.Proofs.Statsd

namespace MetricsVerif.StatsdRead
open MetricsVerif.Statsd (Tag tagText tagsGo trailer renderMsg)

theorem splitOn_of_not_mem (d : UInt8) : ∀ (a : Bytes), d ∉ a → splitOn d a = [a] := by
  intro a
  induction a with
  | nil => intro _; rfl
  | cons c cs ih =>
    intro h
    simp only [List.mem_cons, not_or] at h
    have hc : c ≠ d := fun e => h.1 e.symm
    simp [splitOn, hc, ih h.2]

theorem splitOn_append (d : UInt8) (rest : Bytes) : ∀ (a : Bytes), d ∉ a →
    splitOn d (a ++ d :: rest) = a :: splitOn d rest := by
  intro a
  induction a with
  | nil => intro _; simp [splitOn]
  | cons c cs ih =>
    intro h
    simp only [List.mem_cons, not_or] at h
    have hc : c ≠ d := fun e => h.1 e.symm
    simp [splitOn, hc, ih h.2]

theorem splitOn_join (d : UInt8) : ∀ (secs : List Bytes) (head : Bytes), d ∉ head → (∀ s ∈ secs, d ∉ s) →
    splitOn d (head ++ secs.flatMap (d :: ·)) = head :: secs := by
  intro secs
  induction secs with
  | nil => intro head hh _; simpa using splitOn_of_not_mem d head hh
  | cons s secs ih =>
    intro head hh hs
    simp only [List.flatMap_cons, List.cons_append]
    rw [splitOn_append d _ head hh, ih s (hs s (by simp)) (fun x hx => hs x (by simp [hx]))]

theorem splitFirst_append_left (d : UInt8) (rest : Bytes) : ∀ (k : Bytes), d ∉ k →
    splitFirst d (k ++ rest) = (k ++ (splitFirst d rest).1, (splitFirst d rest).2) := by
  intro k
  induction k with
  | nil => intro _; rfl
  | cons c cs ih =>
    intro h
    simp only [List.mem_cons, not_or] at h
    have hc : c ≠ d := fun e => h.1 e.symm
    simp [splitFirst, hc, ih h.2]

theorem splitFirst_of_not_mem (d : UInt8) (k : Bytes) (h : d ∉ k) : splitFirst d k = (k, none) := by
  simpa [splitFirst] using splitFirst_append_left d [] k h

theorem splitFirst_append (d : UInt8) (v k : Bytes) (h : d ∉ k) : splitFirst d (k ++ d :: v) = (k, some v) := by
  simpa [splitFirst] using splitFirst_append_left d (d :: v) k h

/-- `s` contains none of the bytes `ds` -/
def freeOf (ds : List UInt8) (s : Bytes) : Bool := s.all (fun b => !ds.contains b)

theorem freeOf_not_mem {ds : List UInt8} {s : Bytes} (h : freeOf ds s = true) {d : UInt8} (hd : d ∈ ds) : d ∉ s := by
  intro hm
  simp only [freeOf, List.all_eq_true] at h
  have := h d hm
  simp [hd] at this

theorem not_mem_join {d sep : UInt8} {head : Bytes} {secs : List Bytes} (hne : d ≠ sep) (hh : d ∉ head)
    (hs : ∀ s ∈ secs, d ∉ s) : d ∉ head ++ secs.flatMap (sep :: ·) := by
  simp only [List.mem_append, List.mem_flatMap, List.mem_cons, not_or, not_exists, not_and]
  exact ⟨hh, fun s hsm => ⟨hne, hs s hsm⟩⟩

/-- a tag DogStatsD can carry: non-empty key without `: , | \n`, value without `, | \n` (colons are fine in a
    value, the reader splits at the first one) -/
def tagOk (t : Tag) : Bool := !t.1.isEmpty && freeOf [58, 44, 124, 10] t.1 && freeOf [44, 124, 10] t.2

/-- a value text: non-empty, without `: | \n` (true of every `ryu` / `itoa` output) -/
def valOk (v : Bytes) : Bool := !v.isEmpty && freeOf [58, 124, 10] v

/-- a (prefixed) metric name DogStatsD can carry: non-empty, without `: | \n` -/
def nameOk (n : Bytes) : Bool := !n.isEmpty && freeOf [58, 124, 10] n

/-- a sample-rate text: non-empty, without `| \n` -/
def rateOk (r : Bytes) : Bool := !r.isEmpty && freeOf [124, 10] r

/-- a timestamp text: non-empty decimal digits -/
def tsOk (t : Bytes) : Bool := !t.isEmpty && t.all isDigit

def optOk (f : Bytes → Bool) : Option Bytes → Bool
  | none => true
  | some x => f x

/-- the shape `valOk`, `nameOk`, `rateOk` and `tsOk` share -/
theorem nonempty_and {s : Bytes} {b : Bool} (h : (!s.isEmpty && b) = true) : s ≠ [] ∧ b = true := by
  simpa using h

/-- the separators `,` `|` `\n` are none of the bytes `:` `@` `#` `T` that open a part of the line -/
theorem sep_ne : ∀ d ∈ [(44 : UInt8), 124, 10], d ≠ 58 ∧ d ≠ 64 ∧ d ≠ 35 ∧ d ≠ 84 := by decide

theorem digits_free {t : Bytes} (h : t.all isDigit = true) {d : UInt8} (hd : d ∈ [124, 10]) : d ∉ t := by
  intro hm
  have hnd : ∀ d ∈ [124, 10], isDigit d = false := by decide
  exact Bool.noConfusion ((hnd d hd).symm.trans (List.all_eq_true.mp h d hm))

theorem tagsGo_true (ts : List Tag) : tagsGo true ts = (ts.map tagText).flatMap (44 :: ·) := by
  induction ts with
  | nil => rfl
  | cons t ts ih => simp [tagsGo, ih]

theorem tagText_free {t : Tag} (h : tagOk t = true) {d : UInt8} (hd : d ∈ [44, 124, 10]) : d ∉ tagText t := by
  simp only [tagOk, Bool.and_eq_true] at h
  have hk : d ∉ t.1 := freeOf_not_mem h.1.2 (List.mem_cons_of_mem _ hd)
  unfold tagText
  split
  · exact hk
  · simp only [List.mem_append, List.mem_cons, not_or]
    exact ⟨hk, (sep_ne d hd).1, freeOf_not_mem h.2 hd⟩

theorem parseTag_tagText {t : Tag} (h : tagOk t = true) : parseTag (tagText t) = some t := by
  obtain ⟨k, v⟩ := t
  simp only [tagOk, Bool.and_eq_true, Bool.not_eq_true', List.isEmpty_eq_false_iff] at h
  have hkne : k ≠ [] := h.1.1
  have hk : (58 : UInt8) ∉ k := freeOf_not_mem h.1.2 (List.mem_cons_self ..)
  unfold tagText parseTag
  cases v with
  | nil => simp [splitFirst_of_not_mem 58 k hk, hkne]
  | cons x xs => simp [splitFirst_append 58 (x :: xs) k hk, hkne]

theorem parseTags_map {ts : List Tag} (h : ∀ t ∈ ts, tagOk t = true) : parseTags (ts.map tagText) = some ts := by
  induction ts with
  | nil => rfl
  | cons t ts ih =>
    simp only [List.map_cons, parseTags, parseTag_tagText (h t (List.mem_cons_self ..)),
      ih (fun x hx => h x (List.mem_cons_of_mem _ hx))]

/-- the text after `|#` for a non-empty tag list -/
def tagsText (t : Tag) (ts : List Tag) : Bytes := tagText t ++ (ts.map tagText).flatMap (44 :: ·)

theorem tagsText_split {t : Tag} {ts : List Tag} (h : ∀ x ∈ t :: ts, tagOk x = true) :
    splitOn 44 (tagsText t ts) = (t :: ts).map tagText :=
  splitOn_join 44 _ _ (tagText_free (h t (List.mem_cons_self ..)) (List.mem_cons_self ..)) (by
    intro s hs
    obtain ⟨x, hx, rfl⟩ := List.mem_map.mp hs
    exact tagText_free (h x (List.mem_cons_of_mem _ hx)) (List.mem_cons_self ..))

theorem tagsText_free {t : Tag} {ts : List Tag} (h : ∀ x ∈ t :: ts, tagOk x = true) {d : UInt8} (hd : d ∈ [124, 10]) :
    d ∉ tagsText t ts :=
  not_mem_join (ne_of_mem_of_not_mem hd (by simp))
    (tagText_free (h t (List.mem_cons_self ..)) (List.mem_cons_of_mem _ hd)) (by
      intro s hs
      obtain ⟨x, hx, rfl⟩ := List.mem_map.mp hs
      exact tagText_free (h x (List.mem_cons_of_mem _ hx)) (List.mem_cons_of_mem _ hd))

/-- the sections after the type, as the writer's trailer lays them out -/
def optSecs (tags : List Tag) (ts rate : Option Bytes) : List Bytes :=
  (match rate with | some r => [64 :: r] | none => [])
  ++ (match tags with | [] => [] | t :: more => [35 :: tagsText t more])
  ++ (match ts with | some t => [84 :: t] | none => [])

theorem trailer_eq (labels globals : List Tag) (ts rate : Option Bytes) :
    trailer labels globals ts rate = (optSecs (globals ++ labels) ts rate).flatMap (124 :: ·) ++ [10] := by
  unfold trailer optSecs
  rw [List.flatMap_append, List.flatMap_append]
  -- section by section: rate, tags, timestamp
  congr 1; congr 1; congr 1
  · cases rate <;> simp
  · cases globals ++ labels <;> simp [tagsGo, tagsGo_true, tagsText]
  · cases ts <;> simp

theorem optSecs_free {tags : List Tag} {ts rate : Option Bytes} (htags : ∀ t ∈ tags, tagOk t = true)
    (hts : optOk tsOk ts = true) (hrate : optOk rateOk rate = true) {d : UInt8} (hd : d ∈ [124, 10]) :
    ∀ s ∈ optSecs tags ts rate, d ∉ s := by
  have hne := (sep_ne d (List.mem_cons_of_mem _ hd)).2
  intro s hs
  simp only [optSecs, List.mem_append] at hs
  rcases hs with (hs | hs) | hs
  · cases rate with
    | none => cases hs
    | some r =>
      cases List.mem_singleton.mp hs
      exact List.not_mem_cons_of_ne_of_not_mem hne.1 (freeOf_not_mem (nonempty_and hrate).2 hd)
  · cases tags with
    | nil => cases hs
    | cons t more =>
      cases List.mem_singleton.mp hs
      exact List.not_mem_cons_of_ne_of_not_mem hne.2.1 (tagsText_free htags hd)
  · cases ts with
    | none => cases hs
    | some t =>
      cases List.mem_singleton.mp hs
      exact List.not_mem_cons_of_ne_of_not_mem hne.2.2 (digits_free (nonempty_and hts).2 hd)

theorem parseSections_optSecs {tags : List Tag} {ts rate : Option Bytes} (htags : ∀ t ∈ tags, tagOk t = true)
    (hts : optOk tsOk ts = true) (hrate : optOk rateOk rate = true) (n : Bytes) (vs : List Bytes) (ty : Bytes) :
    parseSections 0 (optSecs tags ts rate) ⟨n, vs, ty, none, [], none⟩ = some ⟨n, vs, ty, rate, tags, ts⟩ := by
  have hr : ∀ r, rate = some r → r ≠ [] := fun r e => by subst e; exact (nonempty_and hrate).1
  have ht : ∀ t, ts = some t → t ≠ [] ∧ t.all isDigit = true := fun t e => by subst e; exact nonempty_and hts
  have hg : ∀ t more, tags = t :: more → parseTags (splitOn 44 (tagsText t more)) = some (t :: more) := by
    intro t more e; subst e
    rw [tagsText_split htags, parseTags_map htags]
  cases rate <;> cases tags <;> cases ts <;> simp [optSecs, parseSections, hr, ht, hg]

/-- the four type bytes the writer uses -/
def tyOk (ty : UInt8) : Bool := ty == 99 || ty == 103 || ty == 104 || ty == 100

theorem tyOk_isType {ty : UInt8} (h : tyOk ty = true) : isType [ty] = true := by
  simp only [tyOk, Bool.or_eq_true, beq_iff_eq] at h
  rcases h with ((rfl | rfl) | rfl) | rfl <;> rfl

theorem tyOk_free {ty : UInt8} (h : tyOk ty = true) {d : UInt8} (hd : d ∈ [124, 10]) : d ∉ [ty] := by
  have hno : ∀ d ∈ [(124 : UInt8), 10], tyOk d = false := by decide
  intro hm
  rw [← List.mem_singleton.mp hm, hno d hd] at h
  cases h

/-- **round trip.**  A rendered message whose strings are representable is read by the independent reader as
    exactly one datagram with that name, those values in order, that type, rate, tags (in order) and timestamp. -/
theorem render_parses (nm : Bytes) (ty : UInt8) (labels globals : List Tag) (ts rate : Option Bytes)
    (v : Bytes) (vs : List Bytes)
    (hnm : nameOk nm = true) (hty : tyOk ty = true) (hvs : ∀ x ∈ v :: vs, valOk x = true)
    (htags : ∀ t ∈ globals ++ labels, tagOk t = true) (hts : optOk tsOk ts = true) (hrate : optOk rateOk rate = true) :
    parsePayload (renderMsg nm ty (trailer labels globals ts rate) (v :: vs))
      = some ⟨nm, v :: vs, [ty], rate, globals ++ labels, ts⟩ := by
  obtain ⟨hnmne, hnmfree⟩ := nonempty_and hnm
  -- the message is `head|ty|sec…\n`
  let head := nm ++ (v :: vs).flatMap (58 :: ·)
  let secs := [ty] :: optSecs (globals ++ labels) ts rate
  have hmsg : renderMsg nm ty (trailer labels globals ts rate) (v :: vs)
      = (head ++ secs.flatMap (124 :: ·)) ++ [10] := by
    simp only [renderMsg, trailer_eq, head, secs, List.flatMap_cons, List.append_assoc, List.cons_append,
      List.nil_append]
  have hheadfree : ∀ d ∈ [124, 10], d ∉ head := fun d hd =>
    not_mem_join (sep_ne d (List.mem_cons_of_mem _ hd)).1 (freeOf_not_mem hnmfree (List.mem_cons_of_mem _ hd))
      (fun x hx => freeOf_not_mem (nonempty_and (hvs x hx)).2 (List.mem_cons_of_mem _ hd))
  have hsecsfree : ∀ d ∈ [124, 10], ∀ s ∈ secs, d ∉ s := by
    intro d hd s hs
    rcases List.mem_cons.mp hs with rfl | hs
    · exact tyOk_free hty hd
    · exact optSecs_free htags hts hrate hd s hs
  have h124 : (124 : UInt8) ∈ [124, 10] := List.mem_cons_self ..
  have h10 : (10 : UInt8) ∈ [124, 10] := List.mem_cons_of_mem _ (List.mem_cons_self ..)
  have hsplit : splitOn 124 (head ++ secs.flatMap (124 :: ·)) = head :: secs :=
    splitOn_join 124 secs head (hheadfree 124 h124) (hsecsfree 124 h124)
  have hnl : (head ++ secs.flatMap (124 :: ·)).contains 10 = false := by
    rw [List.contains_eq_mem, decide_eq_false_iff_not]
    exact not_mem_join (by decide) (hheadfree 10 h10) (hsecsfree 10 h10)
  have hhead : splitOn 58 head = nm :: v :: vs :=
    splitOn_join 58 (v :: vs) nm (freeOf_not_mem hnmfree (List.mem_cons_self ..))
      (fun x hx => freeOf_not_mem (nonempty_and (hvs x hx)).2 (List.mem_cons_self ..))
  have hany : (v :: vs).any (·.isEmpty) = false :=
    List.any_eq_false.mpr fun x hx => by simpa using (nonempty_and (hvs x hx)).1
  have hnmne' : nm.isEmpty = false := by simpa using hnmne
  unfold parsePayload
  rw [hmsg, List.getLast?_concat, List.dropLast_concat]
  simp only [if_true, hnl, Bool.false_eq_true, if_false, hsplit, secs, hhead, hany, tyOk_isType hty, hnmne',
    Bool.or_false, Bool.not_true]
  rw [parseSections_optSecs htags hts hrate]

end MetricsVerif.StatsdRead
