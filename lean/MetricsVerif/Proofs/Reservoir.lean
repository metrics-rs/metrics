/-
Helper lemmas for C16 (sampling reservoir).  Property statements live in `Props/C16.lean`.

`push` is `fetch_add` followed by the store step, which is characterised once (`storeAt_eq`: it stores into the slot
`slotOf` or into none); the rest is derived from the resulting equation `push_eq`: the invariant of one reservoir
against the values pushed since its reset (`SeqInv`) and of the A/B pair (`AInv`), the fill phase (`fill`), the exact
count behind `uniform` (`retainCount_mul`), and the passage from stream positions to stream values (`Res.mapSlots`).
-/
import MetricsVerif.Model.ReservoirConc

namespace MetricsVerif.Reservoir

theorem take_succ_set {α} (l : List α) (i : Nat) (v : α) (h : i < l.length) :
    (l.set i v).take (i + 1) = l.take i ++ [v] := by
  rw [List.take_add_one, List.take_set_of_le (Nat.le_refl i), List.getElem?_set_self h]
  rfl

theorem count_set_le {α} [BEq α] [LawfulBEq α] (l : List α) (j : Nat) (v x : α) :
    (l.set j v).count x ≤ l.count x + (if v == x then 1 else 0) := by
  by_cases h : j < l.length
  · rw [List.count_set h]
    exact Nat.add_le_add_right (Nat.sub_le _ _) _
  · rw [List.set_eq_of_length_le (Nat.le_of_not_lt h)]
    exact Nat.le_add_right _ _

/-- the slots after a store of `m` into slot `j` (`j` past the end: no store) -/
def stepSlots (s : List Nat) (j m : Nat) : List Nat := if j < s.length then s.set j m else s

theorem stepSlots_eq_set (s : List Nat) (j m : Nat) : stepSlots s j m = s.set j m := by
  unfold stepSlots
  split
  · rfl
  · next h => rw [List.set_eq_of_length_le (Nat.le_of_not_lt h)]

theorem stepSlots_length (s : List Nat) (j m : Nat) : (stepSlots s j m).length = s.length := by
  rw [stepSlots_eq_set, List.length_set]

/-- the slot the push that claimed index `idx` stores into, given the raw random number `c`: its own index while
    the reservoir fills, afterwards the draw from `0 .. idx + 1` (a slot past the end means: the value is dropped) -/
def slotOf (len idx c : Nat) : Nat := if idx < len then idx else c % (idx + 1)

/-- the panic branch (`fastrand(0)`) is unreachable: the code asks for `idx + 1` -/
theorem storeAt_eq (r : Res) (idx v c : Nat) :
    r.storeAt idx v c = { r with slots := stepSlots r.slots (slotOf r.slots.length idx c) v } := by
  unfold Res.storeAt stepSlots slotOf fastrandArg
  by_cases h : idx < r.slots.length
  · simp [h]
  · simp only [h, if_false, Nat.add_one_ne_zero]
    split <;> rfl

theorem push_eq_claim_store (r : Res) (v c : Nat) : r.push v c = (r.claim.1).storeAt r.claim.2 v c := rfl

theorem push_eq (r : Res) (v c : Nat) :
    r.push v c = { r with slots := stepSlots r.slots (slotOf r.slots.length r.count c) v, count := r.count + 1 } := by
  rw [push_eq_claim_store, storeAt_eq]
  rfl

theorem push_of_lt (r : Res) (v c : Nat) (h : r.count < r.slots.length) :
    r.push v c = { r with slots := r.slots.set r.count v, count := r.count + 1 } := by
  simp [push_eq, slotOf, stepSlots, h]

@[simp] theorem push_slots_length (r : Res) (v c : Nat) : (r.push v c).slots.length = r.slots.length := by
  rw [push_eq]; exact stepSlots_length _ _ _

@[simp] theorem push_count (r : Res) (v c : Nat) : (r.push v c).count = r.count + 1 := by
  rw [push_eq]

@[simp] theorem push_panicked (r : Res) (v c : Nat) : (r.push v c).panicked = r.panicked := by
  rw [push_eq]

@[simp] theorem new_slots_length (cap : Nat) : (Res.new cap).slots.length = cap := by simp [Res.new]
@[simp] theorem new_count (cap : Nat) : (Res.new cap).count = 0 := rfl
@[simp] theorem new_panicked (cap : Nat) : (Res.new cap).panicked = false := rfl

theorem drain_eq (r : Res) :
    r.drain = { values := r.slots.take (min r.count r.slots.length), unsampled := r.count,
                len := min r.count r.slots.length } := by
  simp only [Res.drain]
  split
  · next h => rw [Nat.min_eq_right (Nat.le_of_lt h)]
  · next h => rw [Nat.min_eq_left (Nat.le_of_not_lt h)]

theorem drain_values (r : Res) : r.drain.values = r.slots.take (min r.count r.slots.length) := by rw [drain_eq]

theorem drain_len (r : Res) : r.drain.len = min r.count r.slots.length := by rw [drain_eq]

@[simp] theorem drain_unsampled (r : Res) : r.drain.unsampled = r.count := rfl

theorem rate_spec (cap : Nat) (d : DrainOut) (hl : d.len = min d.unsampled cap) (hv : d.values.length = d.len) :
    d.rate.1 * d.unsampled = d.values.length * d.rate.2 ∧ 0 < d.rate.2
    ∧ d.rate = if d.unsampled ≤ cap then (1, 1) else (cap, d.unsampled) := by
  unfold DrainOut.rate
  by_cases h : d.unsampled ≤ cap
  · have e : d.unsampled = d.len := by rw [hl, Nat.min_eq_left h]
    rw [if_pos e, if_pos h]
    exact ⟨by rw [hv, e, Nat.one_mul, Nat.mul_one], Nat.one_pos, rfl⟩
  · have e' : d.len = cap := by rw [hl, Nat.min_eq_right (Nat.le_of_not_le h)]
    have e : ¬ d.unsampled = d.len := by rw [e']; exact fun x => h (Nat.le_of_eq x)
    rw [if_neg e, if_neg h, e']
    exact ⟨by rw [hv, e'], Nat.lt_of_le_of_lt (Nat.zero_le _) (Nat.lt_of_not_le h), rfl⟩

/-- what a drain should be after the values `tot` were pushed into `cap` slots -/
structure ExactDrain (cap : Nat) (tot : List Nat) (d : DrainOut) : Prop where
  unsampled : d.unsampled = tot.length
  len : d.len = min tot.length cap
  length : d.values.length = d.len
  sub : ∀ x, d.values.count x ≤ tot.count x

theorem ExactDrain.length_le {cap : Nat} {tot : List Nat} {d : DrainOut} (h : ExactDrain cap tot d) :
    d.values.length ≤ d.unsampled := by
  rw [h.length, h.len, h.unsampled]
  exact Nat.min_le_left _ _

theorem ExactDrain.rate {cap : Nat} {tot : List Nat} {d : DrainOut} (h : ExactDrain cap tot d) :
    d.rate.1 * tot.length = d.values.length * d.rate.2 ∧ 0 < d.rate.2
    ∧ d.rate = if tot.length ≤ cap then (1, 1) else (cap, tot.length) := by
  have := rate_spec cap d (by rw [h.len, h.unsampled]) h.length
  rwa [h.unsampled] at this

/-- `r` holds a sample of `pend`, the values pushed since its reset -/
structure SeqInv (r : Res) (pend : List Nat) : Prop where
  count_eq : r.count = pend.length
  sub : ∀ x, (r.slots.take (min r.count r.slots.length)).count x ≤ pend.count x
  all : r.count ≤ r.slots.length → r.slots.take r.count = pend

theorem SeqInv.empty (r : Res) (h : r.count = 0) : SeqInv r [] := by
  refine ⟨by simp [h], ?_, ?_⟩
  · intro x; simp [h]
  · intro _; simp [h]

theorem SeqInv.push {r : Res} {pend : List Nat} (h : SeqInv r pend) (v c : Nat) :
    SeqInv (r.push v c) (pend ++ [v]) := by
  refine ⟨by rw [push_count, h.count_eq, List.length_append]; rfl, ?_, ?_⟩
  · intro x
    rw [push_eq]
    simp only [stepSlots_eq_set, List.length_set]
    by_cases hlt : r.count < r.slots.length
    · -- filling: the new prefix is the old one followed by `v`
      rw [Nat.min_eq_left (Nat.succ_le_of_lt hlt), slotOf, if_pos hlt, take_succ_set _ _ _ hlt,
        h.all (Nat.le_of_lt hlt)]
      exact Nat.le_refl _
    · -- full: one slot is overwritten by `v`
      have hle := Nat.le_of_not_lt hlt
      have hs := h.sub x
      rw [Nat.min_eq_right hle, List.take_of_length_le (Nat.le_refl _)] at hs
      rw [Nat.min_eq_right (Nat.le_succ_of_le hle), List.take_of_length_le (Nat.le_of_eq (List.length_set ..)),
        List.count_append, List.count_singleton]
      exact Nat.le_trans (count_set_le r.slots _ v x) (Nat.add_le_add_right hs _)
  · intro hle
    rw [push_count, push_slots_length] at hle
    rw [push_count, push_of_lt r v c hle, take_succ_set _ _ _ hle, h.all (Nat.le_of_lt hle)]

/-- invariant of a sequential history of `AtomicSamplingReservoir`; `pend` = the values pushed since the last `consume` -/
structure AInv (cap : Nat) (a : ASR) (pend : List Nat) : Prop where
  lenP : a.primary.slots.length = cap
  lenS : a.secondary.slots.length = cap
  idle : a.inactive.count = 0
  act : SeqInv a.active pend
  okP : a.primary.panicked = false
  okS : a.secondary.panicked = false

theorem AInv.new (cap : Nat) : AInv cap (ASR.new cap) [] :=
  ⟨new_slots_length cap, new_slots_length cap, rfl, SeqInv.empty _ rfl, rfl, rfl⟩

theorem AInv.push {cap : Nat} {a : ASR} {pend : List Nat} (h : AInv cap a pend) (v c : Nat) :
    AInv cap (a.push v c) (pend ++ [v]) := by
  obtain ⟨P, S, u⟩ := a
  obtain ⟨lp, ls, idle, act, okP, okS⟩ := h
  cases u
  · exact ⟨lp, (push_slots_length S v c).trans ls, idle, act.push v c, okP, (push_panicked S v c).trans okS⟩
  · exact ⟨(push_slots_length P v c).trans lp, ls, idle, act.push v c, (push_panicked P v c).trans okP, okS⟩

theorem AInv.consume {cap : Nat} {a : ASR} {pend : List Nat} (h : AInv cap a pend) :
    AInv cap a.consume.1 [] := by
  obtain ⟨P, S, u⟩ := a
  obtain ⟨lp, ls, idle, act, okP, okS⟩ := h
  cases u <;> exact ⟨lp, ls, rfl, SeqInv.empty _ idle, okP, okS⟩

theorem consume_out (a : ASR) : a.consume.2 = a.active.drain := by
  cases hu : a.usePrimary <;> simp [ASR.consume, ASR.active, hu]

theorem AInv.step {cap : Nat} {a : ASR} {pend : List Nat} (h : AInv cap a pend) (op : Op) :
    AInv cap (step a op) (pendStep pend op) := by
  cases op with
  | push v c => exact h.push v c
  | consume => exact h.consume

theorem AInv.run {cap : Nat} {a : ASR} {pend : List Nat} (h : AInv cap a pend) (ops : List Op) :
    AInv cap (run a ops) (ops.foldl pendStep pend) := by
  induction ops generalizing a pend with
  | nil => exact h
  | cons op ops ih => exact ih (h.step op)

theorem inv_run (cap : Nat) (ops : List Op) : AInv cap (run (ASR.new cap) ops) (pendOf ops) :=
  (AInv.new cap).run ops

theorem AInv.active_len {cap : Nat} {a : ASR} {pend : List Nat} (h : AInv cap a pend) :
    a.active.slots.length = cap := by
  cases hu : a.usePrimary <;> simp [ASR.active, hu, h.lenP, h.lenS]

theorem AInv.drain {cap : Nat} {a : ASR} {pend : List Nat} (h : AInv cap a pend) :
    a.consume.2 = { values := a.active.slots.take (min pend.length cap), unsampled := pend.length,
                    len := min pend.length cap } := by
  rw [consume_out, drain_eq, h.active_len, h.act.count_eq]

theorem AInv.exact {cap : Nat} {a : ASR} {pend : List Nat} (h : AInv cap a pend) :
    ExactDrain cap pend a.consume.2 := by
  have hs := h.act.sub
  rw [h.act.count_eq, h.active_len] at hs
  rw [h.drain]
  exact ⟨rfl, rfl, by rw [List.length_take, h.active_len, Nat.min_assoc, Nat.min_self], hs⟩

theorem AInv.drain_all {cap : Nat} {a : ASR} {pend : List Nat} (h : AInv cap a pend) (hn : pend.length ≤ cap) :
    a.consume.2.values = pend := by
  rw [h.drain, Nat.min_eq_left hn, ← h.act.count_eq]
  exact h.act.all (by rw [h.act.count_eq, h.active_len]; exact hn)

theorem countP_flatMap_ite {α β} (l : List α) (f : α → List β) (p : β → Bool) (q : α → Bool) (c : Nat)
    (h : ∀ x ∈ l, (f x).countP p = if q x then c else 0) :
    (l.flatMap f).countP p = c * l.countP q := by
  induction l with
  | nil => simp
  | cons x l ih =>
    have hx := h x (by simp)
    have ih' := ih (fun y hy => h y (by simp [hy]))
    rw [List.flatMap_cons, List.countP_append, hx, ih', List.countP_cons]
    cases q x <;> simp [Nat.mul_add]
    omega

theorem countP_ne_range {p N : Nat} (h : p < N) : (List.range N).countP (fun j => decide (j ≠ p)) = N - 1 := by
  induction N with
  | zero => cases h
  | succ N ih =>
    rw [List.range_succ, List.countP_append, List.countP_singleton]
    rcases Nat.lt_or_eq_of_le (Nat.le_of_lt_succ h) with hp | rfl
    · rw [ih hp, if_pos (decide_eq_true (Nat.ne_of_gt hp))]
      exact Nat.sub_add_cancel (Nat.lt_of_le_of_lt (Nat.zero_le _) hp)
    · rw [List.countP_eq_length.mpr (fun j hj => decide_eq_true (Nat.ne_of_lt (List.mem_range.mp hj))),
        List.length_range, if_neg (by simp)]
      rfl

theorem countP_lt_range (k N : Nat) :
    (List.range N).countP (fun j => decide (j < k)) = min k N := by
  induction N with
  | zero => exact (Nat.min_zero k).symm
  | succ N ih =>
    rw [List.range_succ, List.countP_append, ih, List.countP_singleton]
    by_cases h : N < k
    · rw [if_pos (decide_eq_true h), Nat.min_eq_right (Nat.le_of_lt h), Nat.min_eq_right h]
    · rw [if_neg (fun e => h (of_decide_eq_true e)), Nat.min_eq_left (Nat.le_of_not_lt h),
        Nat.min_eq_left (Nat.le_succ_of_le (Nat.le_of_not_lt h))]
      rfl

theorem mem_set_iff_ne {s : List Nat} {i m p : Nat} (hn : s.Nodup) (hp : s[p]? = some i) (him : i ≠ m) (j : Nat) :
    i ∈ s.set j m ↔ j ≠ p := by
  constructor
  · rintro hmem rfl
    obtain ⟨q, hq⟩ := List.mem_iff_getElem?.mp hmem
    rw [List.getElem?_set] at hq
    split at hq
    · split at hq
      · exact him (Option.some.inj hq).symm
      · cases hq
    · rename_i hne
      exact hne ((List.getElem?_inj (List.getElem?_eq_some_iff.mp hp).1 hn).mp (hp.trans hq.symm))
  · intro hne
    exact List.mem_of_getElem? (by rw [List.getElem?_set_ne hne]; exact hp)

theorem count_keep (s : List Nat) (i m : Nat) (hn : s.Nodup) (hi : i ∈ s) (him : i ≠ m) (hk : s.length ≤ m + 1) :
    (List.range (m + 1)).countP (fun j => decide (i ∈ s.set j m)) = m := by
  obtain ⟨p, hp⟩ := List.mem_iff_getElem?.mp hi
  have hpl := (List.getElem?_eq_some_iff.mp hp).1
  rw [List.countP_congr (q := fun j => decide (j ≠ p)) (fun j _ => by simp only [decide_eq_true_eq]; exact mem_set_iff_ne hn hp him j),
    countP_ne_range (by omega)]
  rfl

theorem count_out (s : List Nat) (i m : Nat) (hi : i ∉ s) (him : i ≠ m) :
    (List.range (m + 1)).countP (fun j => decide (i ∈ s.set j m)) = 0 := by
  rw [List.countP_eq_zero]
  intro j _
  rw [decide_eq_true_eq]
  intro hm
  rcases List.mem_or_eq_of_mem_set hm with h | h
  · exact hi h
  · exact him h

theorem count_new (s : List Nat) (m : Nat) (hm : m ∉ s) (hk : s.length ≤ m + 1) :
    (List.range (m + 1)).countP (fun j => decide (m ∈ s.set j m)) = s.length := by
  have key : ∀ j, m ∈ s.set j m ↔ j < s.length := by
    intro j
    constructor
    · intro h
      apply Classical.byContradiction
      intro hj
      rw [List.set_eq_of_length_le (by omega)] at h
      exact hm h
    · intro hj; exact List.mem_set hj m
  rw [List.countP_congr (q := fun j => decide (j < s.length)) (fun j _ => by simp only [decide_eq_true_eq]; exact key j), countP_lt_range]
  omega

theorem fill {α} (f : Nat → Nat) (g : α → Nat) (l : List α) : ∀ r : Res, r.count + l.length ≤ r.slots.length →
    (l.foldl (fun r a => r.push (f r.count) (g a)) r).count = r.count + l.length
    ∧ (l.foldl (fun r a => r.push (f r.count) (g a)) r).slots.length = r.slots.length
    ∧ (l.foldl (fun r a => r.push (f r.count) (g a)) r).panicked = r.panicked
    ∧ (l.foldl (fun r a => r.push (f r.count) (g a)) r).slots.take (r.count + l.length)
        = r.slots.take r.count ++ (List.range' r.count l.length).map f := by
  induction l with
  | nil => intro r _; simp
  | cons a l ih =>
    intro r h
    have hlt : r.count < r.slots.length := Nat.lt_of_lt_of_le (Nat.lt_add_of_pos_right (Nat.succ_pos _)) h
    have hp : (r.push (f r.count) (g a)).slots.take (r.count + 1) = r.slots.take r.count ++ [f r.count] := by
      rw [push_of_lt _ _ _ hlt, take_succ_set _ _ _ hlt]
    have e : r.count + (l.length + 1) = r.count + 1 + l.length := Nat.add_right_comm r.count l.length 1
    obtain ⟨h1, h2, h3, h4⟩ := ih (r.push (f r.count) (g a)) (by rw [push_count, push_slots_length, ← e]; exact h)
    simp only [push_count, push_slots_length, push_panicked, hp] at h1 h2 h3 h4
    simp only [List.foldl_cons, List.length_cons, List.range'_succ, List.map_cons]
    refine ⟨h1.trans e.symm, h2, h3, ?_⟩
    rw [e, h4, List.append_assoc]
    rfl

theorem fill_new {α} (f : Nat → Nat) (g : α → Nat) (l : List α) :
    l.foldl (fun r a => r.push (f r.count) (g a)) (Res.new l.length)
      = { slots := (List.range l.length).map f, count := l.length } := by
  obtain ⟨h1, h2, h3, h4⟩ := fill f g l (Res.new l.length) (by simp)
  generalize l.foldl (fun r a => r.push (f r.count) (g a)) (Res.new l.length) = r' at *
  obtain ⟨s, n, p⟩ := r'
  simp only [new_count, new_slots_length, new_panicked, Nat.zero_add, List.take_zero, List.nil_append,
    ← List.range_eq_range'] at h1 h2 h3 h4
  rw [List.take_of_length_le (by omega)] at h4
  rw [h1, h3, h4]

theorem filled_eq (cap : Nat) : filled cap = { slots := List.range cap, count := cap } := by
  have := fill_new id (fun _ => 0) (List.range cap)
  rw [List.length_range, List.map_id] at this
  exact this

/-- state of a full reservoir over a stream of positions after `cap + e` pushes -/
structure Good (cap e : Nat) (r : Res) : Prop where
  len : r.slots.length = cap
  cnt : r.count = cap + e
  nd : r.slots.Nodup
  lt : ∀ x ∈ r.slots, x < cap + e

theorem Good.filled (cap : Nat) : Good cap 0 (filled cap) := by
  rw [filled_eq]
  exact ⟨List.length_range, rfl, List.nodup_range, fun x hx => List.mem_range.mp hx⟩

theorem Good.push_slots {cap e : Nat} {r : Res} (h : Good cap e r) (j : Nat) (hj : j < cap + e + 1) :
    (r.push r.count j).slots = r.slots.set j (cap + e) := by
  rw [push_eq, stepSlots_eq_set, slotOf, if_neg (by rw [h.len, h.cnt]; omega), h.cnt, Nat.mod_eq_of_lt hj]

theorem nodup_set (l : List Nat) (j v : Nat) (hn : l.Nodup) (hv : v ∉ l) : (l.set j v).Nodup := by
  induction l generalizing j with
  | nil => simp
  | cons a l ih =>
    rw [List.nodup_cons] at hn
    have hva : v ≠ a := by intro e; apply hv; simp [e]
    have hvl : v ∉ l := by intro e; apply hv; simp [e]
    cases j with
    | zero => simp [List.nodup_cons, hvl, hn.2]
    | succ j =>
      simp only [List.set_cons_succ, List.nodup_cons]
      refine ⟨?_, ih j hn.2 hvl⟩
      intro hm
      rcases List.mem_or_eq_of_mem_set hm with h | h
      · exact hn.1 h
      · exact hva h.symm

theorem Good.fresh {cap e : Nat} {r : Res} (h : Good cap e r) : cap + e ∉ r.slots :=
  fun hm => Nat.lt_irrefl _ (h.lt _ hm)

theorem Good.push {cap e : Nat} {r : Res} (h : Good cap e r) (j : Nat) (hj : j < cap + e + 1) :
    Good cap (e + 1) (r.push r.count j) := by
  refine ⟨(push_slots_length ..).trans h.len, by rw [push_count, h.cnt]; rfl, ?_, ?_⟩
  · rw [h.push_slots j hj]
    exact nodup_set _ _ _ h.nd h.fresh
  · intro x hx
    rw [h.push_slots j hj] at hx
    rcases List.mem_or_eq_of_mem_set hx with h1 | h1
    · exact Nat.lt_succ_of_lt (h.lt x h1)
    · exact h1 ▸ Nat.lt_succ_self _

theorem runChoices_snoc (cap : Nat) (cs : List Nat) (j : Nat) :
    runChoices cap (cs ++ [j]) = (runChoices cap cs).push (runChoices cap cs).count j := by
  simp [runChoices, List.foldl_append]

theorem Good.retained {cap e : Nat} {r : Res} (h : Good cap e r) : r.drain.values = r.slots := by
  rw [drain_values, h.len, h.cnt, Nat.min_eq_right (by omega), List.take_of_length_le (by rw [h.len]; exact Nat.le_refl _)]

theorem mem_vectors_succ (cap e : Nat) (cs' : List Nat) :
    cs' ∈ vectors cap (e + 1) ↔ ∃ cs ∈ vectors cap e, ∃ j, j < cap + e + 1 ∧ cs' = cs ++ [j] := by
  simp only [vectors, fastrandArg, List.mem_flatMap, List.mem_map, List.mem_range]
  constructor <;> (rintro ⟨cs, hcs, j, hj, rfl⟩; exact ⟨cs, hcs, j, hj, rfl⟩)

theorem vectors_good (cap e : Nat) : ∀ cs ∈ vectors cap e, Good cap e (runChoices cap cs) := by
  induction e with
  | zero =>
    intro cs hcs
    simp only [vectors, List.mem_singleton] at hcs
    subst hcs
    exact Good.filled cap
  | succ e ih =>
    intro cs' hcs'
    obtain ⟨cs, hcs, j, hj, rfl⟩ := (mem_vectors_succ cap e cs').mp hcs'
    rw [runChoices_snoc]
    exact (ih cs hcs).push j hj

theorem vectors_length_succ (cap e : Nat) :
    (vectors cap (e + 1)).length = (vectors cap e).length * (cap + e + 1) := by
  rw [vectors, List.length_flatMap, List.map_congr_left (g := fun _ => cap + e + 1) fun cs _ => by
    rw [List.length_map, List.length_range]; rfl, List.map_const', List.sum_replicate_nat]

theorem retained_eq_slots {cap e : Nat} {cs : List Nat} (hcs : cs ∈ vectors cap e) :
    retained cap cs = (runChoices cap cs).slots :=
  (vectors_good cap e cs hcs).retained

theorem retained_snoc (cap e : Nat) (cs : List Nat) (hcs : cs ∈ vectors cap e) (j : Nat) (hj : j < cap + e + 1) :
    retained cap (cs ++ [j]) = (retained cap cs).set j (cap + e) := by
  have g := vectors_good cap e cs hcs
  unfold retained
  rw [runChoices_snoc, (g.push j hj).retained, g.retained, g.push_slots j hj]

theorem countP_snoc (cap e i : Nat) (cs : List Nat) (hcs : cs ∈ vectors cap e) :
    ((List.range (fastrandArg (cap + e))).map (fun j => cs ++ [j])).countP (fun cs' => decide (i ∈ retained cap cs'))
      = (List.range (cap + e + 1)).countP (fun j => decide (i ∈ (retained cap cs).set j (cap + e))) := by
  rw [List.countP_map]
  apply List.countP_congr
  intro j hj
  simp only [Function.comp, retained_snoc cap e cs hcs j (List.mem_range.mp hj)]

/-- By induction on the number of sampling pushes.  Push `cap + e` has `cap + e + 1` choices.  A position retained so
    far survives all but the one that hits its slot (`count_keep`), one not retained stays out (`count_out`): the count
    of an old position is multiplied by `cap + e`.  The new position is retained for the `cap` choices that hit a slot,
    after every vector (`count_new`). -/
theorem retainCount_mul (cap e i : Nat) (hi : i < cap + e) :
    retainCount cap e i * (cap + e) = cap * (vectors cap e).length := by
  induction e generalizing i with
  | zero =>
    have : retained cap [] = List.range cap := by
      rw [retained_eq_slots (e := 0) (List.mem_singleton.mpr rfl)]
      exact congrArg Res.slots (filled_eq cap)
    have hi' : i < cap := hi
    simp [retainCount, vectors, this, hi']
  | succ e ih =>
    rw [vectors_length_succ]
    by_cases hlt : i < cap + e
    · have hcount : retainCount cap (e + 1) i = (cap + e) * retainCount cap e i := by
        apply countP_flatMap_ite
        intro cs hcs
        have g := vectors_good cap e cs hcs
        rw [countP_snoc cap e i cs hcs, retained_eq_slots hcs]
        by_cases hm : i ∈ (runChoices cap cs).slots
        · rw [decide_eq_true hm, if_pos rfl]
          exact count_keep _ _ _ g.nd hm (Nat.ne_of_lt hlt) (Nat.le_trans (Nat.le_of_eq g.len) (Nat.le_succ_of_le (Nat.le_add_right cap e)))
        · rw [decide_eq_false hm, if_neg (by decide)]
          exact count_out _ _ _ hm (Nat.ne_of_lt hlt)
      rw [hcount, Nat.mul_comm (cap + e), ih i hlt, Nat.mul_assoc]
      rfl
    · obtain rfl : i = cap + e := Nat.le_antisymm (Nat.le_of_lt_succ hi) (Nat.le_of_not_lt hlt)
      have hcount : retainCount cap (e + 1) (cap + e) = cap * (vectors cap e).countP (fun _ => true) := by
        apply countP_flatMap_ite
        intro cs hcs
        have g := vectors_good cap e cs hcs
        rw [countP_snoc cap e _ cs hcs, retained_eq_slots hcs, if_pos rfl,
          count_new _ _ g.fresh (Nat.le_trans (Nat.le_of_eq g.len) (Nat.le_succ_of_le (Nat.le_add_right cap e))), g.len]
      rw [hcount, List.countP_eq_length.mpr (fun _ _ => rfl), Nat.mul_assoc]
      rfl

theorem mem_vectors_iff (cap e : Nat) (cs : List Nat) :
    cs ∈ vectors cap e ↔ cs.length = e ∧ ∀ t (h : t < cs.length), cs[t] < fastrandArg (cap + t) := by
  induction e generalizing cs with
  | zero =>
    simp only [vectors, List.mem_singleton]
    constructor
    · rintro rfl; exact ⟨rfl, fun t h => absurd h (Nat.not_lt_zero t)⟩
    · rintro ⟨h, _⟩; exact List.length_eq_zero_iff.mp h
  | succ e ih =>
    rw [mem_vectors_succ]
    constructor
    · rintro ⟨cs0, hcs0, j, hj, rfl⟩
      obtain ⟨hl, hr⟩ := (ih cs0).mp hcs0
      refine ⟨by rw [List.length_append, hl]; rfl, fun t ht => ?_⟩
      by_cases h1 : t < cs0.length
      · rw [List.getElem_append_left h1]; exact hr t h1
      · have ht' : t = cs0.length := by rw [List.length_append] at ht; simp at ht; omega
        rw [List.getElem_concat_length ht', ht', hl]
        exact hj
    · rintro ⟨hl, hr⟩
      rcases List.eq_nil_or_concat cs with rfl | ⟨cs0, j, rfl⟩
      · cases hl
      · rw [List.concat_eq_append] at hl hr ⊢
        rw [List.length_append] at hl
        have hl0 : cs0.length = e := by simpa using hl
        refine ⟨cs0, (ih cs0).mpr ⟨hl0, fun t ht => ?_⟩, j, ?_, rfl⟩
        · have := hr t (by rw [List.length_append]; omega)
          rwa [List.getElem_append_left ht] at this
        · have := hr cs0.length (by simp)
          rwa [List.getElem_concat_length rfl, hl0] at this

theorem vectors_nodup (cap e : Nat) : (vectors cap e).Nodup := by
  induction e with
  | zero => simp [vectors]
  | succ e ih =>
    simp only [vectors, List.Nodup]
    rw [List.pairwise_flatMap]
    constructor
    · intro cs _
      rw [List.pairwise_map]
      refine List.Pairwise.imp ?_ (List.nodup_range (n := fastrandArg (cap + e)))
      intro a b hab h
      exact hab (by simpa using List.append_cancel_left h)
    · refine List.Pairwise.imp ?_ ih
      intro cs1 cs2 hne x hx y hy hxy
      simp only [List.mem_map] at hx hy
      obtain ⟨a, _, rfl⟩ := hx
      obtain ⟨b, _, rfl⟩ := hy
      exact hne (List.append_inj_left' hxy rfl)

/-- the reservoir of the stream `f 0, f 1, …` is the reservoir of the stream of positions with `f` applied to its
    slots: `push` never looks at the values -/
def Res.mapSlots (f : Nat → Nat) (r : Res) : Res := { r with slots := r.slots.map f }

theorem push_mapSlots (f : Nat → Nat) (r : Res) (v c : Nat) :
    (r.push v c).mapSlots f = (r.mapSlots f).push (f v) c := by
  simp only [push_eq, Res.mapSlots, stepSlots_eq_set, List.map_set, List.length_map]

theorem foldl_push_mapSlots (f : Nat → Nat) (cs : List Nat) : ∀ r : Res,
    (cs.foldl (fun r c => r.push r.count c) r).mapSlots f
      = cs.foldl (fun r c => r.push (f r.count) c) (r.mapSlots f) := by
  induction cs with
  | nil => intro r; rfl
  | cons c cs ih => intro r; rw [List.foldl_cons, List.foldl_cons, ih, push_mapSlots]; rfl

theorem drain_mapSlots (f : Nat → Nat) (r : Res) : (r.mapSlots f).drain.values = r.drain.values.map f := by
  simp only [drain_values, Res.mapSlots, List.map_take, List.length_map]

theorem drain_values_of_positions (f : Nat → Nat) (cap : Nat) (cs0 cs : List Nat) (h0 : cs0.length = cap) :
    ((cs0 ++ cs).foldl (fun r c => r.push (f r.count) c) (Res.new cap)).drain.values
      = (retained cap cs).map f := by
  have hfill : cs0.foldl (fun r c => r.push (f r.count) c) (Res.new cap) = (filled cap).mapSlots f := by
    subst h0
    rw [filled_eq]
    exact fill_new f id cs0
  rw [List.foldl_append, hfill, ← foldl_push_mapSlots, drain_mapSlots]
  rfl

end MetricsVerif.Reservoir
