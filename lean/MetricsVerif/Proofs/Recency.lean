/-
For C12 (model: `Model/Recency.lean`): association lists with unique keys; the per-metric "view" of the state;
every operation, and so every history, acts on a metric through that metric's view (and the clock) only.
-/
import MetricsVerif.Model.Recency

namespace MetricsVerif.Recency

section maps
variable {κ α : Type} [DecidableEq κ]

@[simp] theorem lookup_nil (k : κ) : lookup ([] : List (κ × α)) k = none := rfl

theorem lookup_erase (m : List (κ × α)) (k k' : κ) :
    lookup (erase m k) k' = if k' = k then none else lookup m k' := by
  induction m with
  | nil => simp [erase]
  | cons x xs ih =>
    obtain ⟨kx, ax⟩ := x
    simp only [erase] at ih ⊢
    by_cases hx : kx = k
    · subst hx
      simp only [List.filter, decide_true, Bool.not_true]
      rw [ih]
      by_cases h : k' = kx
      · simp [h]
      · have : ¬ kx = k' := fun e => h e.symm
        simp [h, lookup, this]
    · simp only [List.filter, hx, decide_false, Bool.not_false, lookup]
      rw [ih]
      by_cases h : kx = k'
      · subst h; simp [hx]
      · simp [h]

theorem lookup_insert (m : List (κ × α)) (k : κ) (a : α) (k' : κ) :
    lookup (insert m k a) k' = if k' = k then some a else lookup m k' := by
  simp only [insert, lookup, lookup_erase]
  by_cases h : k = k'
  · subst h; simp
  · have : ¬ k' = k := fun e => h e.symm
    simp [h, this]

def keys (m : List (κ × α)) : List κ := m.map (·.1)

theorem lookup_eq_none_of_not_mem (m : List (κ × α)) (k : κ) (h : k ∉ keys m) : lookup m k = none := by
  induction m with
  | nil => rfl
  | cons x xs ih =>
    obtain ⟨kx, ax⟩ := x
    simp only [keys, List.map_cons, List.mem_cons, not_or] at h
    have : ¬ kx = k := fun e => h.1 e.symm
    simp only [lookup, this, if_false]
    exact ih h.2

theorem mem_of_lookup (m : List (κ × α)) (k : κ) (a : α) (h : lookup m k = some a) : (k, a) ∈ m := by
  induction m with
  | nil => simp at h
  | cons x xs ih =>
    obtain ⟨kx, ax⟩ := x
    simp only [lookup] at h
    by_cases e : kx = k
    · subst e
      simp only [if_true, Option.some.injEq] at h
      subst h
      exact List.mem_cons_self
    · simp only [e, if_false] at h
      exact List.mem_cons_of_mem _ (ih h)

theorem lookup_of_mem (m : List (κ × α)) (k : κ) (a : α) (hn : (keys m).Nodup) (h : (k, a) ∈ m) :
    lookup m k = some a := by
  induction m with
  | nil => simp at h
  | cons x xs ih =>
    obtain ⟨kx, ax⟩ := x
    simp only [keys, List.map_cons, List.nodup_cons] at hn
    simp only [List.mem_cons, Prod.mk.injEq] at h
    rcases h with ⟨e1, e2⟩ | h
    · subst e1 e2; simp [lookup]
    · have hk : k ∈ keys xs := List.mem_map.mpr ⟨(k, a), h, rfl⟩
      have : ¬ kx = k := fun e => hn.1 (e ▸ hk)
      simp only [lookup, this, if_false]
      exact ih hn.2 h

theorem keys_erase_sublist (m : List (κ × α)) (k : κ) : (keys (erase m k)).Sublist (keys m) := by
  simp only [keys, erase]
  exact List.Sublist.map _ List.filter_sublist

theorem nodup_keys_erase (m : List (κ × α)) (k : κ) (h : (keys m).Nodup) : (keys (erase m k)).Nodup :=
  List.Nodup.sublist (keys_erase_sublist m k) h

theorem not_mem_keys_erase (m : List (κ × α)) (k : κ) : k ∉ keys (erase m k) := by
  simp only [keys, erase, List.mem_map, List.mem_filter]
  rintro ⟨x, ⟨_, hx⟩, rfl⟩
  simp at hx

theorem nodup_keys_insert (m : List (κ × α)) (k : κ) (a : α) (h : (keys m).Nodup) :
    (keys (insert m k a)).Nodup := by
  simp only [insert, keys, List.map_cons, List.nodup_cons]
  exact ⟨not_mem_keys_erase m k, nodup_keys_erase m k h⟩

end maps

/-- what the state knows about one metric: its registry entry and its `Recency` entry -/
abbrev View := Option Metric × Option (Nat × Nat)

def view (s : St) (i : Id) : View := (lookup s.metrics i, lookup s.entries (slotOf s.cfg i.1 i.2))

theorem lookup_of_view_eq {s s' : St} {i : Id} (h : view s i = view s' i) : lookup s.metrics i = lookup s'.metrics i :=
  congrArg Prod.fst h

/-- `should_store` as a function of the view of the metric it is asked about -/
def stepView (cfg : Cfg) (k : Kind) (now : Nat) (v : View) (g : Nat) : View :=
  match cfg.timeout with
  | none => v
  | some timeout =>
    if maskMatches cfg.mask k then
      match v.2 with
      | some (lastGen, lastUpdate) =>
        if lastGen = g then
          if timeout < now - lastUpdate then
            if v.1.isSome then (none, none) else v
          else v
        else (v.1, some (g, now))
      | none => (v.1, some (g, now))
    else v

theorem shouldStore_cases (s : St) (k : Kind) (key : Key) (g : Nat) :
    (shouldStore s k key g = (s, true)) ∨
    (∃ T lu, s.cfg.timeout = some T ∧ maskMatches s.cfg.mask k = true ∧
        lookup s.entries (slotOf s.cfg k key) = some (g, lu) ∧ T < s.now - lu ∧
        (lookup s.metrics (k, key)).isSome = true ∧
        shouldStore s k key g = ({ s with metrics := erase s.metrics (k, key),
                                          entries := erase s.entries (slotOf s.cfg k key) }, false)) ∨
    (shouldStore s k key g = ({ s with entries := insert s.entries (slotOf s.cfg k key) (g, s.now) }, true)) := by
  fun_cases shouldStore s k key g
  · exact .inl rfl
  · next T hT hm lu ht hd he => exact .inr (.inl ⟨T, lu, hT, hm, he, ht, hd, rfl⟩)
  · exact .inl rfl
  · exact .inl rfl
  · exact .inr (.inr rfl)
  · exact .inr (.inr rfl)
  · exact .inl rfl

theorem shouldStore_cfg (s : St) (k : Kind) (key : Key) (g : Nat) : (shouldStore s k key g).1.cfg = s.cfg := by
  rcases shouldStore_cases s k key g with h | ⟨_, _, _, _, _, _, _, h⟩ | h <;> rw [h]

theorem shouldStore_now (s : St) (k : Kind) (key : Key) (g : Nat) : (shouldStore s k key g).1.now = s.now := by
  rcases shouldStore_cases s k key g with h | ⟨_, _, _, _, _, _, _, h⟩ | h <;> rw [h]

@[simp] theorem visit_cfg (s : St) (e : Id × Metric) : (visit s e).cfg = s.cfg := shouldStore_cfg ..
@[simp] theorem visit_now (s : St) (e : Id × Metric) : (visit s e).now = s.now := shouldStore_now ..

theorem slotOf_inj (cfg : Cfg) (h : cfg.byKind = true) (i j : Id) :
    slotOf cfg i.1 i.2 = slotOf cfg j.1 j.2 ↔ i = j := by
  obtain ⟨ik, ikey⟩ := i
  obtain ⟨jk, jkey⟩ := j
  simp [slotOf, h]

theorem view_visit_self (s : St) (i : Id) (m : Metric) :
    view (visit s (i, m)) i = stepView s.cfg i.1 s.now (view s i) m.gen := by
  obtain ⟨k, key⟩ := i
  unfold visit
  fun_cases shouldStore s k key m.gen
  · next hT => simp [view, stepView, hT]
  · next T hT hm lu ht hd he =>
    have hd : (lookup s.metrics (k, key)).isSome = true := hd
    simp [view, stepView, hT, hm, he, ht, hd, lookup_erase, deleteMetric]
  · next T hT hm lu ht hd he =>
    have hd : ¬ (lookup s.metrics (k, key)).isSome = true := hd
    simp [view, stepView, hT, hm, he, ht, hd]
  · next T hT hm lu ht he => simp [view, stepView, hT, hm, he, ht]
  · next T hT hm lg lu he hg => simp [view, stepView, hT, hm, he, hg, lookup_insert]
  · next T hT hm he => simp [view, stepView, hT, hm, he, lookup_insert]
  · next T hT hm => simp [view, stepView, hT, hm]

/-- `should_store` leaves the view of every other metric alone: this is where the per-kind slots of the repaired code
    are needed -/
theorem view_visit_other (s : St) (hk : s.cfg.byKind = true) (e : Id × Metric) (j : Id) (h : j ≠ e.1) :
    view (visit s e) j = view s j := by
  obtain ⟨⟨k, key⟩, m⟩ := e
  have hs : slotOf s.cfg j.1 j.2 ≠ slotOf s.cfg k key := fun e => h ((slotOf_inj s.cfg hk j (k, key)).mp e)
  have hj : j ≠ (k, key) := h
  simp only [view, visit]
  rcases shouldStore_cases s k key m.gen with h | ⟨_, _, _, _, _, _, _, h⟩ | h <;> rw [h] <;>
    simp [lookup_erase, lookup_insert, hs, hj]

/-- the registry has unique keys (it is a hash map) -/
def KeysNodup (s : St) : Prop := (keys s.metrics).Nodup

theorem nodup_visit (s : St) (e : Id × Metric) (h : KeysNodup s) : KeysNodup (visit s e) := by
  unfold KeysNodup visit at *
  rcases shouldStore_cases s e.1.1 e.1.2 e.2.gen with h' | ⟨_, _, _, _, _, _, _, h'⟩ | h' <;> rw [h']
  · exact h
  · exact nodup_keys_erase _ _ h
  · exact h

theorem foldl_visit_cfg (l : List (Id × Metric)) (s : St) : (l.foldl visit s).cfg = s.cfg :=
  List.foldlRecOn l visit (motive := (·.cfg = s.cfg)) rfl fun _ h e _ => (visit_cfg _ e).trans h

theorem foldl_visit_now (l : List (Id × Metric)) (s : St) : (l.foldl visit s).now = s.now :=
  List.foldlRecOn l visit (motive := (·.now = s.now)) rfl fun _ h e _ => (visit_now _ e).trans h

theorem nodup_foldl_visit (l : List (Id × Metric)) (s : St) (h : KeysNodup s) : KeysNodup (l.foldl visit s) :=
  List.foldlRecOn l visit h fun s h e _ => nodup_visit s e h

theorem view_foldl_not_mem (l : List (Id × Metric)) (s : St) (hk : s.cfg.byKind = true) (j : Id)
    (h : j ∉ keys l) : view (l.foldl visit s) j = view s j := by
  induction l generalizing s with
  | nil => rfl
  | cons e es ih =>
    simp only [keys, List.map_cons, List.mem_cons, not_or] at h
    simp only [List.foldl_cons]
    rw [ih (visit s e) (by simpa using hk) h.2, view_visit_other s hk e j h.1]

theorem view_foldl_mem (l : List (Id × Metric)) (s : St) (hk : s.cfg.byKind = true) (hn : (keys l).Nodup)
    (i : Id) (m : Metric) (h : (i, m) ∈ l) :
    view (l.foldl visit s) i = stepView s.cfg i.1 s.now (view s i) m.gen := by
  induction l generalizing s with
  | nil => simp at h
  | cons e es ih =>
    simp only [keys, List.map_cons, List.nodup_cons] at hn
    simp only [List.foldl_cons]
    rcases List.mem_cons.mp h with rfl | h'
    · rw [view_foldl_not_mem es _ (by simpa using hk) i hn.1, view_visit_self]
    · have hne : i ≠ e.1 := by
        intro e'
        apply hn.1
        rw [← e']
        exact List.mem_map.mpr ⟨(i, m), h', rfl⟩
      rw [ih (visit s e) (by simpa using hk) hn.2 h', view_visit_other s hk e i hne]
      simp

theorem observeKind_cfg (s : St) (k : Kind) : (observeKind s k).cfg = s.cfg := foldl_visit_cfg ..
theorem observeKind_now (s : St) (k : Kind) : (observeKind s k).now = s.now := foldl_visit_now ..
theorem nodup_observeKind (s : St) (k : Kind) (h : KeysNodup s) : KeysNodup (observeKind s k) :=
  nodup_foldl_visit _ _ h

theorem observe_cfg (s : St) : (observe s).cfg = s.cfg := by simp [observe, observeKind_cfg]
theorem observe_now (s : St) : (observe s).now = s.now := by simp [observe, observeKind_now]
theorem nodup_observe (s : St) (h : KeysNodup s) : KeysNodup (observe s) :=
  nodup_observeKind _ _ (nodup_observeKind _ _ (nodup_observeKind _ _ h))

theorem mem_handles (s : St) (k : Kind) (e : Id × Metric) : e ∈ handles s k ↔ e ∈ s.metrics ∧ e.1.1 = k := by
  simp [handles, List.mem_filter]

theorem nodup_handles (s : St) (k : Kind) (h : KeysNodup s) : (keys (handles s k)).Nodup := by
  unfold KeysNodup keys handles at *
  exact List.Nodup.sublist (List.Sublist.map _ List.filter_sublist) h

theorem view_observeKind_other (s : St) (hk : s.cfg.byKind = true) (k : Kind) (i : Id) (h : i.1 ≠ k) :
    view (observeKind s k) i = view s i := by
  apply view_foldl_not_mem _ _ hk
  intro hm
  obtain ⟨e, he, rfl⟩ := List.mem_map.mp hm
  exact h ((mem_handles s k e).mp he).2

/-- what one observation does to a metric, as a function of its view -/
def obsView (cfg : Cfg) (k : Kind) (now : Nat) (v : View) : View :=
  match v.1 with
  | some m => stepView cfg k now v m.gen
  | none => v

theorem view_observeKind_self (s : St) (hk : s.cfg.byKind = true) (hn : KeysNodup s) (i : Id) :
    view (observeKind s i.1) i = obsView s.cfg i.1 s.now (view s i) := by
  unfold obsView
  cases hm : lookup s.metrics i with
  | none =>
    have : (view s i).1 = none := hm
    simp only [this]
    apply view_foldl_not_mem _ _ hk
    intro hmem
    obtain ⟨e, he, rfl⟩ := List.mem_map.mp hmem
    have := lookup_of_mem s.metrics e.1 e.2 hn ((mem_handles s _ e).mp he).1
    rw [hm] at this
    cases this
  | some m =>
    have : (view s i).1 = some m := hm
    simp only [this]
    apply view_foldl_mem _ _ hk (nodup_handles s _ hn) i m
    exact (mem_handles s _ (i, m)).mpr ⟨mem_of_lookup _ _ _ hm, rfl⟩

theorem view_observeKind (s : St) (hk : s.cfg.byKind = true) (hn : KeysNodup s) (k : Kind) (i : Id) :
    view (observeKind s k) i = if i.1 = k then obsView s.cfg i.1 s.now (view s i) else view s i := by
  split
  · next h => subst h; exact view_observeKind_self s hk hn i
  · next h => exact view_observeKind_other s hk k i h

/-- **locality**: one observation acts on every metric through that metric's own view only -/
theorem view_observe (s : St) (hk : s.cfg.byKind = true) (hn : KeysNodup s) (i : Id) :
    view (observe s) i = obsView s.cfg i.1 s.now (view s i) := by
  have c1 := observeKind_cfg s .counter
  have c2 := observeKind_cfg (observeKind s .counter) .gauge
  have n1 := observeKind_now s .counter
  have n2 := observeKind_now (observeKind s .counter) .gauge
  have d1 := nodup_observeKind s .counter hn
  unfold observe
  rw [view_observeKind _ (by rw [c2, c1]; exact hk) (nodup_observeKind _ .gauge d1),
      view_observeKind _ (by rw [c1]; exact hk) d1, view_observeKind s hk hn, c2, c1, n2, n1]
  -- exactly one of the three loops is the one of the metric's kind
  obtain ⟨k, key⟩ := i
  cases k <;> rfl

/-- the metric a `reg` / `upd` operation is aimed at -/
def Op.target : Op → Option Id
  | .reg k key => some (k, key)
  | .upd k key _ => some (k, key)
  | _ => none

def fresh (k : Kind) : Metric := ⟨0, Val.zero k⟩

/-- what an operation does to one metric's view -/
def opView (cfg : Cfg) (i : Id) (now : Nat) (v : View) : Op → View
  | .reg k key => if (k, key) = i then (some (v.1.getD (fresh i.1)), v.2) else v
  | .upd k key u =>
    if (k, key) = i then (some ⟨(v.1.getD (fresh i.1)).gen + 1, (v.1.getD (fresh i.1)).val.apply u⟩, v.2) else v
  | .adv _ => v
  | .observe => obsView cfg i.1 now v

/-- well-formed states: per-kind slots (the repaired code) and unique registry keys -/
def WF (s : St) : Prop := s.cfg.byKind = true ∧ KeysNodup s

theorem step_cfg (s : St) (op : Op) : (step s op).cfg = s.cfg := by
  cases op <;> simp [step, observe_cfg]

theorem step_now (s : St) (op : Op) : (step s op).now = (match op with | .adv n => s.now + n | _ => s.now) := by
  cases op <;> simp [step, observe_now]

theorem wf_step (s : St) (op : Op) (h : WF s) : WF (step s op) := by
  refine ⟨by rw [step_cfg]; exact h.1, ?_⟩
  cases op with
  | reg k key => exact nodup_keys_insert _ _ _ h.2
  | upd k key u => exact nodup_keys_insert _ _ _ h.2
  | adv n => exact h.2
  | observe => exact nodup_observe s h.2

theorem wf_init (cfg : Cfg) (h : cfg.byKind = true) : WF (init cfg) := by
  refine ⟨h, ?_⟩
  simp [KeysNodup, init, keys]

theorem wf_run (s : St) (ops : List Op) (h : WF s) : WF (run s ops) :=
  List.foldlRecOn ops step h fun s h op _ => wf_step s op h

theorem run_cfg (s : St) (ops : List Op) : (run s ops).cfg = s.cfg :=
  List.foldlRecOn ops step (motive := (·.cfg = s.cfg)) rfl fun _ h op _ => (step_cfg _ op).trans h

theorem run_append (s : St) (a b : List Op) : run s (a ++ b) = run (run s a) b := by
  simp [run, List.foldl_append]

/-- **every operation acts on a metric through that metric's view only** -/
theorem view_step (s : St) (h : WF s) (op : Op) (i : Id) :
    view (step s op) i = opView s.cfg i s.now (view s i) op := by
  cases op with
  | reg k key | upd k key u =>
    simp only [view, step, opView, getOrCreate, lookup_insert, fresh]
    by_cases e : (k, key) = i
    · subst e; simp
    · have : ¬ i = (k, key) := fun x => e x.symm
      simp [e, this]
  | adv n => rfl
  | observe => exact view_observe s h.1 h.2 i

/-- the idle timeout applies to the metric's kind -/
def Covered (cfg : Cfg) (k : Kind) (T : Nat) : Prop := cfg.timeout = some T ∧ maskMatches cfg.mask k = true

theorem obsView_no_timeout (cfg : Cfg) (k : Kind) (now : Nat) (v : View) (h : cfg.timeout = none) :
    obsView cfg k now v = v := by
  unfold obsView stepView; cases v.1 <;> simp [h]

theorem obsView_outside_mask (cfg : Cfg) (k : Kind) (now : Nat) (v : View) (h : maskMatches cfg.mask k = false) :
    obsView cfg k now v = v := by
  unfold obsView stepView; cases v.1 <;> cases cfg.timeout <;> simp [h]

theorem obsView_unregistered (cfg : Cfg) (k : Kind) (now : Nat) (e : Option (Nat × Nat)) :
    obsView cfg k now (none, e) = (none, e) := rfl

theorem obsView_first (cfg : Cfg) (k : Kind) (now T : Nat) (m : Metric) (h : Covered cfg k T) :
    obsView cfg k now (some m, none) = (some m, some (m.gen, now)) := by
  simp [obsView, stepView, h.1, h.2]

theorem obsView_changed (cfg : Cfg) (k : Kind) (now T : Nat) (m : Metric) (lg lu : Nat) (h : Covered cfg k T)
    (hg : lg ≠ m.gen) : obsView cfg k now (some m, some (lg, lu)) = (some m, some (m.gen, now)) := by
  simp [obsView, stepView, h.1, h.2, hg]

theorem obsView_expired (cfg : Cfg) (k : Kind) (now T : Nat) (m : Metric) (lu : Nat) (h : Covered cfg k T)
    (ht : T < now - lu) : obsView cfg k now (some m, some (m.gen, lu)) = (none, none) := by
  simp [obsView, stepView, h.1, h.2, ht]

theorem obsView_idle (cfg : Cfg) (k : Kind) (now T : Nat) (m : Metric) (lu : Nat) (h : Covered cfg k T)
    (ht : ¬ T < now - lu) : obsView cfg k now (some m, some (m.gen, lu)) = (some m, some (m.gen, lu)) := by
  simp [obsView, stepView, h.1, h.2, ht]

theorem obsView_cases (cfg : Cfg) (k : Kind) (now : Nat) (m : Metric) (e : Option (Nat × Nat)) :
    (obsView cfg k now (some m, e) = (some m, e) ∧
        (cfg.timeout = none ∨ maskMatches cfg.mask k = false ∨
          ∃ T lu, Covered cfg k T ∧ e = some (m.gen, lu) ∧ ¬ T < now - lu)) ∨
    (obsView cfg k now (some m, e) = (some m, some (m.gen, now)) ∧
        ∃ T, Covered cfg k T ∧ (e = none ∨ ∃ lg lu, e = some (lg, lu) ∧ lg ≠ m.gen)) ∨
    (obsView cfg k now (some m, e) = (none, none) ∧
        ∃ T lu, Covered cfg k T ∧ e = some (m.gen, lu) ∧ T < now - lu) := by
  cases h1 : cfg.timeout with
  | none => exact Or.inl ⟨obsView_no_timeout _ _ _ _ h1, Or.inl rfl⟩
  | some T =>
    cases h2 : maskMatches cfg.mask k with
    | false => exact Or.inl ⟨obsView_outside_mask _ _ _ _ h2, Or.inr (Or.inl rfl)⟩
    | true =>
      have hc : Covered cfg k T := ⟨h1, h2⟩
      cases e with
      | none => exact Or.inr (Or.inl ⟨obsView_first _ _ _ _ _ hc, T, hc, Or.inl rfl⟩)
      | some e =>
        obtain ⟨lg, lu⟩ := e
        by_cases hg : lg = m.gen
        · subst hg
          by_cases ht : T < now - lu
          · exact Or.inr (Or.inr ⟨obsView_expired _ _ _ _ _ _ hc ht, T, lu, hc, rfl, ht⟩)
          · exact Or.inl ⟨obsView_idle _ _ _ _ _ _ hc ht, Or.inr (Or.inr ⟨T, lu, hc, rfl, ht⟩)⟩
        · exact Or.inr (Or.inl ⟨obsView_changed _ _ _ _ _ _ _ hc hg, T, hc, Or.inr ⟨lg, lu, rfl, hg⟩⟩)

theorem obsView_keeps_or_expires (cfg : Cfg) (k : Kind) (now : Nat) (v : View) :
    (obsView cfg k now v).1 = v.1 ∨
      (obsView cfg k now v = (none, none) ∧
        ∃ m T lu, v = (some m, some (m.gen, lu)) ∧ Covered cfg k T ∧ T < now - lu) := by
  obtain ⟨vm, ve⟩ := v
  cases vm with
  | none => exact .inl rfl
  | some m =>
    rcases obsView_cases cfg k now m ve with ⟨ho, _⟩ | ⟨ho, _⟩ | ⟨ho, T, lu, hc, he, ht⟩
    · exact .inl (by rw [ho])
    · exact .inl (by rw [ho])
    · exact .inr ⟨ho, m, T, lu, he ▸ rfl, hc, ht⟩

/-- what an extended operation does to one metric's view: an outside delete / clear removes the metric and leaves
    the `Recency` entry where it is; a second observer's `should_store_*` acts on the view as `stepView` with
    the generation it was given -/
def xopView (cfg : Cfg) (i : Id) (now : Nat) (v : View) : XOp → View
  | .base op => opView cfg i now v op
  | .del k key => if (k, key) = i then (none, v.2) else v
  | .clear => (none, v.2)
  | .stale k key g => if (k, key) = i then stepView cfg i.1 now v g else v

theorem xstep_cfg (s : St) (x : XOp) : (xstep s x).cfg = s.cfg := by
  cases x <;> simp [xstep, step_cfg, shouldStore_cfg]

theorem xstep_now (s : St) (x : XOp) :
    (xstep s x).now = (match x with | .base (.adv n) => s.now + n | _ => s.now) := by
  cases x with
  | base op => cases op <;> simp [xstep, step_now]
  | del k key => rfl
  | clear => rfl
  | stale k key g => simp [xstep, shouldStore_now]

theorem stale_eq_visit (s : St) (k : Kind) (key : Key) (g : Nat) :
    (shouldStore s k key g).1 = visit s ((k, key), ⟨g, Val.zero k⟩) := rfl

theorem wf_xstep (s : St) (x : XOp) (h : WF s) : WF (xstep s x) := by
  refine ⟨by rw [xstep_cfg]; exact h.1, ?_⟩
  cases x with
  | base op => exact (wf_step s op h).2
  | del k key => exact nodup_keys_erase _ _ h.2
  | clear => simp [xstep, KeysNodup, keys]
  | stale k key g =>
    show KeysNodup (shouldStore s k key g).1
    rw [stale_eq_visit]; exact nodup_visit s _ h.2

theorem wf_xrun (s : St) (xs : List XOp) (h : WF s) : WF (xrun s xs) :=
  List.foldlRecOn xs xstep h fun s h x _ => wf_xstep s x h

theorem xrun_cfg (s : St) (xs : List XOp) : (xrun s xs).cfg = s.cfg :=
  List.foldlRecOn xs xstep (motive := (·.cfg = s.cfg)) rfl fun _ h x _ => (xstep_cfg _ x).trans h

theorem xrun_append (s : St) (a b : List XOp) : xrun s (a ++ b) = xrun (xrun s a) b := by
  simp [xrun, List.foldl_append]

/-- **every extended operation acts on a metric through that metric's view only** -/
theorem view_xstep (s : St) (h : WF s) (x : XOp) (i : Id) :
    view (xstep s x) i = xopView s.cfg i s.now (view s i) x := by
  cases x with
  | base op => exact view_step s h op i
  | del k key =>
    simp only [view, xstep, xopView, deleteMetric, lookup_erase]
    by_cases e : (k, key) = i
    · subst e; simp
    · have : ¬ i = (k, key) := fun x => e x.symm
      simp [e, this]
  | clear => simp [view, xstep, xopView]
  | stale k key g =>
    show view (shouldStore s k key g).1 i = _
    rw [stale_eq_visit]
    by_cases e : (k, key) = i
    · subst e
      simp only [xopView, if_true]
      exact view_visit_self s (k, key) ⟨g, Val.zero k⟩
    · simp only [xopView, e, if_false]
      exact view_visit_other s h.1 _ i (fun x => e x.symm)

/-- `xopView` with the clock carried along: a metric's view and the clock are all that its fate depends on -/
def xopTrack (cfg : Cfg) (i : Id) (p : View × Nat) (x : XOp) : View × Nat :=
  (xopView cfg i p.2 p.1 x, match x with | .base (.adv n) => p.2 + n | _ => p.2)

/-- **locality along a history**: a metric's view and the clock after an extended history are a fold over it -/
theorem track_xrun (s : St) (h : WF s) (xs : List XOp) (i : Id) :
    (view (xrun s xs) i, (xrun s xs).now) = xs.foldl (xopTrack s.cfg i) (view s i, s.now) := by
  induction xs generalizing s with
  | nil => rfl
  | cons x xs ih =>
    show (view (xrun (xstep s x) xs) i, (xrun (xstep s x) xs).now) = _
    rw [ih _ (wf_xstep s x h), xstep_cfg, view_xstep s h, xstep_now]
    rfl

theorem run_eq_xrun (s : St) (ops : List Op) : run s ops = xrun s (ops.map .base) :=
  (List.foldl_map (f := XOp.base) (g := xstep)).symm

theorem strip_append (a b : List XOp) : strip (a ++ b) = strip a ++ strip b := by
  induction a with
  | nil => rfl
  | cons x xs ih => cases x <;> simp [strip, ih]

theorem mem_strip (op : Op) (xs : List XOp) : op ∈ strip xs ↔ XOp.base op ∈ xs := by
  induction xs with
  | nil => simp [strip]
  | cons x xs ih => cases x <;> simp [strip, ih]

end MetricsVerif.Recency
