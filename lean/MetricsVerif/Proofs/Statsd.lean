/-
The DogStatsD payload writer (`Model/Statsd.lean`) against a description of its output that does not mention the
buffer.  `InvB` ties `buf` / `offsets` to the list of committed payload bodies plus the uncommitted tail;
`scalarPayloads` and `histPayloads` (greedy packing, `chunkLoop`) say what one call emits whatever happened before;
`commit`, `writeScalar`, `histLoop`, `writeHist` and `payloads` step from invariant to invariant and emit exactly that.
-/
import MetricsVerif.Model.Statsd

namespace MetricsVerif.Statsd

/-- one payload as it is handed to the socket: preceded by its little-endian length in length-prefixed mode -/
def frame (lp : Bool) (p : Bytes) : Bytes := (if lp then le32 p.length else []) ++ p

/-- the byte stream of a list of payloads -/
def frames (lp : Bool) (ps : List Bytes) : Bytes := ps.flatMap (frame lp)

/-- the end offsets of the framed payloads, the first one starting at `s` -/
def offsetsFrom (lp : Bool) : Nat → List Bytes → List Nat
  | _, [] => []
  | s, p :: ps => (s + hdrLen lp + p.length) :: offsetsFrom lp (s + hdrLen lp + p.length) ps

@[simp] theorem le32_length (n : Nat) : (le32 n).length = 4 := rfl

@[simp] theorem placeholder_length (lp : Bool) : (placeholder lp).length = hdrLen lp := by
  cases lp <;> rfl

@[simp] theorem frame_length (lp : Bool) (p : Bytes) : (frame lp p).length = hdrLen lp + p.length := by
  cases lp <;> simp [frame, hdrLen]

@[simp] theorem frames_nil (lp : Bool) : frames lp [] = [] := rfl

theorem frames_cons (lp : Bool) (p : Bytes) (ps : List Bytes) : frames lp (p :: ps) = frame lp p ++ frames lp ps := by
  simp [frames]

theorem frames_append (lp : Bool) (ps qs : List Bytes) : frames lp (ps ++ qs) = frames lp ps ++ frames lp qs := by
  simp [frames]

theorem frames_concat (lp : Bool) (ps : List Bytes) (p : Bytes) : frames lp (ps ++ [p]) = frames lp ps ++ frame lp p := by
  simp [frames]

theorem offsetsFrom_concat (lp : Bool) (ps : List Bytes) (p : Bytes) : ∀ s,
    offsetsFrom lp s (ps ++ [p]) = offsetsFrom lp s ps ++ [s + (frames lp ps).length + hdrLen lp + p.length] := by
  induction ps with
  | nil => intro s; simp [offsetsFrom]
  | cons q qs ih =>
    intro s
    have e : s + hdrLen lp + q.length + (frames lp qs).length + hdrLen lp + p.length
        = s + (frames lp (q :: qs)).length + hdrLen lp + p.length := by
      simp only [frames_cons, List.length_append, frame_length]; omega
    simp only [List.cons_append, offsetsFrom, ih, e]

theorem offsetsFrom_last (lp : Bool) (ps : List Bytes) : ∀ s,
    (offsetsFrom lp s ps).getLast?.getD s = s + (frames lp ps).length := by
  induction ps with
  | nil => intro s; simp [offsetsFrom]
  | cons q qs ih =>
    intro s
    simp only [offsetsFrom, List.getLast?_cons, Option.getD_some, ih, frames_cons, List.length_append,
      frame_length]
    omega

/-- `next_payload` walks the offsets and cuts the framed payloads out of the buffer -/
theorem drainGo_frames (lp : Bool) (ps : List Bytes) : ∀ (pre rest : Bytes),
    drainGo (pre ++ frames lp ps ++ rest) pre.length (offsetsFrom lp pre.length ps) = ps.map (frame lp) := by
  induction ps with
  | nil => intro pre rest; simp [offsetsFrom, drainGo]
  | cons p ps ih =>
    intro pre rest
    have hlen : (pre ++ frame lp p).length = pre.length + hdrLen lp + p.length := by
      simp only [List.length_append, frame_length]; omega
    have hbuf : pre ++ frames lp (p :: ps) ++ rest = (pre ++ frame lp p) ++ frames lp ps ++ rest := by
      simp [frames_cons, List.append_assoc]
    simp only [offsetsFrom, drainGo, List.map_cons]
    rw [hbuf, ← hlen, ih (pre ++ frame lp p) rest]
    congr 1
    rw [List.append_assoc (pre ++ frame lp p), List.take_left' rfl, List.drop_left' rfl]

/-- `w` (with fixed configuration `max`, `lp`, all repairs present) holds the committed payload bodies `ps`,
    each within the limit, followed by the placeholder of the next payload and the uncommitted bytes `body`. -/
structure InvB (max : Nat) (lp : Bool) (w : Writer) (ps : List Bytes) (body : Bytes) : Prop where
  hmax : w.max = max
  hlp : w.lp = lp
  hfx : w.fx = Fixes.all
  max32 : max < 4294967296
  buf : w.buf = frames lp ps ++ placeholder lp ++ body
  offs : w.offsets = offsetsFrom lp 0 ps
  bounded : ∀ p ∈ ps, p.length ≤ max

theorem new_inv {max : Nat} {lp : Bool} {w : Writer} (h : new max lp Fixes.all = some w) :
    InvB max lp w [] [] := by
  unfold new at h
  split at h
  · rename_i hm
    cases h
    exact ⟨rfl, rfl, rfl, hm, by simp [prepareForWrite], rfl, by simp⟩
  · cases h

theorem InvB.append {max lp w ps body} (h : InvB max lp w ps body) (x : Bytes) :
    InvB max lp { w with buf := w.buf ++ x } ps (body ++ x) :=
  ⟨h.hmax, h.hlp, h.hfx, h.max32, by simp [h.buf, List.append_assoc], h.offs, h.bounded⟩

theorem InvB.lastOffset {max lp w ps body} (h : InvB max lp w ps body) :
    lastOffset w = (frames lp ps).length := by
  unfold Statsd.lastOffset
  rw [h.offs]
  simpa using offsetsFrom_last lp ps 0

theorem InvB.currentLen {max lp w ps body} (h : InvB max lp w ps body) :
    currentLen w = some body.length := by
  unfold Statsd.currentLen
  rw [h.lastOffset, h.hlp, h.buf]
  simp only [List.length_append, placeholder_length]
  rw [if_pos (by omega)]
  congr 1
  omega

theorem setSlice_mid (a x y c : Bytes) (h : y.length = x.length) : setSlice (a ++ x ++ c) a.length y = a ++ y ++ c := by
  unfold setSlice
  rw [List.append_assoc a x c, List.take_left' rfl, h, ← List.length_append, ← List.append_assoc a x c,
    List.drop_left' rfl]

/-- **commit**: the uncommitted bytes become one more payload exactly when they fit, otherwise they are removed
    and nothing else changes.  Never panics. -/
theorem commit_spec {max lp w ps body} (h : InvB max lp w ps body) :
    ∃ w', commit w = some (w', decide (body.length ≤ max))
      ∧ InvB max lp w' (if body.length ≤ max then ps ++ [body] else ps) [] := by
  have hm := h.hmax; subst hm
  have hl := h.hlp; subst hl
  unfold commit
  rw [h.currentLen]
  by_cases hfit : body.length ≤ w.max
  · have hoffs : w.offsets ++ [w.buf.length] = offsetsFrom w.lp 0 (ps ++ [body]) := by
      rw [offsetsFrom_concat, h.offs, h.buf]
      simp only [List.length_append, placeholder_length]
      congr 2
      omega
    have hb : ∀ p ∈ ps ++ [body], p.length ≤ w.max := by
      intro p hp
      rcases List.mem_append.mp hp with hp | hp
      · exact h.bounded p hp
      · cases List.mem_singleton.mp hp; exact hfit
    -- whatever puts the new payload's frame behind the old ones, the next placeholder follows it
    have key : ∀ b, b = frames w.lp (ps ++ [body]) → InvB w.max w.lp
        (prepareForWrite { w with offsets := w.offsets ++ [w.buf.length], buf := b }) (ps ++ [body]) [] := by
      rintro _ rfl
      exact ⟨rfl, rfl, h.hfx, h.max32, by simp [prepareForWrite], hoffs, hb⟩
    simp only [Nat.not_lt.mpr hfit, if_false, hfit, decide_true, if_true, h.lastOffset]
    rcases Bool.eq_false_or_eq_true w.lp with hw | hw
    · -- the placeholder is overwritten by the length
      simp only [if_pos hw, Nat.lt_of_le_of_lt hfit h.max32]
      refine ⟨_, rfl, key _ ?_⟩
      rw [h.buf, frames_concat, hw]
      exact (setSlice_mid _ (placeholder true) (le32 body.length) _ rfl).trans (List.append_assoc ..)
    · simp only [if_neg (Bool.eq_false_iff.mp hw)]
      refine ⟨_, rfl, key _ ?_⟩
      rw [h.buf, frames_concat, hw]
      exact List.append_assoc ..
  · simp only [Nat.not_le.mp hfit, if_true, hfit, decide_false, if_false]
    refine ⟨_, rfl, rfl, rfl, h.hfx, h.max32, ?_, h.offs, h.bounded⟩
    simp only [h.hfx, Fixes.all, if_true, h.lastOffset]
    rw [h.buf, List.append_nil]
    exact List.take_left' (by simp)

/-- one message: `name[:value]…|type<trailer>` -/
def renderMsg (nm : Bytes) (ty : UInt8) (tr : Bytes) (chunk : List Bytes) : Bytes :=
  nm ++ chunk.flatMap (58 :: ·) ++ 124 :: ty :: tr

/-- bytes the values of a chunk take, each with its leading `:` -/
def valSize (chunk : List Bytes) : Nat := (chunk.map (fun v => v.length + 1)).sum

@[simp] theorem valSize_nil : valSize [] = 0 := rfl
@[simp] theorem valSize_cons (v : Bytes) (vs : List Bytes) : valSize (v :: vs) = v.length + 1 + valSize vs := by
  simp [valSize]
theorem valSize_append (a b : List Bytes) : valSize (a ++ b) = valSize a + valSize b := by
  simp [valSize, List.sum_append]

theorem joinVals_length (chunk : List Bytes) : (chunk.flatMap (58 :: ·)).length = valSize chunk := by
  induction chunk with
  | nil => rfl
  | cons v vs ih => simp only [List.flatMap_cons, List.length_append, List.length_cons, ih, valSize_cons]

theorem renderMsg_length (nm : Bytes) (ty : UInt8) (tr : Bytes) (chunk : List Bytes) :
    (renderMsg nm ty tr chunk).length = nm.length + tr.length + 2 + valSize chunk := by
  simp only [renderMsg, List.length_append, List.length_cons, joinVals_length]; omega

/-- the trailer of a counter / gauge call (no sample rate) -/
def Call.scalarTrailer (c : Call) : Bytes := trailer c.labels c.globals c.ts none
/-- the trailer of a histogram / distribution call (no timestamp) -/
def Call.histTrailer (c : Call) : Bytes := trailer c.labels c.globals none c.rate
def Call.fullName (c : Call) : Bytes := Statsd.fullName c.pfx c.name

/-- a counter / gauge call emits its one message iff it fits -/
def scalarPayloads (max : Nat) (c : Call) (v : Bytes) : List Bytes :=
  if (renderMsg c.fullName c.ty c.scalarTrailer [v]).length ≤ max then [renderMsg c.fullName c.ty c.scalarTrailer [v]] else []

def scalarDropped (max : Nat) (c : Call) (v : Bytes) : Nat :=
  if (renderMsg c.fullName c.ty c.scalarTrailer [v]).length ≤ max then 0 else 1

/-- greedy packing: values that cannot fit even alone are dropped, a chunk is closed when the next value would
    exceed the limit.  Result: (closed chunks, open chunk, number dropped). -/
def chunkLoop (max minLen : Nat) : List Bytes → List Bytes → List (List Bytes) × List Bytes × Nat
  | cur, [] => ([], cur, 0)
  | cur, v :: vs =>
    if max < minLen + v.length + 1 then
      let r := chunkLoop max minLen cur vs; (r.1, r.2.1, r.2.2 + 1)
    else if max < minLen + valSize cur + v.length + 1 then
      let r := chunkLoop max minLen [v] vs; (cur :: r.1, r.2.1, r.2.2)
    else chunkLoop max minLen (cur ++ [v]) vs

/-- length of a message of this call without any value -/
def Call.minLen (c : Call) : Nat := c.fullName.length + c.histTrailer.length + 2

/-- the chunks a histogram / distribution call is split into, and the number of dropped points -/
def histChunks (max : Nat) (c : Call) (vs : List Bytes) : List (List Bytes) × Nat :=
  if max < c.minLen + 2 then ([], vs.length)
  else
    let r := chunkLoop max c.minLen [] vs
    (r.1 ++ (if r.2.1 = [] then [] else [r.2.1]), r.2.2)

def histPayloads (max : Nat) (c : Call) (vs : List Bytes) : List Bytes :=
  (histChunks max c vs).1.map (renderMsg c.fullName c.ty c.histTrailer)

/-- a value can be sent at all -/
def fits (max minLen : Nat) (v : Bytes) : Bool := decide (minLen + v.length + 1 ≤ max)

/- The cases of `fun_induction chunkLoop`, in the order of its arms (here and in `histLoop_spec`):
     case1  no value left
     case2  `v` does not fit even alone: dropped, counted
     case3  `v` fits alone but not behind `cur`: `cur` is closed, `[v]` is the open chunk
     case4  `v` goes behind `cur` -/

/-- what `chunkLoop` computes: the closed chunks and the open one partition the kept values in order, the other
    values are counted, and every chunk is non-empty and, rendered, within the limit -/
theorem chunkLoop_spec (max minLen : Nat) (vs cur : List Bytes) (hc : cur ≠ [] → minLen + valSize cur ≤ max) :
    (chunkLoop max minLen cur vs).1.flatten ++ (chunkLoop max minLen cur vs).2.1 = cur ++ vs.filter (fits max minLen)
    ∧ (chunkLoop max minLen cur vs).2.2 + (vs.filter (fits max minLen)).length = vs.length
    ∧ (∀ c ∈ (chunkLoop max minLen cur vs).1, c ≠ [] ∧ minLen + valSize c ≤ max)
    ∧ ((chunkLoop max minLen cur vs).2.1 ≠ [] → minLen + valSize (chunkLoop max minLen cur vs).2.1 ≤ max) := by
  fun_induction chunkLoop max minLen cur vs with
  | case1 cur => exact ⟨by simp, rfl, by simp, hc⟩
  | case2 cur v vs h1 r ih =>
    obtain ⟨i1, i2, i3, i4⟩ := ih hc
    rw [List.filter_cons_of_neg (by simpa [fits] using h1)]
    exact ⟨i1, (Nat.add_right_comm ..).trans (congrArg (· + 1) i2), i3, i4⟩
  | case3 cur v vs h1 h2 r ih =>
    have hne : cur ≠ [] := by
      intro e; subst e; exact h1 h2
    obtain ⟨i1, i2, i3, i4⟩ := ih (fun _ => Nat.not_lt.mp h1)
    rw [List.filter_cons_of_pos (by simpa [fits] using h1)]
    refine ⟨(List.append_assoc cur _ _).trans (congrArg (cur ++ ·) i1), congrArg (· + 1) i2, ?_, i4⟩
    intro c hcm
    rcases List.mem_cons.mp hcm with rfl | hcm
    · exact ⟨hne, hc hne⟩
    · exact i3 c hcm
  | case4 cur v vs h1 h2 ih =>
    obtain ⟨i1, i2, i3, i4⟩ := ih (fun _ => by
      simp only [valSize_append, valSize_cons, valSize_nil, Nat.add_zero, ← Nat.add_assoc]; exact Nat.not_lt.mp h2)
    rw [List.filter_cons_of_pos (by simpa [fits] using h1)]
    exact ⟨i1.trans (List.append_assoc ..), congrArg (· + 1) i2, i3, i4⟩

theorem histChunks_mem {max : Nat} {c : Call} {vs : List Bytes} {ch : List Bytes} (h : ch ∈ (histChunks max c vs).1) :
    ch ≠ [] ∧ c.minLen + valSize ch ≤ max := by
  unfold histChunks at h
  split at h
  · cases h
  · obtain ⟨_, _, hcl, hop⟩ := chunkLoop_spec max c.minLen vs [] (fun h => absurd rfl h)
    rcases List.mem_append.mp h with h | h
    · exact hcl ch h
    · split at h
      · cases h
      · next hne => cases List.mem_singleton.mp h; exact ⟨hne, hop hne⟩

/-- **write_counter / write_gauge** -/
theorem writeScalar_spec {max lp w ps} (h : InvB max lp w ps []) (c : Call) (v : Bytes) :
    ∃ w', writeScalar w c v = some (w', (scalarPayloads max c v).length, scalarDropped max c v)
      ∧ InvB max lp w' (ps ++ scalarPayloads max c v) [] := by
  have hb := h.append (renderMsg c.fullName c.ty c.scalarTrailer [v])
  simp only [List.nil_append] at hb
  obtain ⟨w', hc, hi⟩ := commit_spec hb
  have hbuf : w.buf ++ (Statsd.fullName c.pfx c.name ++ 58 :: v ++ 124 :: c.ty :: trailer c.labels c.globals c.ts none)
      = w.buf ++ renderMsg c.fullName c.ty c.scalarTrailer [v] := by
    simp [renderMsg, Call.fullName, Call.scalarTrailer]
  unfold writeScalar scalarPayloads scalarDropped
  simp only [hbuf, hc]
  -- either way the counts and the payload list are read off what `commit` answered
  by_cases hfit : (renderMsg c.fullName c.ty c.scalarTrailer [v]).length ≤ max <;>
    simp only [hfit, decide_true, decide_false, if_true, if_false, List.length_singleton, List.length_nil,
      List.append_nil] at hi ⊢ <;>
    exact ⟨w', rfl, hi⟩

/-- the uncommitted text of a histogram in progress: nothing, or the name followed by the chunk's values -/
def openText (nm : Bytes) (cur : List Bytes) : Bytes := if cur = [] then [] else nm ++ cur.flatMap (58 :: ·)

theorem openText_nil (nm : Bytes) : openText nm [] = [] := rfl

theorem openText_length_zero (nm : Bytes) (cur : List Bytes) : (openText nm cur).length = 0 ↔ cur = [] := by
  cases cur <;> simp [openText]

theorem histFlush_spec {max lp w ps} (nm : Bytes) (ty : UInt8) (tr : Bytes) (cur : List Bytes)
    (h : InvB max lp w ps (openText nm cur)) (hne : cur ≠ [])
    (hfit : nm.length + tr.length + 2 + valSize cur ≤ max) :
    ∃ w', histFlush w ty tr = some w' ∧ InvB max lp w' (ps ++ [renderMsg nm ty tr cur]) [] := by
  have hb := h.append (124 :: ty :: tr)
  have e : openText nm cur ++ 124 :: ty :: tr = renderMsg nm ty tr cur := by
    simp only [openText, if_neg hne, renderMsg]
  rw [e] at hb
  obtain ⟨w', hc, hi⟩ := commit_spec hb
  have hl : (renderMsg nm ty tr cur).length ≤ max := by rw [renderMsg_length]; exact hfit
  simp only [hl, decide_true, if_true] at hc hi
  exact ⟨w', by simp only [histFlush, hc], hi⟩

/-- the loop invariant of `write_hist_dist_inner`: the writer holds the committed payloads `ps` and, uncommitted,
    the text of the open chunk `cur`; `needs_name` and the shadow length `cur` of the code describe that chunk -/
structure HistInv (max : Nat) (lp : Bool) (nm : Bytes) (minLen : Nat) (s : HSt) (ps : List Bytes) (cur : List Bytes) :
    Prop where
  inv : InvB max lp s.w ps (openText nm cur)
  name : s.needsName = cur.isEmpty
  len : s.cur = minLen + valSize cur
  fit : cur ≠ [] → minLen + valSize cur ≤ max

/-- a value joins the open chunk (the name is written first when the chunk was empty) -/
theorem HistInv.push {max lp nm minLen s ps cur} (h : HistInv max lp nm minLen s ps cur) (v : Bytes)
    (hfit : minLen + valSize cur + v.length + 1 ≤ max) :
    HistInv max lp nm minLen
      { s with w := { s.w with buf := (if s.needsName = true then s.w.buf ++ nm else s.w.buf) ++ 58 :: v },
               needsName := false, cur := s.cur + v.length + 1 } ps (cur ++ [v]) := by
  have hlen : minLen + valSize (cur ++ [v]) = minLen + valSize cur + v.length + 1 := by
    simp only [valSize_append, valSize_cons, valSize_nil, Nat.add_zero, ← Nat.add_assoc]
  refine ⟨?_, by simp, by rw [hlen, ← h.len], fun _ => by rw [hlen]; exact hfit⟩
  cases cur with
  | nil =>
    have hn : s.needsName = true := h.name
    simpa [hn, openText] using (h.inv.append nm).append (58 :: v)
  | cons c cs =>
    have hn : s.needsName = false := h.name
    simpa [hn, openText, List.append_assoc] using h.inv.append (58 :: v)

/-- **the value loop** of `write_hist_dist_inner` packs like `chunkLoop` and never panics -/
theorem histLoop_spec {max : Nat} {lp : Bool} (nm : Bytes) (ty : UInt8) (tr : Bytes) (minLen : Nat)
    (hmin : minLen = nm.length + tr.length + 2) (vs cur : List Bytes) : ∀ (s : HSt) (ps : List Bytes),
    HistInv max lp nm minLen s ps cur →
    ∃ s', histLoop minLen nm ty tr s vs = some s'
      ∧ InvB max lp s'.w (ps ++ (chunkLoop max minLen cur vs).1.map (renderMsg nm ty tr))
          (openText nm (chunkLoop max minLen cur vs).2.1)
      ∧ s'.written = s.written + (chunkLoop max minLen cur vs).1.length
      ∧ s'.dropped = s.dropped + (chunkLoop max minLen cur vs).2.2 := by
  fun_induction chunkLoop max minLen cur vs with
  | case1 cur => intro s ps h; exact ⟨s, rfl, by simpa using h.inv, rfl, rfl⟩
  | case2 cur v vs h1 r ih =>
    -- the value cannot fit even alone: dropped
    intro s ps h
    obtain ⟨s', hs, hi, hw, hd⟩ := ih { s with dropped := s.dropped + 1 } ps ⟨h.inv, h.name, h.len, h.fit⟩
    refine ⟨s', ?_, hi, hw, hd.trans (Nat.add_right_comm ..)⟩
    rw [histLoop, h.inv.hmax, if_pos h1]; exact hs
  | case3 cur v vs h1 h2 r ih =>
    -- the open chunk is closed first, the value starts the next one
    intro s ps h
    have hne : cur ≠ [] := by
      intro e; subst e; exact h1 h2
    obtain ⟨w', hf, hi'⟩ := histFlush_spec nm ty tr cur h.inv hne (by rw [← hmin]; exact h.fit hne)
    have h' : HistInv max lp nm minLen ⟨w', true, minLen, s.written + 1, s.dropped⟩ (ps ++ [renderMsg nm ty tr cur]) [] :=
      ⟨hi', rfl, rfl, fun h => absurd rfl h⟩
    obtain ⟨s', hs, hi, hw, hd⟩ := ih _ _ (h'.push v (Nat.not_lt.mp h1))
    refine ⟨s', ?_, by simpa [List.append_assoc] using hi, hw.trans (Nat.add_right_comm ..), hd⟩
    rw [histLoop, h.inv.hmax, if_neg h1, h.len, if_pos h2, hf]; exact hs
  | case4 cur v vs h1 h2 ih =>
    -- the value joins the open chunk
    intro s ps h
    obtain ⟨s', hs, hi, hw, hd⟩ := ih _ _ (h.push v (Nat.not_lt.mp h2))
    refine ⟨s', ?_, hi, hw, hd⟩
    rw [histLoop, h.inv.hmax, if_neg h1, h.len, if_neg h2]; exact hs

/-- **write_histogram / write_distribution** -/
theorem writeHist_spec {max lp w ps} (h : InvB max lp w ps []) (c : Call) (vs : List Bytes) :
    ∃ w', writeHist w c vs = some (w', (histPayloads max c vs).length, (histChunks max c vs).2)
      ∧ InvB max lp w' (ps ++ histPayloads max c vs) [] := by
  have hfa : w.fx.a = true := by rw [h.hfx]; rfl
  have hml : (Statsd.fullName c.pfx c.name).length + (trailer c.labels c.globals none c.rate).length + 2 = c.minLen := rfl
  unfold writeHist histPayloads histChunks
  simp only [hfa, if_true, h.hmax, hml]
  by_cases h0 : max < c.minLen + 2
  · simp only [h0, if_true]
    exact ⟨w, by simp, by simpa using h⟩
  · simp only [h0, if_false]
    obtain ⟨s', hs, hi, hw, hd⟩ := histLoop_spec (max := max) (lp := lp) c.fullName c.ty c.histTrailer c.minLen rfl vs []
      ⟨w, true, c.minLen, 0, 0⟩ ps ⟨h, rfl, rfl, fun h => absurd rfl h⟩
    have hbd := (chunkLoop_spec max c.minLen vs [] (fun h => absurd rfl h)).2.2.2
    simp only [Call.fullName, Call.histTrailer] at hs
    simp only [hs]
    rw [hi.currentLen]
    cases hcur : (chunkLoop max c.minLen [] vs).2.1 with
    | nil =>
      simp only [hcur, openText_nil, if_true, List.length_nil, List.append_nil, List.length_map] at hi ⊢
      exact ⟨s'.w, by simp [hw, hd], hi⟩
    | cons x xs =>
      rw [hcur] at hi hbd
      obtain ⟨n, hn⟩ := Nat.exists_eq_succ_of_ne_zero
        (mt (openText_length_zero c.fullName (x :: xs)).mp (List.cons_ne_nil x xs))
      simp only [hn]
      obtain ⟨w', hf, hi'⟩ := histFlush_spec c.fullName c.ty c.histTrailer (x :: xs) hi (List.cons_ne_nil x xs)
        (hbd (List.cons_ne_nil x xs))
      simp only [Call.histTrailer] at hf
      simp only [hf, Option.map_some]
      exact ⟨w', by simp [hw, hd], by simpa [List.append_assoc, Call.histTrailer] using hi'⟩

/-- **payloads()**: one drain hands out the framed payloads in order and leaves a fresh writer -/
theorem payloads_spec {max lp w ps} (h : InvB max lp w ps []) :
    (payloads w).2 = ps.map (frame lp) ∧ InvB max lp (payloads w).1 [] [] := by
  constructor
  · have := drainGo_frames lp ps [] (placeholder lp)
    simp only [payloads, h.buf, h.offs, List.append_nil]
    simpa using this
  · refine ⟨h.hmax, h.hlp, h.hfx, h.max32, ?_, rfl, by simp⟩
    simp [payloads, h.hfx, Fixes.all, h.hlp]

end MetricsVerif.Statsd
