/-
For C01 (`Model/LocalRec.lean`): the guard table and the per-thread stack of live guards under `markDead`; one op
described once as a relation `Eff` (`step_eff`); what holds for all programs (`Base`) and, on top of it, the chain of
saved recorders that the LIFO discipline keeps (`Inv`, `step_inv`); what entering and leaving a closure frame do.
-/
import MetricsVerif.Model.LocalRec

namespace MetricsVerif.LocalRec

/-- `l` is the recorder of the top guard, every guard saved the recorder of the guard below it, the bottom
    guard saved "nothing installed" -/
def Chain : Option RecId → List Guard → Prop
  | l, [] => l = none
  | l, g :: rest => l = some g.rcd ∧ Chain g.prev rest

def key (x : Guard) : Tid × GuardId := (x.tid, x.id)

structure Wf (s : St) : Prop where
  nodup : (s.guards.map key).Nodup
  lt : ∀ x ∈ s.guards, x.id < s.next x.tid

/-- no guard value that still exists borrows a recorder whose borrow ended (what `endBorrow` checks) -/
def NoLiveEnded (s : St) : Prop := ∀ x ∈ s.guards, x.live = true → s.ended.contains x.rcd = false

def LogFresh (s : St) : Prop := ∀ e ∈ s.log, e.stale = false

structure Inv (s : St) : Prop where
  wf : Wf s
  chain : ∀ t, Chain (s.loc t) (liveGuards s t)
  nle : NoLiveEnded s
  fresh : LogFresh s

theorem chain_loc {l : Option RecId} {gs : List Guard} (h : Chain l gs) : l = gs.head?.map Guard.rcd := by
  cases gs with
  | nil => exact h
  | cons g rest => exact h.1

theorem kill_frame (t : Tid) (g : GuardId) (f : Bool) (x : Guard) :
    key (kill t g f x) = key x ∧ (kill t g f x).rcd = x.rcd ∧ ((kill t g f x).live = true → x.live = true) := by
  unfold kill; split
  · exact ⟨rfl, rfl, nofun⟩
  · exact ⟨rfl, rfl, id⟩

theorem map_key_markDead (gs : List Guard) (t : Tid) (g : GuardId) (f : Bool) :
    (markDead gs t g f).map key = gs.map key := by
  unfold markDead
  rw [List.map_map]
  exact List.map_congr_left fun x _ => (kill_frame t g f x).1

theorem isG_iff (t : Tid) (g : GuardId) (x : Guard) : isG t g x = true ↔ x.tid = t ∧ x.id = g := by
  unfold isG; simp

theorem isLiveOf_iff (t : Tid) (x : Guard) : isLiveOf t x = true ↔ x.tid = t ∧ x.live = true := by
  unfold isLiveOf; simp

theorem filter_markDead (gs : List Guard) (t t' : Tid) (g : GuardId) (f : Bool) :
    (markDead gs t g f).filter (isLiveOf t') = (gs.filter (isLiveOf t')).filter (fun x => !isG t g x) := by
  induction gs with
  | nil => rfl
  | cons x xs ih =>
    show (kill t g f x :: markDead xs t g f).filter (isLiveOf t') = _
    cases hg : isG t g x
    · have hk : kill t g f x = x := if_neg (Bool.eq_false_iff.mp hg)
      cases hl : isLiveOf t' x <;> simp [hk, hl, hg, ih]
    · have hk : isLiveOf t' (kill t g f x) = false := by simp [kill, hg, isLiveOf]
      cases hl : isLiveOf t' x <;> simp [hk, hl, hg, ih]

theorem filter_markDead_other (gs : List Guard) (t t' : Tid) (g : GuardId) (f : Bool) (h : t' ≠ t) :
    (markDead gs t g f).filter (isLiveOf t') = gs.filter (isLiveOf t') := by
  rw [filter_markDead]
  refine List.filter_eq_self.mpr fun x hx => ?_
  have hx := ((isLiveOf_iff t' x).1 (List.mem_filter.1 hx).2).1
  rw [Bool.not_eq_true', ← Bool.not_eq_true, isG_iff]
  exact fun e => h (hx.symm.trans e.1)

theorem filter_markDead_top (gs : List Guard) (t : Tid) (g : GuardId) (f : Bool)
    (hn : (gs.map key).Nodup) (htop : (gs.filter (isLiveOf t)).head?.map Guard.id = some g) :
    (markDead gs t g f).filter (isLiveOf t) = (gs.filter (isLiveOf t)).tail := by
  rw [filter_markDead]
  have hn' : ((gs.filter (isLiveOf t)).map key).Nodup := hn.sublist (List.filter_sublist.map key)
  have hall : ∀ y ∈ gs.filter (isLiveOf t), y.tid = t := fun y hy =>
    ((isLiveOf_iff t y).1 (List.mem_filter.1 hy).2).1
  cases hl : gs.filter (isLiveOf t) with
  | nil => rw [hl] at htop; cases htop
  | cons hd tl =>
    rw [hl] at htop hn' hall
    have hid : hd.id = g := Option.some.inj htop
    rw [List.filter_cons, (isG_iff t g hd).2 ⟨hall hd (.head _), hid⟩]
    refine List.filter_eq_self.mpr fun y hy => ?_
    -- a second guard of `t` with id `g` in the stack would repeat the key of `hd`
    rw [Bool.not_eq_true', ← Bool.not_eq_true, isG_iff]
    exact fun e => (List.nodup_cons.mp hn').1 (List.mem_map.mpr ⟨y, hy, by
      rw [key, key, e.1, e.2, hall hd (.head _), hid]⟩)

theorem findLive_top (gs : List Guard) (t : Tid) (g : GuardId) (h : Guard)
    (hh : (gs.filter (isLiveOf t)).head? = some h) (hid : h.id = g) : findLive gs t g = some h := by
  have e : findLive gs t g = (gs.filter (isLiveOf t)).find? (·.id == g) := by
    rw [List.find?_filter, findLive]
    congr; funext x
    unfold isLiveG isG isLiveOf
    cases x.live <;> cases (x.tid == t) <;> cases (x.id == g) <;> rfl
  cases hl : gs.filter (isLiveOf t) with
  | nil => rw [hl] at hh; cases hh
  | cons hd tl =>
    rw [hl] at hh
    cases hh
    rw [e, hl]
    exact List.find?_cons_of_pos (beq_iff_eq.mpr hid)

theorem findLive_some {gs : List Guard} {t : Tid} {g : GuardId} {x : Guard} (h : findLive gs t g = some x) :
    x ∈ gs ∧ x.tid = t ∧ x.id = g ∧ x.live = true := by
  unfold findLive at h
  have hm := List.mem_of_find?_eq_some h
  have hp := List.find?_some h
  simp [isLiveG, isG] at hp
  exact ⟨hm, hp.1.1, hp.1.2, hp.2⟩

theorem upd_same {α : Type} (f : Tid → α) (t : Tid) (v : α) : upd f t v t = v := if_pos rfl

theorem upd_other {α : Type} (f : Tid → α) (t t' : Tid) (v : α) (h : t' ≠ t) : upd f t v t' = f t' := if_neg h

/-- the effect of one op, with its answer, under the conditions that select the op's arm of `step` -/
inductive Eff (s : St) (t : Tid) : Op → St → Out → Prop
  | rejected (op : Op) : Eff s t op s .rejected
  | install (r : RecId) : s.ended.contains r = false → Eff s t (.install r) (install s t r).1 (.guard (install s t r).2)
  | enter (r : RecId) : s.ended.contains r = false →
      Eff s t (.enter r) { (install s t r).1 with scopes := upd (install s t r).1.scopes t ((install s t r).2 :: s.scopes t) }
        (.guard (install s t r).2)
  | drop (g : GuardId) (x : Guard) : findLive s.guards t g = some x → Eff s t (.dropGuard g) (dropG s t x) .ok
  | forget (g : GuardId) (x : Guard) : findLive s.guards t g = some x →
      Eff s t (.forget g) { s with guards := markDead s.guards t x.id true } .ok
  | endBorrow (r : RecId) : borrowed s r = false → s.ended.contains r = false →
      Eff s t (.endBorrow r) { s with ended := r :: s.ended } .ok
  | exit (p : Bool) (g : GuardId) (rest : List GuardId) (x : Guard) : s.scopes t = g :: rest →
      findLive s.guards t g = some x → Eff s t (.exit p) (dropG { s with scopes := upd s.scopes t rest } t x) .ok
  | emit (c : Call) :
      Eff s t (.emit c) { s with log := s.log ++ [⟨t, dispatch s t, isStale s (dispatch s t), c⟩] }
        (.emitted ⟨t, dispatch s t, isStale s (dispatch s t), c⟩)
  | setGlobal (r : RecId) : s.global = none → Eff s t (.setGlobal r) { s with global := some r } .ok
  | globalTaken (r : RecId) : Eff s t (.setGlobal r) s .err

theorem step_eff (s : St) (t : Tid) (op : Op) : ∃ s' out, step s t op = (s', out) ∧ Eff s t op s' out := by
  refine ⟨(step s t op).1, (step s t op).2, rfl, ?_⟩
  unfold step
  cases op with
  | install r =>
    dsimp only
    split
    · exact .rejected _
    · rename_i hr; exact .install r (Bool.eq_false_iff.mpr hr)
  | dropGuard g =>
    dsimp only
    split
    · exact .rejected _
    · split
      · rename_i x hx; exact .drop g x hx
      · exact .rejected _
  | forget g =>
    dsimp only
    split
    · exact .rejected _
    · split
      · rename_i x hx; exact .forget g x hx
      · exact .rejected _
  | endBorrow r =>
    dsimp only
    split
    · exact .rejected _
    · rename_i hc
      rw [Bool.or_eq_true, not_or] at hc
      exact .endBorrow r (Bool.eq_false_iff.mpr hc.1) (Bool.eq_false_iff.mpr hc.2)
  | enter r =>
    dsimp only
    split
    · exact .rejected _
    · rename_i hr; exact .enter r (Bool.eq_false_iff.mpr hr)
  | exit p =>
    dsimp only
    split
    · exact .rejected _
    · rename_i g rest hs
      split
      · rename_i x hx; exact .exit p g rest x hs hx
      · exact .rejected _
  | emit c => exact .emit c
  | setGlobal r =>
    dsimp only
    split
    · rename_i hg; exact .setGlobal r hg
    · exact .globalTaken r
  | keepRef => exact .rejected _
  | dupGuard g => exact .rejected _

/-- the part of the invariant that holds for ALL programs (no discipline) -/
structure Base (s : St) : Prop where
  wf : Wf s
  nle : NoLiveEnded s

theorem Inv.base {s : St} (h : Inv s) : Base s := ⟨h.wf, h.nle⟩

def newGuard (s : St) (t : Tid) (r : RecId) : Guard :=
  { tid := t, id := s.next t, rcd := r, prev := s.loc t, live := true, forgotten := false }

theorem install_guards (s : St) (t : Tid) (r : RecId) : (install s t r).1.guards = newGuard s t r :: s.guards := rfl

theorem base_frame (s s' : St) (h : Base s) (hg : s'.guards = s.guards) (hn : s'.next = s.next)
    (he : s'.ended = s.ended) : Base s' :=
  ⟨⟨hg ▸ h.wf.nodup, fun x hx => hn ▸ h.wf.lt x (hg ▸ hx)⟩, fun x hx hl => he ▸ h.nle x (hg ▸ hx) hl⟩

/-- the new guard takes the thread's counter as its id, which no guard of the thread has yet -/
theorem base_install (s : St) (t : Tid) (r : RecId) (h : Base s) (hr : s.ended.contains r = false) :
    Base (install s t r).1 := by
  refine ⟨⟨List.nodup_cons.mpr ⟨fun hm => ?_, h.wf.nodup⟩, fun x hx => ?_⟩, fun x hx hl => ?_⟩
  · obtain ⟨x, hx, hk⟩ := List.mem_map.1 hm
    have hlt := h.wf.lt x hx
    rw [show x.tid = t from congrArg Prod.fst hk, show x.id = s.next t from congrArg Prod.snd hk] at hlt
    exact Nat.lt_irrefl _ hlt
  · show x.id < upd s.next t (s.next t + 1) x.tid
    rcases List.mem_cons.mp hx with rfl | hx
    · exact (upd_same ..).symm ▸ Nat.lt_succ_self _
    · have := h.wf.lt x hx
      unfold upd; split
      · rename_i e; exact Nat.lt_succ_of_lt (e ▸ this)
      · exact this
  · rcases List.mem_cons.mp hx with rfl | hx
    · exact hr
    · exact h.nle x hx hl

theorem base_markDead (s s' : St) (t : Tid) (g : GuardId) (f : Bool) (h : Base s)
    (hg : s'.guards = markDead s.guards t g f) (hn : s'.next = s.next) (he : s'.ended = s.ended) : Base s' := by
  refine ⟨⟨?_, fun y hy => ?_⟩, fun y hy hl => ?_⟩
  · rw [hg, map_key_markDead]; exact h.wf.nodup
  all_goals
    rw [hg] at hy
    obtain ⟨y0, h0, rfl⟩ := List.mem_map.mp hy
    have k := kill_frame t g f y0
  · rw [hn, show (kill t g f y0).id = y0.id from congrArg Prod.snd k.1,
      show (kill t g f y0).tid = y0.tid from congrArg Prod.fst k.1]
    exact h.wf.lt y0 h0
  · rw [he, k.2.1]; exact h.nle y0 h0 (k.2.2 hl)

theorem base_step (s : St) (t : Tid) (op : Op) (h : Base s) : Base (step s t op).1 := by
  obtain ⟨s', out, hs, e⟩ := step_eff s t op
  rw [hs]
  cases e with
  | install r hr => exact base_install s t r h hr
  | enter r hr => exact base_frame _ _ (base_install s t r h hr) rfl rfl rfl
  | drop g x => exact base_markDead s _ t _ false h rfl rfl rfl
  | forget g x => exact base_markDead s _ t _ true h rfl rfl rfl
  | exit p g rest x => exact base_markDead s _ t _ false h rfl rfl rfl
  | endBorrow r hb hr =>
    refine ⟨⟨h.wf.nodup, h.wf.lt⟩, fun x hx hl => ?_⟩
    show (r :: s.ended).contains x.rcd = false
    -- a live guard of `r` would have made `r` borrowed
    have hne : (x.rcd == r) = false := Bool.eq_false_iff.mpr fun e =>
      Bool.eq_false_iff.mp hb (List.any_eq_true.mpr ⟨x, hx, by rw [borrowsRec, e, hl]; rfl⟩)
    rw [List.contains_cons, hne, h.nle x hx hl]; rfl
  | emit => exact base_frame s _ h rfl rfl rfl
  | setGlobal => exact base_frame s _ h rfl rfl rfl
  | _ => exact h

theorem run_cons (s : St) (o : Tid × Op) (ops : List (Tid × Op)) :
    run s (o :: ops) = run (step s o.1 o.2).1 ops := rfl

theorem run_append (s : St) (a b : List (Tid × Op)) : run s (a ++ b) = run (run s a) b :=
  List.foldl_append

theorem base_run (ops : List (Tid × Op)) : ∀ s, Base s → Base (run s ops) := by
  induction ops with
  | nil => intro s h; exact h
  | cons o rest ih => intro s h; exact ih _ (base_step s o.1 o.2 h)

theorem liveGuards_install_same (s : St) (t : Tid) (r : RecId) :
    liveGuards (install s t r).1 t = newGuard s t r :: liveGuards s t := by
  simp [liveGuards, install_guards, isLiveOf, newGuard]

theorem liveGuards_install_other (s : St) (t t' : Tid) (r : RecId) (h : t' ≠ t) :
    liveGuards (install s t r).1 t' = liveGuards s t' := by
  have : isLiveOf t' (newGuard s t r) = false := by
    simp [isLiveOf, newGuard]; intro e; exact absurd e.symm h
  simp [liveGuards, install_guards, this]

theorem inv_install (s : St) (t : Tid) (r : RecId) (h : Inv s) (hr : s.ended.contains r = false) :
    Inv (install s t r).1 := by
  have b := base_install s t r h.base hr
  refine ⟨b.wf, fun t' => ?_, b.nle, h.fresh⟩
  by_cases e : t' = t
  · subst e
    rw [liveGuards_install_same]
    exact ⟨upd_same _ _ _, h.chain t'⟩
  · rw [liveGuards_install_other s t t' r e]
    show Chain (upd s.loc t (some r) t') _
    rw [upd_other _ _ _ _ e]; exact h.chain t'

theorem inv_scopes (s : St) (sc : Tid → List GuardId) (h : Inv s) : Inv { s with scopes := sc } :=
  ⟨⟨h.wf.nodup, h.wf.lt⟩, h.chain, h.nle, h.fresh⟩

theorem inv_dropG (s : St) (t : Tid) (g : GuardId) (x : Guard) (h : Inv s)
    (htop : topLive s t = some g) (hx : findLive s.guards t g = some x) :
    Inv (dropG s t x) ∧ liveGuards (dropG s t x) t = (liveGuards s t).tail
      ∧ (dropG s t x).loc t = (liveGuards s t).tail.head?.map Guard.rcd := by
  have b := base_markDead s (dropG s t x) t x.id false h.base rfl rfl rfl
  have hc := h.chain t
  unfold topLive at htop
  cases hl : liveGuards s t with
  | nil => rw [hl] at htop; cases htop
  | cons hd tl =>
    rw [hl] at htop hc
    obtain rfl : hd = x :=
      Option.some.inj ((findLive_top s.guards t g hd (by rw [← liveGuards, hl]; rfl) (Option.some.inj htop)).symm.trans hx)
    have htail : liveGuards (dropG s t hd) t = tl :=
      (filter_markDead_top s.guards t hd.id false h.wf.nodup (by rw [← liveGuards, hl]; rfl)).trans (by rw [← liveGuards, hl]; rfl)
    have hloc : (dropG s t hd).loc t = hd.prev := upd_same _ _ _
    refine ⟨⟨b.wf, fun t' => ?_, b.nle, h.fresh⟩, htail, hloc.trans (chain_loc hc.2)⟩
    by_cases e : t' = t
    · subst e
      rw [htail, hloc]
      exact hc.2
    · show Chain (upd s.loc t hd.prev t') ((markDead s.guards t hd.id false).filter (isLiveOf t'))
      rw [upd_other _ _ _ _ e, filter_markDead_other _ _ _ _ _ e]
      exact h.chain t'

theorem opOk_exit {s : St} {t : Tid} {p : Bool} {g : GuardId} {rest : List GuardId}
    (hok : opOk s t (.exit p) = true) (hsc : s.scopes t = g :: rest) : topLive s t = some g := by
  have : topLive s t = (s.scopes t).head? := by simpa [opOk] using hok
  rw [this, hsc]; rfl

theorem enter_spec (s : St) (t : Tid) (r : RecId) (h : Inv s) (hr : s.ended.contains r = false) :
    ∃ s', (step s t (.enter r)).1 = s' ∧ Inv s' ∧ liveGuards s' t = newGuard s t r :: liveGuards s t
      ∧ s'.scopes t = s.next t :: s.scopes t ∧ s'.ended = s.ended :=
  ⟨{ (install s t r).1 with scopes := upd (install s t r).1.scopes t ((install s t r).2 :: s.scopes t) },
    by unfold step; simp only [hr]; rfl,
    inv_scopes _ _ (inv_install s t r h hr), liveGuards_install_same s t r, upd_same _ _ _, rfl⟩

theorem exit_spec (s : St) (t : Tid) (p : Bool) (x : Guard) (gs : List Guard) (sc : List GuardId) (h : Inv s)
    (hl : liveGuards s t = x :: gs) (hsc : s.scopes t = x.id :: sc) :
    opOk s t (.exit p) = true ∧ ∃ s', (step s t (.exit p)).1 = s' ∧ Inv s' ∧ liveGuards s' t = gs
      ∧ s'.scopes t = sc ∧ s'.ended = s.ended := by
  have htop : topLive s t = some x.id := by unfold topLive; rw [hl]; rfl
  have hfl : findLive s.guards t x.id = some x := findLive_top _ t _ x (by rw [← liveGuards, hl]; rfl) rfl
  have hd := inv_dropG { s with scopes := upd s.scopes t sc } t x.id x (inv_scopes s _ h) htop hfl
  refine ⟨?_, _, by unfold step; simp only [hsc, hfl], hd.1, hd.2.1.trans ?_, upd_same _ _ _, rfl⟩
  · show (topLive s t == (s.scopes t).head?) = true
    rw [htop, hsc]; exact beq_self_eq_true _
  · show (liveGuards s t).tail = gs
    rw [hl]; rfl

theorem dispatch_eq_innermost (s : St) (t : Tid) (h : Inv s) : dispatch s t = innermost s t := by
  have hc := h.chain t
  unfold dispatch innermost
  cases hl : liveGuards s t with
  | nil => rw [hl] at hc; rw [hc]
  | cons g rest => rw [hl] at hc; rw [hc.1]

theorem innermost_fresh (s : St) (t : Tid) (h : Inv s) : isStale s (innermost s t) = false := by
  unfold innermost
  cases hl : liveGuards s t with
  | nil =>
    simp only [fallback]
    cases s.global <;> rfl
  | cons g rest =>
    have hm : g ∈ liveGuards s t := by rw [hl]; exact List.mem_cons_self
    have := List.mem_filter.1 hm
    exact h.nle g this.1 ((isLiveOf_iff t g).1 this.2).2

theorem dispatch_fresh (s : St) (t : Tid) (h : Inv s) : isStale s (dispatch s t) = false :=
  dispatch_eq_innermost s t h ▸ innermost_fresh s t h

theorem step_emit (s : St) (t : Tid) (c : Call) (h : Inv s) :
    step s t (.emit c) = ({ s with log := s.log ++ [⟨t, innermost s t, false, c⟩] }, .emitted ⟨t, innermost s t, false, c⟩) := by
  have e : step s t (.emit c)
      = ({ s with log := s.log ++ [⟨t, dispatch s t, isStale s (dispatch s t), c⟩] },
         .emitted ⟨t, dispatch s t, isStale s (dispatch s t), c⟩) := rfl
  rw [e, dispatch_fresh s t h, dispatch_eq_innermost s t h]

theorem step_inv (s : St) (t : Tid) (op : Op) (h : Inv s) (hok : opOk s t op = true) : Inv (step s t op).1 := by
  obtain ⟨s', out, hs, e⟩ := step_eff s t op
  rw [hs]
  cases e with
  | install r hr => exact inv_install s t r h hr
  | enter r hr => exact inv_scopes _ _ (inv_install s t r h hr)
  | drop g x hx => exact (inv_dropG s t g x h (by simpa [opOk] using hok) hx).1
  | forget => cases hok
  | exit p g rest x hsc hx =>
    exact (inv_dropG { s with scopes := upd s.scopes t rest } t g x (inv_scopes s _ h) (opOk_exit hok hsc :) hx).1
  | endBorrow r hb hr =>
    have b := base_step s t (.endBorrow r) h.base
    rw [hs] at b
    exact ⟨b.wf, h.chain, b.nle, h.fresh⟩
  | emit c =>
    refine ⟨⟨h.wf.nodup, h.wf.lt⟩, h.chain, h.nle, fun e he => ?_⟩
    rcases List.mem_append.mp he with he | he
    · exact h.fresh e he
    · rw [List.mem_singleton.mp he]
      exact dispatch_fresh s t h
  | setGlobal => exact ⟨⟨h.wf.nodup, h.wf.lt⟩, h.chain, h.nle, h.fresh⟩
  | _ => exact h

theorem init_inv (g : Option RecId) : Inv (init g) :=
  ⟨⟨List.nodup_nil, fun _ hx => (nomatch hx)⟩, fun _ => rfl, fun _ hx => (nomatch hx), fun _ he => (nomatch he)⟩

theorem run_inv (ops : List (Tid × Op)) : ∀ s, Inv s → disc s ops = true → Inv (run s ops) := by
  induction ops with
  | nil => intro s h _; exact h
  | cons o rest ih =>
    intro s h hd
    simp only [disc, Bool.and_eq_true] at hd
    exact ih _ (step_inv s o.1 o.2 h hd.1) hd.2

theorem disc_append (a b : List (Tid × Op)) : ∀ s, disc s (a ++ b) = (disc s a && disc (run s a) b) := by
  induction a with
  | nil => intro s; simp [disc, run]
  | cons o rest ih =>
    intro s
    simp only [List.cons_append, disc, run_cons, ih, Bool.and_assoc]

end MetricsVerif.LocalRec
