/-
Absolute-only counters for C10: ONE updater thread (thread 0) calling `absolute` with non-decreasing values, racing ONE
flusher (thread 1), in every schedule that contains no step of the K-C10-abs-race window (`absRaceStep`,
Model/StatsdAgg.lean).

The flusher's accounting `FlRel b D last c` (deltas so far + the delta computed and not yet recorded + `b` = `last` ≤ `c`)
holds throughout, for a base `b` and a value `c` that only the updater's position decides (`UPhase`): `b = 0` and
`c = current = 0` until the mode-switching `absolute` stores `last`; `b` = the first value and `c = current` once it has
stored `current`; in between (`mid`: `last` = first value, `current = 0`) `c` is the value about to be stored, so the
flusher's steps keep the relation there too — except a load of `current`, which would read 0: that is exactly the
window step the hypothesis excludes.
-/
import MetricsVerif.Proofs.StatsdAgg

namespace MetricsVerif.StatsdAgg

/-- the calls are `absolute(v)` only, with values non-decreasing, starting at `lo` or above, all below 2^64 -/
def AbsNondec : Nat → List Call → Prop
  | _, [] => True
  | lo, .abs v :: r => lo ≤ v ∧ v < M ∧ AbsNondec v r
  | _, .inc _ :: _ => False
  | _, .flush :: _ => False

theorem AbsNondec.lower {calls : List Call} {lo lo' : Nat} (h : AbsNondec lo calls) (hl : lo' ≤ lo) :
    AbsNondec lo' calls := by
  cases calls with
  | nil => trivial
  | cons c r =>
    cases c with
    | abs v => exact ⟨Nat.le_trans hl h.1, h.2.1, h.2.2⟩
    | inc n => exact h.elim
    | flush => exact h.elim

theorem AbsNondec.tail_of {calls : List Call} {lo : Nat} (h : AbsNondec lo calls) : AbsNondec lo calls.tail := by
  cases calls with
  | nil => trivial
  | cons c r =>
    cases c with
    | abs v => exact h.2.2.lower h.1
    | inc n => exact h.elim
    | flush => exact h.elim

def AllFlush (calls : List Call) : Prop := ∀ c ∈ calls, c = Call.flush

def isUpdPC : PC → Bool
  | .start | .aSwapAbs | .aStoreLast | .aStoreCurrent | .aAddUpdates | .done => true
  | _ => false

def isFlPC : PC → Bool
  | .start | .fLoadCurrent | .fSwapLast | .fSwapUpdates | .done => true
  | _ => false

def firstVal : List Call → Nat
  | .abs v :: _ => v
  | _ => 0

def Dall (s : Sys) : Nat := (s.outcomes.map (·.1)).sum

theorem startPC_abs {lo : Nat} {calls : List Call} (h : AbsNondec lo calls) :
    (calls = [] ∧ startPC calls = .done) ∨ (∃ v r, calls = .abs v :: r ∧ startPC calls = .aSwapAbs) := by
  cases calls with
  | nil => exact Or.inl ⟨rfl, rfl⟩
  | cons c r =>
    cases c with
    | abs v => exact Or.inr ⟨v, r, rfl, rfl⟩
    | inc n => exact h.elim
    | flush => exact h.elim

theorem startPC_flush {calls : List Call} (h : AllFlush calls) :
    (calls = [] ∧ startPC calls = .done) ∨ startPC calls = .fLoadCurrent := by
  cases calls with
  | nil => exact Or.inl ⟨rfl, rfl⟩
  | cons c r =>
    have := h c (by simp)
    subst this
    exact Or.inr rfl

theorem AllFlush.tail_of {calls : List Call} (h : AllFlush calls) : AllFlush calls.tail :=
  fun c hc => h c (List.mem_of_mem_tail hc)

structure Sends (legacy idle : Bool) (outcomes : List (Nat × Bool)) : Prop where
  legacy_off : legacy = false
  idle_eq : idle = idleOf outcomes
  rule : Rule outcomes

structure UThread (tu : Thread) : Prop where
  upc : isUpdPC tu.pc = true
  uhead : isAbsPC tu.pc = true → ∃ v r, tu.calls = Call.abs v :: r
  udone : tu.pc = .done → tu.calls = []

structure FThread (tf : Thread) : Prop where
  fcalls : AllFlush tf.calls
  fpc : isFlPC tf.pc = true

def pending (tf : Thread) : Nat := if tf.pc = .fSwapUpdates then tf.tmpDelta else 0

/-- the accounting from the base value `b` on (`D` = sum of the deltas recorded): they, the pending one and `b` make
    up `last`, which never runs ahead of `cur` (`current`, or the value about to be stored there: `UPhase`); a value
    the flusher has loaded and not yet swapped in lies between the two; nothing wraps -/
structure FlRel (b D last cur : Nat) (tf : Thread) : Prop where
  sum : D + pending tf + b = last
  le : last ≤ cur
  lt : cur < M
  loaded : tf.pc = .fSwapLast → last ≤ tf.tmpC ∧ tf.tmpC ≤ cur

theorem FlRel.bounds {b D last cur : Nat} {tf : Thread} (h : FlRel b D last cur tf) : D ≤ cur ∧ cur < M :=
  ⟨Nat.le_trans (Nat.le_trans (Nat.le_add_right ..) (Nat.le_add_right ..)) (Nat.le_trans (Nat.le_of_eq h.sum) h.le), h.lt⟩

theorem FlRel.rest {b D last cur : Nat} {tf : Thread} (h : FlRel b D last cur tf) (hp : tf.pc ≠ .fSwapUpdates) :
    D + b = last := by
  have := h.sum; rwa [pending, if_neg hp, Nat.add_zero] at this

theorem FlRel.flat {b D last : Nat} {tf : Thread} (h : FlRel b D last b tf) : D = 0 ∧ pending tf = 0 ∧ last = b := by
  have hl : last = b := Nat.le_antisymm h.le (h.sum ▸ Nat.le_add_left ..)
  have hz : D + pending tf = 0 := Nat.add_right_cancel (m := b) (by rw [Nat.zero_add, h.sum, hl])
  exact ⟨(Nat.eq_zero_of_add_eq_zero hz).1, (Nat.eq_zero_of_add_eq_zero hz).2, hl⟩

theorem FlRel.repc {b D last cur : Nat} {tf tf' : Thread} (h : FlRel b D last cur tf) (hp : tf.pc ≠ .fSwapUpdates)
    (h1 : tf'.pc ≠ .fSwapLast) (h2 : tf'.pc ≠ .fSwapUpdates) : FlRel b D last cur tf' :=
  ⟨by rw [pending, if_neg h2, Nat.add_zero]; exact h.rest hp, h.le, h.lt, fun hp' => absurd hp' h1⟩

/-- `agg.cflush.load_current` -/
theorem FlRel.load {b D last cur : Nat} {tf tf' : Thread} (h : FlRel b D last cur tf) (hp : tf.pc = .fLoadCurrent)
    (hp' : tf'.pc = .fSwapLast) (hc : tf'.tmpC = cur) : FlRel b D last cur tf' :=
  ⟨by rw [pending, if_neg (by rw [hp']; decide), Nat.add_zero]; exact h.rest (by rw [hp]; decide), h.le, h.lt,
   fun _ => by rw [hc]; exact ⟨h.le, Nat.le_refl _⟩⟩

/-- `agg.cflush.swap_last` -/
theorem FlRel.swap {b D last cur : Nat} {tf tf' : Thread} (h : FlRel b D last cur tf) (hp : tf.pc = .fSwapLast)
    (hp' : tf'.pc = .fSwapUpdates) (hd : tf'.tmpDelta = (tf.tmpC + M - last) % M) : FlRel b D tf.tmpC cur tf' := by
  obtain ⟨a, c⟩ := h.loaded hp
  refine ⟨?_, c, h.lt, fun h' => by rw [hp'] at h'; cases h'⟩
  rw [pending, if_pos hp', hd, wrapping_sub_le a (Nat.lt_of_le_of_lt c h.lt), Nat.add_right_comm,
    h.rest (by rw [hp]; decide), Nat.add_sub_cancel' a]

/-- `agg.cflush.swap_updates` -/
theorem FlRel.record {b D last cur : Nat} {tf tf' : Thread} (h : FlRel b D last cur tf) (hp : tf.pc = .fSwapUpdates)
    (h1 : tf'.pc ≠ .fSwapLast) (h2 : tf'.pc ≠ .fSwapUpdates) : FlRel b (tf.tmpDelta + D) last cur tf' := by
  refine ⟨?_, h.le, h.lt, fun h' => absurd h' h1⟩
  have := h.sum
  rw [pending, if_pos hp] at this
  rw [pending, if_neg h2, Nat.add_zero, Nat.add_comm tf.tmpDelta]; exact this

/-- the updater before its `last` store -/
structure Pre (prog : List Call) (isAbs : Bool) (tu : Thread) : Prop where
  notyet : isAbs = false ∨ tu.pc = .aStoreLast
  atlast : tu.pc = .aStoreLast → isAbs = true
  calls : tu.calls = prog
  nd : AbsNondec 0 prog
  upc : tu.pc ≠ .aStoreCurrent ∧ tu.pc ≠ .aAddUpdates

/-- the updater between the `last` store and the `current` store of the mode-switching `absolute` -/
structure MidU (prog : List Call) (isAbs : Bool) (cur : Nat) (tu : Thread) : Prop where
  pc : tu.pc = .aStoreCurrent
  calls : tu.calls = prog
  nd : AbsNondec 0 prog
  isabs : isAbs = true
  cur : cur = 0

/-- the updater afterwards: the remaining values start at `current` or above -/
structure Post (isAbs : Bool) (cur : Nat) (tu : Thread) : Prop where
  isabs : isAbs = true
  upc : tu.pc ≠ .aStoreLast
  nd : AbsNondec cur tu.calls

/-- where the updater is, and with it the base `b` and the value `c` the flusher's accounting runs against -/
def UPhase (prog : List Call) (isAbs : Bool) (cur : Nat) (mid : Bool) (b c : Nat) (tu : Thread) : Prop :=
  (mid = false ∧ b = 0 ∧ c = cur ∧ cur = 0 ∧ Pre prog isAbs tu)
  ∨ (mid = true ∧ b = firstVal prog ∧ c = firstVal prog ∧ MidU prog isAbs cur tu)
  ∨ (mid = false ∧ b = firstVal prog ∧ c = cur ∧ Post isAbs cur tu)

theorem UPhase.cur_eq {prog isAbs cur mid b c tu} (h : UPhase prog isAbs cur mid b c tu) (hm : mid = false) : c = cur := by
  rcases h with ⟨_, _, h, _⟩ | ⟨hm', _⟩ | ⟨_, _, h, _⟩
  · exact h
  · rw [hm] at hm'; cases hm'
  · exact h

/-- `mid` is the ghost flag of `absRaceCount` -/
def AInv (prog : List Call) (s : Sys) (mid : Bool) : Prop :=
  ∃ tu tf b c, s.threads = [tu, tf] ∧ Sends s.legacy s.idle s.outcomes ∧ UThread tu ∧ FThread tf
    ∧ FlRel b (Dall s) s.last c tf ∧ UPhase prog s.isAbs s.current mid b c tu

theorem stepThread_threads (s : Sys) (t : Thread) : (stepThread s t).1.threads = s.threads := by
  unfold stepThread
  cases t.pc <;> simp only <;> (try split) <;> rfl

theorem step_zero {s : Sys} {tu tf : Thread} (h : s.threads = [tu, tf]) :
    step s 0 = { (stepThread s tu).1 with threads := [(stepThread s tu).2, tf] } := by
  unfold step
  simp only [h, List.getElem?_cons_zero]
  have := stepThread_threads s tu
  rw [this, h]
  rfl

theorem step_one {s : Sys} {tu tf : Thread} (h : s.threads = [tu, tf]) :
    step s 1 = { (stepThread s tf).1 with threads := [tu, (stepThread s tf).2] } := by
  unfold step
  simp only [h, List.getElem?_cons_succ, List.getElem?_cons_zero]
  have := stepThread_threads s tf
  rw [this, h]
  rfl

theorem step_other {s : Sys} {tu tf : Thread} (h : s.threads = [tu, tf]) (n : Nat) : step s (n + 2) = s := by
  unfold step
  simp [h]

theorem pcOf_zero {s : Sys} {tu tf : Thread} (h : s.threads = [tu, tf]) : pcOf s 0 = tu.pc := by simp [pcOf, h]
theorem pcOf_one {s : Sys} {tu tf : Thread} (h : s.threads = [tu, tf]) : pcOf s 1 = tf.pc := by simp [pcOf, h]
theorem pcOf_other {s : Sys} {tu tf : Thread} (h : s.threads = [tu, tf]) (n : Nat) : pcOf s (n + 2) = .done := by
  simp [pcOf, h]

theorem curArg_abs {t : Thread} {v : Nat} {r : List Call} (h : t.calls = .abs v :: r) : curArg t = v := by
  simp [curArg, h]

theorem isAbsPC_startPC {calls : List Call} (h : isAbsPC (startPC calls) = true) : ∃ v r, calls = Call.abs v :: r := by
  cases calls with
  | nil => cases h
  | cons c r => cases c with
    | abs v => exact ⟨v, r, rfl⟩
    | inc n => cases h
    | flush => cases h

theorem startPC_done {calls : List Call} (h : startPC calls = .done) : calls = [] := by
  cases calls with
  | nil => rfl
  | cons c r => cases c <;> cases h

theorem upd_startPC {lo : Nat} {calls : List Call} {t : Thread} (h : AbsNondec lo calls) (hc : t.calls = calls)
    (hp : t.pc = startPC calls) :
    UThread t ∧ t.pc ≠ .aStoreLast ∧ t.pc ≠ .aStoreCurrent ∧ t.pc ≠ .aAddUpdates := by
  refine ⟨⟨?_, fun h' => hc ▸ isAbsPC_startPC (hp ▸ h'), fun h' => hc ▸ startPC_done (hp ▸ h')⟩, ?_⟩ <;>
    rcases startPC_abs h with ⟨_, e⟩ | ⟨_, _, _, e⟩ <;> rw [hp, e] <;> simp [isUpdPC]

theorem fl_startPC {calls : List Call} {t : Thread} (h : AllFlush calls) (hc : t.calls = calls) (hp : t.pc = startPC calls) :
    FThread t ∧ t.pc ≠ .fSwapLast ∧ t.pc ≠ .fSwapUpdates := by
  refine ⟨⟨hc ▸ h, ?_⟩, ?_⟩ <;> rcases startPC_flush h with ⟨_, e⟩ | e <;> rw [hp, e] <;> simp [isFlPC]

theorem abs_step_upd (prog : List Call) (s : Sys) (mid : Bool) (h : AInv prog s mid)
    (hno : absRaceStep s mid 0 = false) : AInv prog (step s 0) (midAfter s mid 0) := by
  obtain ⟨tu, tf, b, c, hthr, hs, hu, hf, hfl, hup⟩ := h
  have hpc0 := pcOf_zero hthr
  rw [step_zero hthr]
  unfold midAfter absRaceStep at *
  rw [hpc0] at hno ⊢
  unfold stepThread
  cases hp : tu.pc with
  | start =>
    simp only
    rcases hup with ⟨hm, hb, hc, hz, h0⟩ | ⟨_, _, _, h1⟩ | ⟨hm, hb, hc, h2⟩
    · obtain ⟨u, u2, u3, u4⟩ := upd_startPC (t := { tu with pc := startPC tu.calls }) (h0.calls ▸ h0.nd) rfl rfl
      refine ⟨_, _, b, c, rfl, hs, u, hf, hfl,
        Or.inl ⟨hm, hb, hc, hz, ?_, fun h => absurd h u2, h0.calls, h0.nd, u3, u4⟩⟩
      exact h0.notyet.elim Or.inl (fun h => by rw [hp] at h; cases h)
    · rw [h1.pc] at hp; cases hp
    · obtain ⟨u, u2, _⟩ := upd_startPC (t := { tu with pc := startPC tu.calls }) h2.nd rfl rfl
      exact ⟨_, _, b, c, rfl, hs, u, hf, hfl, Or.inr (Or.inr ⟨hm, hb, hc, h2.isabs, u2, h2.nd⟩)⟩
  | done => simp only; exact ⟨_, _, b, c, rfl, hs, hu, hf, hfl, hup⟩
  | aSwapAbs =>
    simp only
    have hhead := hu.uhead (by rw [hp]; rfl)
    rcases hup with ⟨hm, hb, hc, hz, h0⟩ | ⟨_, _, _, h1⟩ | ⟨hm, hb, hc, h2⟩
    · have hia : s.isAbs = false := h0.notyet.elim id (fun h => by rw [hp] at h; cases h)
      simp only [hia, Bool.false_eq_true, if_false]
      exact ⟨_, _, b, c, rfl, hs, ⟨rfl, fun _ => hhead, nofun⟩, hf, hfl,
        Or.inl ⟨hm, hb, hc, hz, Or.inr rfl, fun _ => rfl, h0.calls, h0.nd, by simp, by simp⟩⟩
    · rw [h1.pc] at hp; cases hp
    · simp only [h2.isabs, if_true]
      exact ⟨_, _, b, c, rfl, hs, ⟨rfl, fun _ => hhead, nofun⟩, hf, hfl,
        Or.inr (Or.inr ⟨hm, hb, hc, rfl, by simp, h2.nd⟩)⟩
  | aStoreLast =>
    simp only
    simp only [hp] at hno
    obtain ⟨v, r, hcalls⟩ := hu.uhead (by rw [hp]; rfl)
    rcases hup with ⟨hm, hb, hc, hz, h0⟩ | ⟨_, _, _, h1⟩ | ⟨_, _, _, h2⟩
    · -- `last` becomes the first value `v`; from now on the accounting runs against `v`, not yet in `current`
      have hnd := h0.nd
      rw [← h0.calls, hcalls] at hnd
      have hfv : firstVal prog = v := by rw [← h0.calls, hcalls]; rfl
      have hfm : tf.pc ≠ .fSwapLast := by
        intro hf'; simp [flushMid, hthr, hf'] at hno
      rw [hb, hc, hz] at hfl
      obtain ⟨z1, z2, _⟩ := hfl.flat
      refine ⟨_, _, _, _, rfl, hs, ⟨rfl, fun _ => ⟨v, r, hcalls⟩, nofun⟩, hf, ?_,
        Or.inr (Or.inl ⟨rfl, rfl, rfl, rfl, h0.calls, h0.nd, h0.atlast hp, hz⟩)⟩
      show FlRel (firstVal prog) (Dall s) (curArg tu % M) (firstVal prog) tf
      rw [curArg_abs hcalls, Nat.mod_eq_of_lt hnd.2.1, hfv, z1]
      exact ⟨by rw [z2, Nat.zero_add], Nat.le_refl _, hnd.2.1, fun h => absurd h hfm⟩
    · rw [h1.pc] at hp; cases hp
    · exact absurd hp h2.upc
  | aStoreCurrent =>
    simp only
    obtain ⟨v, r, hcalls⟩ := hu.uhead (by rw [hp]; rfl)
    have hu' : UThread { tu with pc := .aAddUpdates } := ⟨rfl, fun _ => ⟨v, r, hcalls⟩, nofun⟩
    -- the value stored is `v` itself, and the remaining values start at `v`
    have post : ∀ {lo}, AbsNondec lo tu.calls → curArg tu % M = v ∧ lo ≤ v ∧ v < M ∧ Post true v { tu with pc := .aAddUpdates } := by
      intro lo hnd
      rw [hcalls] at hnd
      exact ⟨by rw [curArg_abs hcalls, Nat.mod_eq_of_lt hnd.2.1], hnd.1, hnd.2.1, rfl, by simp,
        by show AbsNondec v tu.calls; rw [hcalls]; exact ⟨Nat.le_refl _, hnd.2.1, hnd.2.2⟩⟩
    rcases hup with ⟨_, _, _, _, h0⟩ | ⟨hm, hb, hc, h1⟩ | ⟨hm, hb, hc, h2⟩
    · exact absurd hp h0.upc.1
    · -- the accounting already ran against the value stored now
      obtain ⟨hcur, _, _, hpost⟩ := post (h1.calls ▸ h1.nd)
      have hfv : firstVal prog = v := by rw [← h1.calls, hcalls]; rfl
      refine ⟨_, _, b, c, rfl, hs, hu', hf, hfl, Or.inr (Or.inr ⟨rfl, hb, ?_, ?_⟩)⟩
      · show c = curArg tu % M
        rw [hcur, hc, hfv]
      · show Post s.isAbs (curArg tu % M) _
        rw [hcur, h1.isabs]; exact hpost
    · obtain ⟨hcur, hle, hv, hpost⟩ := post h2.nd
      rw [hc] at hfl
      refine ⟨_, _, b, _, rfl, hs, hu', hf, ?_, Or.inr (Or.inr ⟨rfl, hb, rfl, ?_⟩)⟩
      · show FlRel b (Dall s) s.last (curArg tu % M) tf
        rw [hcur]
        exact ⟨hfl.sum, Nat.le_trans hfl.le hle, hv, fun h => ⟨(hfl.loaded h).1, Nat.le_trans (hfl.loaded h).2 hle⟩⟩
      · show Post s.isAbs (curArg tu % M) _
        rw [hcur, h2.isabs]; exact hpost
  | aAddUpdates =>
    simp only
    rcases hup with ⟨_, _, _, _, h0⟩ | ⟨_, _, _, h1⟩ | ⟨hm, hb, hc, h2⟩
    · exact absurd hp h0.upc.2
    · rw [h1.pc] at hp; cases hp
    · obtain ⟨u, u2, _⟩ := upd_startPC (t := tu.advance) h2.nd.tail_of rfl rfl
      exact ⟨_, _, b, c, rfl, hs, u, hf, hfl, Or.inr (Or.inr ⟨hm, hb, hc, h2.isabs, u2, h2.nd.tail_of⟩)⟩
  | _ => have := hu.upc; rw [hp] at this; cases this

theorem abs_step_fl (prog : List Call) (s : Sys) (mid : Bool) (h : AInv prog s mid)
    (hno : absRaceStep s mid 1 = false) : AInv prog (step s 1) (midAfter s mid 1) := by
  obtain ⟨tu, tf, b, c, hthr, hs, hu, hf, hfl, hup⟩ := h
  have hpc1 := pcOf_one hthr
  rw [step_one hthr]
  unfold midAfter absRaceStep at *
  rw [hpc1] at hno ⊢
  unfold stepThread
  cases hp : tf.pc with
  | start =>
    simp only
    obtain ⟨f, f2, f3⟩ := fl_startPC (t := { tf with pc := startPC tf.calls }) hf.fcalls rfl rfl
    exact ⟨_, _, b, c, rfl, hs, hu, f, hfl.repc (by rw [hp]; decide) f2 f3, hup⟩
  | done => simp only; exact ⟨_, _, b, c, rfl, hs, hu, hf, hfl, hup⟩
  | fLoadCurrent =>
    simp only
    simp only [hp] at hno
    exact ⟨_, _, b, c, rfl, hs, hu, ⟨hf.fcalls, rfl⟩, hfl.load hp rfl (hup.cur_eq hno).symm, hup⟩
  | fSwapLast =>
    simp only
    exact ⟨_, _, b, c, rfl, hs, hu, ⟨hf.fcalls, rfl⟩, hfl.swap hp rfl rfl, hup⟩
  | fSwapUpdates =>
    simp only
    have hdec : decide s.legacy s.idle tf.tmpDelta s.updates
        = (!(tf.tmpDelta == 0 && s.idle), tf.tmpDelta == 0) := by rw [hs.legacy_off]; exact decide_fixed ..
    rw [hdec]
    simp only
    obtain ⟨f, f2, f3⟩ := fl_startPC (t := tf.advance) hf.fcalls.tail_of rfl rfl
    have hs' : Sends s.legacy (tf.tmpDelta == 0) ((tf.tmpDelta, !(tf.tmpDelta == 0 && s.idle)) :: s.outcomes) :=
      ⟨hs.legacy_off, rfl, by rw [hs.idle_eq]; exact hs.rule.push _⟩
    exact ⟨_, _, b, c, rfl, hs', hu, f, hfl.record hp f2 f3, hup⟩
  | _ => have := hf.fpc; rw [hp] at this; cases this

theorem abs_step (prog : List Call) (s : Sys) (mid : Bool) (tid : Nat) (h : AInv prog s mid)
    (hno : absRaceStep s mid tid = false) : AInv prog (step s tid) (midAfter s mid tid) := by
  match tid with
  | 0 => exact abs_step_upd prog s mid h hno
  | 1 => exact abs_step_fl prog s mid h hno
  | n + 2 =>
    obtain ⟨tu, tf, b, c, hthr, hcore⟩ := h
    rw [step_other hthr n]
    unfold midAfter
    rw [pcOf_other hthr n]
    exact ⟨tu, tf, b, c, hthr, hcore⟩

theorem abs_run (prog : List Call) (sched : List Nat) : ∀ (s : Sys) (mid : Bool), AInv prog s mid →
    absRaceCount s mid sched = 0 → ∃ mid', AInv prog (run s sched) mid' := by
  induction sched with
  | nil => intro s mid h _; exact ⟨mid, h⟩
  | cons t ts ih =>
    intro s mid h hc
    obtain ⟨h1, h2⟩ := Nat.eq_zero_of_add_eq_zero hc
    refine ih _ _ (abs_step prog s mid t h ?_) h2
    cases hb : absRaceStep s mid t with
    | false => rfl
    | true => rw [hb] at h1; cases h1

theorem abs_init (prog fl : List Call) (hnd : AbsNondec 0 prog) (hfl : AllFlush fl) :
    AInv prog (init false [prog, fl]) false :=
  ⟨mkThread prog, mkThread fl, 0, 0, rfl, ⟨rfl, rfl, trivial⟩, ⟨rfl, nofun, nofun⟩, ⟨hfl, rfl⟩,
    ⟨rfl, Nat.le_refl _, M_pos, nofun⟩,
    Or.inl ⟨rfl, rfl, rfl, rfl, Or.inl rfl, nofun, rfl, hnd, by simp [mkThread], by simp [mkThread]⟩⟩

theorem abs_reachable (prog fl : List Call) (hnd : AbsNondec 0 prog) (hfl : AllFlush fl) (sched : List Nat)
    (hw : absRaceCount (init false [prog, fl]) false sched = 0) :
    ∃ mid, AInv prog (run (init false [prog, fl]) sched) mid :=
  abs_run prog sched _ _ (abs_init prog fl hnd hfl) hw

end MetricsVerif.StatsdAgg
