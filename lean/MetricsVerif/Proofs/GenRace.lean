/-
The generation stamp never runs ahead of the value: in every interleaving of any number of updaters and
observers, an observation that recorded generation `g` read a value that already contains the first `g`
updates.  So "generation unchanged since the last observation" implies "value unchanged since then".
-/
import MetricsVerif.Model.GenRace
import MetricsVerif.Proofs.ListAt

namespace MetricsVerif.GenRace

def midN (u : Upd) : Nat := if u.mid then 1 else 0

structure Inv (T : Nat) (s : Sys) : Prop where
  order : s.bumpFirst = false
  acct : s.applied = s.gen + (s.upds.map midN).sum
  left : s.gen + (s.upds.map (·.todo)).sum = T
  midpos : ∀ u ∈ s.upds, u.mid = true → 0 < u.todo
  omid : ∀ o ∈ s.obss, o.mid = true → o.g ≤ s.applied
  seen : ∀ o ∈ s.obss, ∀ p ∈ o.seen, p.1 ≤ p.2 ∧ p.2 ≤ s.applied

theorem lt_of_get {α : Type} {l : List α} {i : Nat} {x : α} (h : l[i]? = some x) : i < l.length :=
  lt_of_getElem?_some h

/-! the two accounts of `Inv` after an updater with share `1` / `n` in a total was replaced (`sum_map_setAt`) -/
theorem acct_bump {a g M M' : Nat} (ha : a = g + M) (hM : M' + 1 = M + 0) : a = g + 1 + M' := by
  rw [ha, ← Nat.add_zero M, ← hM, Nat.add_assoc, Nat.add_comm 1]
theorem left_bump {g L L' n T : Nat} (hT : g + L = T) (hL : L' + n = L + (n - 1)) (hn : 0 < n) : g + 1 + L' = T := by
  omega
theorem acct_write {a g M M' : Nat} (ha : a = g + M) (hM : M' + 0 = M + 1) : a + 1 = g + M' := by
  rw [ha, Nat.add_assoc, ← hM]; rfl
theorem left_same {g L L' n T : Nat} (hT : g + L = T) (hL : L' + n = L + n) : g + L' = T := by
  rw [Nat.add_right_cancel hL]; exact hT

theorem updStep_inv {T : Nat} {s : Sys} {tid : Nat} {u : Upd} (h : Inv T s) (hg : s.upds[tid]? = some u) :
    Inv T { (stepUpd s u).1 with upds := setAt (stepUpd s u).1.upds tid (stepUpd s u).2 } := by
  have hm := fun u' => sum_map_setAt midN s.upds tid u' u hg
  have hl := fun u' => sum_map_setAt (·.todo) s.upds tid u' u hg
  have hpos := h.midpos u (List.mem_of_getElem? hg)
  have hrest : ∀ {u' x}, x ∈ setAt s.upds tid u' → x.mid = true → (u'.mid = true → 0 < u'.todo) → 0 < x.todo :=
    fun hx hxm hu' => by
      rcases mem_setAt hx with rfl | hx'
      · exact hu' hxm
      · exact h.midpos _ hx' hxm
  unfold stepUpd
  rw [h.order]
  by_cases hmid : u.mid = true
  · -- the generation is bumped: this updater's write had been counted
    rw [if_pos hmid]
    rw [midN, if_pos hmid] at hm
    exact { order := rfl, acct := acct_bump h.acct (hm _), left := left_bump h.left (hl _) (hpos hmid),
            midpos := fun x hx hxm => hrest hx hxm nofun, omid := h.omid, seen := h.seen }
  · rw [if_neg hmid]
    rw [midN, if_neg hmid] at hm
    by_cases htodo : u.todo > 0
    · -- the value is written
      rw [if_pos htodo]
      exact { order := rfl, acct := acct_write h.acct (hm _), left := left_same h.left (hl _),
              midpos := fun x hx hxm => hrest hx hxm fun _ => htodo,
              omid := fun o ho hom => Nat.le_succ_of_le (h.omid o ho hom),
              seen := fun o ho p hp => ⟨(h.seen o ho p hp).1, Nat.le_succ_of_le (h.seen o ho p hp).2⟩ }
    · rw [if_neg htodo, setAt_same _ _ _ hg]
      exact h

/-- what an observer records: a stamp that the value read next already covers -/
theorem stepObs_ok {T : Nat} {s : Sys} {o : Obs} (h : Inv T s) (ho : o ∈ s.obss) :
    ((stepObs s o).mid = true → (stepObs s o).g ≤ s.applied)
    ∧ ∀ p ∈ (stepObs s o).seen, p.1 ≤ p.2 ∧ p.2 ≤ s.applied := by
  unfold stepObs
  split
  · next hmid =>
    refine ⟨nofun, fun p hp => ?_⟩
    rcases List.mem_append.1 hp with hp | hp
    · exact h.seen o ho p hp
    · cases List.mem_singleton.1 hp
      exact ⟨h.omid o ho hmid, Nat.le_refl _⟩
  · split
    · exact ⟨fun _ => h.acct ▸ Nat.le_add_right .., h.seen o ho⟩
    · exact ⟨h.omid o ho, h.seen o ho⟩

theorem step_inv (T : Nat) (s : Sys) (tid : Nat) (h : Inv T s) : Inv T (step s tid) := by
  unfold step
  split
  · cases hg : s.upds[tid]? with
    | none => exact h
    | some u => exact updStep_inv h hg
  · cases hg : s.obss[tid - s.upds.length]? with
    | none => exact h
    | some o =>
      obtain ⟨h1, h2⟩ := stepObs_ok h (List.mem_of_getElem? hg)
      refine { order := h.order, acct := h.acct, left := h.left, midpos := h.midpos,
               omid := fun x hx hxm => ?_, seen := fun x hx => ?_ }
      · rcases mem_setAt hx with rfl | hx'
        · exact h1 hxm
        · exact h.omid x hx' hxm
      · rcases mem_setAt hx with rfl | hx'
        · exact h2
        · exact h.seen x hx'

theorem init_inv (updates observations : List Nat) : Inv (total updates) (init false updates observations) := by
  refine { order := rfl, acct := ?_, left := ?_, midpos := ?_, omid := ?_, seen := ?_ }
  · show 0 = 0 + ((updates.map _).map midN).sum
    rw [Nat.zero_add, sum_map_eq_zero_iff.2 fun u hu => by obtain ⟨n, _, rfl⟩ := List.mem_map.1 hu; rfl]
  · show 0 + ((updates.map _).map _).sum = _
    rw [List.map_map, Nat.zero_add]
    exact congrArg List.sum (List.map_id updates)
  · intro u hu hm; obtain ⟨n, _, rfl⟩ := List.mem_map.1 hu; cases hm
  · intro o ho hm; obtain ⟨n, _, rfl⟩ := List.mem_map.1 ho; cases hm
  · intro o ho p hp; obtain ⟨n, _, rfl⟩ := List.mem_map.1 ho; cases hp

theorem run_inv (T : Nat) (sched : List Nat) : ∀ s, Inv T s → Inv T (run s sched) := fun _ h =>
  List.foldlRecOn sched step h fun s hs tid _ => step_inv T s tid hs

theorem quiescent_sums (s : Sys) (hq : quiescent s = true) :
    (s.upds.map midN).sum = 0 ∧ (s.upds.map (·.todo)).sum = 0 := by
  have hq : ∀ u ∈ s.upds, u.todo = 0 ∧ u.mid = false := fun u hu => by
    simpa using List.all_eq_true.1 hq u hu
  exact ⟨sum_map_eq_zero_iff.2 fun u hu => by rw [midN, (hq u hu).2]; rfl, sum_map_eq_zero_iff.2 fun u hu => (hq u hu).1⟩

end MetricsVerif.GenRace
