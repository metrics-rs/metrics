/-
The recoverable-recorder step machine, for C20.  `stepThread_eff` says, arm by arm of `stepThread`, what a step does to
the pair and to the stepping thread (`Eff`); the invariant `Inv` (count = handle + calls inside) and the balance of end
calls against the programs (`EndInv`) are both derived from that description.  What a step does to the handles a thread
keeps (`stepThread_kept`) and the two outcomes of the `weak.upgrade` step (`stepThread_upgrade_pos` / `_zero`) are read
off `stepThread` separately.
-/
import MetricsVerif.Model.Recoverable
import MetricsVerif.Proofs.ListAt

namespace MetricsVerif.Recoverable

/-- strong references held by a thread at a given pc (= calls it has inside the recorder) -/
def pcIns : PC → Nat
  | .inside => 1 | .nUpgrade => 1 | .nInside => 2 | .dUp k => k | .dIn k => k | .iHdrop => 1 | .iTry => 1 | _ => 0
def insN (t : Thread) : Nat := pcIns t.pc
def insCount (s : Sys) : Nat := (s.threads.map insN).sum

structure Inv (s : Sys) : Prop where
  strong_eq : s.strong = (if s.handle then 1 else 0) + s.inside
  inside_eq : s.inside = insCount s
  once : s.finalised + (if s.recovered then 1 else 0) ≤ 1
  ended : (s.finalised > 0 ∨ s.recovered = true) → s.strong = 0
  handle_live : s.handle = true → s.finalised = 0 ∧ s.recovered = false
  gone : s.strong = 0 → s.handle = false → (s.finalised > 0 ∨ s.recovered = true)
  no_late_entry : s.enteredAfterEnd = false
  no_busy_unwrap : s.unwrapBusy = false

def isRec : Res → Bool
  | .recovered => true | _ => false
def isDrp : Res → Bool
  | .dropped => true | _ => false
def recN (t : Thread) : Nat := (t.results.filter isRec).length
def drpN (t : Thread) : Nat := (t.results.filter isDrp).length
def iiLeft (t : Thread) : Nat := (t.calls.filter isII).length
def dhLeft (t : Thread) : Nat := (t.calls.filter isDH).length
def doneOk (t : Thread) : Prop := t.pc = .done → t.calls = []

theorem length_filter_cons {α : Type} (p : α → Bool) (x : α) (l : List α) :
    ((x :: l).filter p).length = (p x).toNat + (l.filter p).length := by
  cases h : p x <;> simp [h, Nat.add_comm]

theorem length_filter_snoc {α : Type} (p : α → Bool) (x : α) (l : List α) :
    ((l ++ [x]).filter p).length = (l.filter p).length + (p x).toNat := by
  cases h : p x <;> simp [List.filter_append, h]

/-- thread `t` became `t'`, getting `dr` more `recovered` and `dd` more `dropped` answers; `lost` handle-dropping
    calls were consumed without being executed (an `emitDropInside` answered with an inert handle) -/
structure TE (t t' : Thread) (dr dd lost : Nat) : Prop where
  r : recN t' = recN t + dr
  d : drpN t' = drpN t + dd
  ii : iiLeft t' + dr = iiLeft t
  dh : dhLeft t' + dd + lost = dhLeft t
  dn : doneOk t → doneOk t'

theorem pcOfCall_ne_done (c : Call) : pcOfCall c ≠ .done := by cases c <;> exact PC.noConfusion

theorem advance_doneOk (t : Thread) (r : Res) : doneOk (t.advance r) := by
  unfold doneOk Thread.advance
  cases t.calls.tail with
  | nil => exact fun _ => rfl
  | cons c rest => exact fun hd => absurd hd (pcOfCall_ne_done c)

theorem te_noop (t : Thread) : TE t t 0 0 0 := ⟨rfl, rfl, rfl, rfl, id⟩

theorem te_pc (t : Thread) (pc' : PC) (h : pc' ≠ .done) : TE t { t with pc := pc' } 0 0 0 :=
  ⟨rfl, rfl, rfl, rfl, fun _ hd => absurd hd h⟩

theorem te_res (t : Thread) (pc' : PC) (r : Res) (h : pc' ≠ .done) (h1 : isRec r = false) (h2 : isDrp r = false) :
    TE t { t with pc := pc', results := t.results ++ [r] } 0 0 0 :=
  ⟨by rw [recN, length_filter_snoc, h1]; rfl, by rw [drpN, length_filter_snoc, h2]; rfl, rfl, rfl,
   fun _ hd => absurd hd h⟩

theorem te_adv (t : Thread) (r : Res) {c : Call} {rest : List Call} {lost : Nat} (hc : t.calls = c :: rest)
    (h1 : (isII c).toNat = (isRec r).toNat) (h2 : (isDH c).toNat = (isDrp r).toNat + lost) :
    TE t (t.advance r) (isRec r).toNat (isDrp r).toNat lost := by
  refine ⟨length_filter_snoc .., length_filter_snoc .., ?_, ?_, fun _ => advance_doneOk t r⟩
  · show (t.calls.tail.filter isII).length + _ = (t.calls.filter isII).length
    rw [hc, length_filter_cons, h1]; exact Nat.add_comm ..
  · show (t.calls.tail.filter isDH).length + _ + _ = (t.calls.filter isDH).length
    rw [hc, length_filter_cons, h2]; simp only [List.tail_cons]; omega

theorem te_kept {t x : Thread} {a b c : Nat} (k : List Bool) (h : TE t x a b c) : TE t { x with kept := k } a b c :=
  ⟨h.r, h.d, h.ii, h.dh, h.dn⟩

/-- what one step of a thread does to the pair, and what the thread gets for it -/
inductive Eff (s : Sys) (t : Thread) : Sys → Thread → Prop
  /-- an `emitDropInside` may be answered with an inert handle (`lost`) only when the count is zero, a handle
      drop (`dd`) finds the handle gone already -/
  | same {t' : Thread} {dd lost : Nat} : insN t' = insN t → TE t t' 0 dd lost → (0 < lost → s.strong = 0) →
      (0 < dd → s.handle = false) → Eff s t s t'
  | enter {t' : Thread} : 0 < s.strong → insN t' = insN t + 1 → TE t t' 0 0 0 → Eff s t (enter s) t'
  | leave {t' : Thread} : insN t = insN t' + 1 → TE t t' 0 0 0 →
      Eff s t (release { s with inside := s.inside - 1 }) t'
  /-- the answers balance when the unwrapping thread is not itself inside (the only case there is, by `Inv`) -/
  | unwrap {t' : Thread} : s.handle = true → s.strong = 1 → insN t' = insN t → (insN t = 0 → TE t t' 1 0 0) →
      Eff s t { s with strong := 0, handle := false, recovered := true,
                       unwrapBusy := s.unwrapBusy || decide (s.inside > 0) } t'
  | hdrop {t' : Thread} : s.handle = true → insN t' = insN t → TE t t' 0 1 0 →
      Eff s t (release { s with handle := false }) t'

theorem pcOfCall_ins (c : Call) : pcIns (pcOfCall c) = 0 := by cases c <;> rfl

theorem insN_advance (t : Thread) (r : Res) : insN (t.advance r) = 0 := by
  unfold Thread.advance insN
  cases t.calls.tail with
  | nil => rfl
  | cons c rest => exact pcOfCall_ins c

theorem insN_kept (t : Thread) (k : List Bool) : insN { t with kept := k } = insN t := rfl

variable {s : Sys} {t : Thread}

/-- with `pc` and `cs` given by constructors the right-hand side reduces to its arm of `stepThread` by computation -/
theorem stepThread_congr {pc : PC} {cs : List Call} (hpc : t.pc = pc) (hc : t.calls = cs) :
    stepThread s t = stepThread s { t with pc := pc, calls := cs } := by
  subst hpc hc; rfl

theorem upgradeStep_pos {pc' : PC} (h : 0 < s.strong) : upgradeStep s t pc' = (enter s, { t with pc := pc' }) :=
  if_pos h

theorem upgradeStep_zero {pc' : PC} (h : s.strong = 0) : upgradeStep s t pc' = (s, t.advance .ignored) :=
  if_neg (Nat.not_lt.2 (Nat.le_of_eq h))

theorem keepUpgradeStep_pos (h : 0 < s.strong) : keepUpgradeStep s t = (enter s, { t with pc := .inside }) :=
  if_pos h

theorem keepUpgradeStep_zero (h : s.strong = 0) :
    keepUpgradeStep s t = (s, { (t.advance .ignored) with kept := t.kept ++ [false] }) :=
  if_neg (Nat.not_lt.2 (Nat.le_of_eq h))

theorem release_hr (s : Sys) :
    (release s).handle = s.handle ∧ (release s).recovered = s.recovered ∧ (release s).inside = s.inside := by
  unfold release; split <;> exact ⟨rfl, rfl, rfl⟩

theorem release_keeps (h : 2 ≤ s.strong) : (release s).finalised = s.finalised ∧ 0 < (release s).strong := by
  rw [release, if_neg (Nat.ne_of_gt h)]; exact ⟨rfl, Nat.sub_pos_of_lt h⟩

theorem Eff.quiet {t' : Thread} (h : insN t' = insN t) (e : TE t t' 0 0 0) : Eff s t s t' :=
  .same h e (fun x => absurd x (Nat.lt_irrefl 0)) (fun x => absurd x (Nat.lt_irrefl 0))

theorem enterOr_eff {t₁ t₂ : Thread} {lost : Nat} (h₁ : insN t₁ = insN t + 1) (e₁ : TE t t₁ 0 0 0)
    (h₂ : insN t₂ = insN t) (e₂ : TE t t₂ 0 0 lost) :
    Eff s t (if s.strong > 0 then (enter s, t₁) else (s, t₂)).1 (if s.strong > 0 then (enter s, t₁) else (s, t₂)).2 := by
  split
  · next h => exact .enter h h₁ e₁
  · next h => exact .same h₂ e₂ (fun _ => Nat.eq_zero_of_not_pos h) (fun x => absurd x (Nat.lt_irrefl 0))

theorem unwrapOr_eff {t₁ : Thread} (h₁ : insN t₁ = insN t) (e₁ : insN t = 0 → TE t t₁ 1 0 0) :
    Eff s t
      (if s.handle && s.strong = 1 then
        ({ s with strong := 0, handle := false, recovered := true, unwrapBusy := s.unwrapBusy || decide (s.inside > 0) }, t₁)
       else (s, t)).1
      (if s.handle && s.strong = 1 then
        ({ s with strong := 0, handle := false, recovered := true, unwrapBusy := s.unwrapBusy || decide (s.inside > 0) }, t₁)
       else (s, t)).2 := by
  split
  · next h =>
    rw [Bool.and_eq_true, decide_eq_true_eq] at h
    exact .unwrap h.1 h.2 h₁ e₁
  · exact .quiet rfl (te_noop t)

theorem hdropOr_eff {t₁ : Thread} (h₁ : insN t₁ = insN t) (e₁ : TE t t₁ 0 1 0) :
    Eff s t (if s.handle then (release { s with handle := false }, t₁) else (s, t₁)).1
      (if s.handle then (release { s with handle := false }, t₁) else (s, t₁)).2 := by
  split
  · next h => exact .hdrop h h₁ e₁
  · next h => exact .same h₁ e₁ (fun x => absurd x (Nat.lt_irrefl 0)) (fun _ => Bool.eq_false_iff.2 h)

theorem upgradeStep_eff (pc' : PC) {c : Call} {rest : List Call} (h0 : insN t = 0)
    (h1 : pcIns pc' = 1) (hc : t.calls = c :: rest) (c1 : isII c = false) :
    Eff s t (upgradeStep s t pc').1 (upgradeStep s t pc').2 :=
  enterOr_eff (h1.trans (by rw [h0])) (te_pc t pc' (fun x => by rw [x] at h1; cases h1))
    ((insN_advance ..).trans h0.symm) (te_adv t .ignored hc (by rw [c1]; rfl) (Nat.zero_add _).symm)

theorem leaveStep_eff (r : Res) {c : Call} {rest : List Call} (h1 : insN t = 1)
    (hc : t.calls = c :: rest) (c1 : isII c = false) (c2 : isDH c = false) (r1 : isRec r = false)
    (r2 : isDrp r = false) : Eff s t (leaveStep s t r).1 (leaveStep s t r).2 := by
  have := te_adv (lost := 0) t r hc (by rw [c1, r1]) (by rw [c2, r2]; rfl)
  rw [r1, r2] at this
  exact .leave (t' := t.advance r) (by rw [insN_advance, h1]) this

theorem stepThread_eff (s : Sys) (t : Thread) : Eff s t (stepThread s t).1 (stepThread s t).2 := by
  -- in every arm `hp : t.pc = _` gives `insN t` (as `congrArg pcIns hp`) and `hc` the call being executed
  /- the cases follow the arms of `stepThread` in order, an arm with an `if` giving two (then, else):
       1 start, []            2 start, c :: _
       3 upgrade, emit        4 upgrade, emitPanic    5 upgrade, emitNested
       6 inside, emit         7 inside, emitPanic     8 inside, emitNested
       9, 10 nUpgrade, emitNested (count positive, zero)             11 nInside, emitNested
      12, 13 tryUnwrap, intoInner (taken, retry)                     14, 15 hdrop, dropHandle (handle there, gone)
      16 upgrade, emitKeep   17 inside, emitKeep     18 use, useKept          19 kdrop, dropKept
      20 upgrade, emitDeep   21 inside, emitDeep     22 dUp k, emitDeep d     23 dIn k, emitDeep
      24 upgrade, emitDropInside   25 iHdrop, emitDropInside
      26 upgrade, emitIntoInside   27 iTry, emitIntoInside            28 every other pair -/
  fun_cases stepThread s t
  case case3 hc hp | case4 hc hp | case5 hc hp | case24 hc hp | case26 hc hp =>
    exact upgradeStep_eff _ (congrArg pcIns hp) rfl hc rfl
  case case20 hc hp => exact upgradeStep_eff _ (congrArg pcIns hp) (by split <;> rfl) hc rfl
  case case6 hc hp | case7 hc hp | case8 hc hp | case21 hc hp =>
    exact leaveStep_eff _ (congrArg pcIns hp) hc rfl rfl rfl rfl
  case case1 hc hp => exact .quiet (congrArg pcIns hp).symm ⟨rfl, rfl, rfl, rfl, fun _ _ => hc⟩
  case case2 c _ hc hp =>
    exact .quiet ((pcOfCall_ins c).trans (congrArg pcIns hp).symm) (te_pc _ _ (pcOfCall_ne_done c))
  case case9 hc hp h => exact .enter h (congrArg (pcIns · + 1) hp).symm (te_pc _ _ nofun)
  case case10 hc hp h =>
    exact .same (lost := 0) (congrArg pcIns hp).symm (te_res _ _ _ nofun rfl rfl) nofun nofun
  case case11 hc hp => exact .leave (congrArg pcIns hp) (te_res _ _ _ nofun rfl rfl)
  case case12 hc hp h =>
    rw [Bool.and_eq_true, decide_eq_true_eq] at h
    exact .unwrap h.1 h.2 ((insN_advance ..).trans (congrArg pcIns hp).symm)
      (fun _ => te_adv (lost := 0) _ .recovered hc rfl rfl)
  case case14 hc hp h =>
    exact .hdrop h ((insN_advance ..).trans (congrArg pcIns hp).symm) (te_adv (lost := 0) _ .dropped hc rfl rfl)
  case case15 hc hp h =>
    exact .same ((insN_advance ..).trans (congrArg pcIns hp).symm) (te_adv (lost := 0) _ .dropped hc rfl rfl) nofun
      (fun _ => Bool.eq_false_iff.2 h)
  case case16 hc hp =>
    exact enterOr_eff (congrArg (pcIns · + 1) hp).symm (te_pc _ _ nofun)
      ((insN_advance _ .ignored).trans (congrArg pcIns hp).symm) (te_kept _ (te_adv (lost := 0) _ .ignored hc rfl rfl))
  case case17 hc hp =>
    exact .leave ((congrArg pcIns hp).trans (congrArg (· + 1) (insN_advance _ .delivered)).symm)
      (te_kept _ (te_adv (lost := 0) _ .delivered hc rfl rfl))
  case case18 hc hp =>
    exact .quiet ((insN_advance ..).trans (congrArg pcIns hp).symm) (te_adv (lost := 0) _ _ hc rfl rfl)
  case case19 hc hp =>
    exact .quiet ((insN_advance _ (.keptDropped t.kept.length)).trans (congrArg pcIns hp).symm)
      (te_kept _ (te_adv (lost := 0) _ _ hc rfl rfl))
  case case22 k d _ hc hp =>
    have hk : insN t = k := congrArg pcIns hp
    unfold deepUpStep
    split
    · exact .quiet rfl (te_noop _)
    · refine enterOr_eff ?_ (te_pc _ _ ?_) ?_ (te_res _ _ _ ?_ rfl rfl)
      · rw [hk]
        show pcIns (if k + 1 > d then .dIn (k + 1) else .dUp (k + 1)) = k + 1
        split <;> rfl
      · split <;> nofun
      · rw [hk]
        show pcIns (if k = 1 then .inside else .dIn k) = k
        split
        · next h => exact h.symm
        · rfl
      · split <;> nofun
  case case23 k _ _ hc hp =>
    have hk : insN t = k := congrArg pcIns hp
    unfold deepLeaveStep
    split
    · exact .quiet rfl (te_noop _)
    · refine .leave ?_ (te_res _ _ _ ?_ rfl rfl)
      · rw [hk]
        show k = pcIns (if k = 2 then .inside else .dIn (k - 1)) + 1
        split <;> simp only [pcIns] <;> omega
      · split <;> nofun
  case case25 hc hp =>
    exact hdropOr_eff (congrArg pcIns hp).symm
      ⟨length_filter_snoc .., length_filter_snoc .., (congrArg (fun cs => (cs.filter isII).length) hc).symm,
       (congrArg (fun cs => (cs.filter isDH).length) hc).symm, nofun⟩
  case case27 hc hp =>
    exact unwrapOr_eff (congrArg pcIns hp).symm (fun h => absurd ((congrArg pcIns hp).symm.trans h) (Nat.succ_ne_zero 0))
  -- a failed `try_unwrap`, and every combination of pc and call that does not occur
  all_goals exact .quiet rfl (te_noop _)

theorem ite_kept {c : Prop} [Decidable c] {x y : Sys × Thread} {k : List Bool} (hx : x.2.kept = k)
    (hy : y.2.kept = k) : (if c then x else y).2.kept = k := by
  split <;> assumption

theorem stepThread_kept (s : Sys) (t : Thread) :
    (stepThread s t).2.kept = t.kept ∨ ((stepThread s t).2.kept = t.kept ++ [true] ∧ t.pc = .inside)
    ∨ ((stepThread s t).2.kept = t.kept ++ [false] ∧ s.strong = 0 ∧ t.pc = .upgrade)
    ∨ (stepThread s t).2.kept = [] := by
  obtain ⟨calls, pc, results, kept⟩ := t
  fun_cases stepThread s ⟨calls, pc, results, kept⟩
  -- the arms of `emitKeep` at its upgrade (16) and at its return (17), of `dropKept` (19), of `emitDeep` at `dUp` (22)
  case case16 hc hp =>
    cases hc; cases hp
    unfold keepUpgradeStep
    split
    · exact .inl rfl
    · next h => exact .inr (.inr (.inl ⟨rfl, Nat.eq_zero_of_not_pos h, rfl⟩))
  case case17 hc hp => cases hc; cases hp; exact .inr (.inl ⟨rfl, rfl⟩)
  case case19 => exact .inr (.inr (.inr rfl))
  case case22 => exact .inl (ite_kept rfl (ite_kept rfl rfl))
  all_goals first | exact .inl rfl | exact .inl (ite_kept rfl rfl)

/-! a total over the threads after one of them changed (`sum_map_setAt`), when its own share grew / shrank by `d` -/
theorem total_grows {x x' a a' d : Nat} (h : x' + a = x + a') (e : a' = a + d) : x' = x + d := by omega
theorem total_shrinks {x x' a a' d : Nat} (h : x' + a = x + a') (e : a' + d = a) : x' + d = x := by omega

theorem insN_le_insCount {tid : Nat} (hg : s.threads[tid]? = some t) : insN t ≤ insCount s :=
  le_sum_map insN (List.mem_of_getElem? hg)

def sumT (f : Thread → Nat) (s : Sys) : Nat := (s.threads.map f).sum

theorem sumT_eq_zero {f : Thread → Nat} (h : ∀ u ∈ s.threads, f u = 0) : sumT f s = 0 :=
  List.sum_eq_zero_iff_forall_eq_nat.2 fun _ hx => by
    obtain ⟨u, hu, rfl⟩ := List.mem_map.1 hx
    exact h u hu

theorem sumT_init_zero {f : Thread → Nat} (progs : List (List Call)) (h : ∀ p, f (mkThread p) = 0) :
    sumT f (init progs) = 0 :=
  sumT_eq_zero fun u hu => by
    obtain ⟨p, _, rfl⟩ := List.mem_map.1 hu
    exact h p

theorem insCount_zero_of_quiet (s : Sys) (hq : ∀ u ∈ s.threads, insN u = 0) : insCount s = 0 :=
  sumT_eq_zero hq

theorem release_threads (s : Sys) : (release s).threads = s.threads := by
  unfold release; split <;> rfl

theorem Inv.live (h : Inv s) (hpos : 0 < s.strong) : s.finalised = 0 ∧ s.recovered = false := by
  refine ⟨Nat.eq_zero_of_not_pos fun x => ?_, Bool.eq_false_iff.2 fun x => ?_⟩
  · have := h.ended (.inl x); omega
  · have := h.ended (.inr x); omega

theorem Inv.strong_of_handle (h : Inv s) (hh : s.handle = true) : s.strong = s.inside + 1 := by
  rw [h.strong_eq, hh]; exact Nat.add_comm ..

theorem Inv.strong_of_no_handle (h : Inv s) (hh : s.handle = false) : s.strong = s.inside := by
  rw [h.strong_eq, hh]; exact Nat.zero_add _

theorem Inv.pos_of_handle (h : Inv s) (hh : s.handle = true) : 0 < s.strong := by
  rw [h.strong_of_handle hh]; exact Nat.succ_pos _

theorem Inv.handle_gone (h : Inv s) (h0 : s.strong = 0) : s.handle = false :=
  Bool.eq_false_iff.2 fun hh => by have := h.strong_of_handle hh; omega

theorem Inv.ended_of_quiet (h : Inv s) (hh : s.handle = false) (hi : s.inside = 0) :
    s.strong = 0 ∧ (s.finalised = 1 ∨ s.recovered = true) := by
  have h0 := (h.strong_of_no_handle hh).trans hi
  refine ⟨h0, (h.gone h0 hh).imp_left fun x => ?_⟩
  have := h.once
  omega

theorem inv_setThreads (h : Inv s) {ts : List Thread} (hc : (ts.map insN).sum = insCount s) :
    Inv { s with threads := ts } :=
  { h with inside_eq := h.inside_eq.trans hc.symm }

theorem inv_enter (h : Inv s) (hpos : 0 < s.strong) {ts : List Thread} (hc : (ts.map insN).sum = insCount s + 1) :
    Inv { enter s with threads := ts } := by
  have ⟨hf, hr⟩ := h.live hpos
  exact { strong_eq := show s.strong + 1 = _ + (s.inside + 1) by rw [h.strong_eq]; rfl
          inside_eq := show s.inside + 1 = _ by rw [h.inside_eq]; exact hc.symm
          once := h.once
          ended := fun x => by have := h.ended x; omega
          handle_live := h.handle_live
          gone := fun x => absurd x (Nat.succ_ne_zero _)
          no_late_entry := show (s.enteredAfterEnd || decide (s.finalised > 0) || s.recovered) = false by
            rw [h.no_late_entry, hf, hr]; rfl
          no_busy_unwrap := h.no_busy_unwrap }

/-- a live pair holding one reference more than the handle and the calls inside account for: dropping it -/
theorem inv_release {s₀ : Sys} {ts : List Thread}
    (hs : s₀.strong = (if s₀.handle then 1 else 0) + s₀.inside + 1) (hi : s₀.inside = (ts.map insN).sum)
    (hf : s₀.finalised = 0) (hr : s₀.recovered = false) (hl : s₀.enteredAfterEnd = false)
    (hb : s₀.unwrapBusy = false) : Inv { release s₀ with threads := ts } := by
  unfold release
  split
  · next h1 =>
    have hh : s₀.handle = false := Bool.eq_false_iff.2 fun x => by rw [x] at hs; simp at hs; omega
    rw [hh] at hs
    exact { strong_eq := show 0 = (if s₀.handle then 1 else 0) + s₀.inside by rw [hh]; simp at hs ⊢; omega
            inside_eq := hi
            once := show s₀.finalised + 1 + _ ≤ 1 by rw [hf, hr]; exact Nat.le_refl _
            ended := fun _ => rfl
            handle_live := fun x => absurd (hh.symm.trans x) Bool.noConfusion
            gone := fun _ _ => .inl (Nat.succ_pos _)
            no_late_entry := hl, no_busy_unwrap := hb }
  · next h1 =>
    exact { strong_eq := show s₀.strong - 1 = _ by rw [hs]; rfl
            inside_eq := hi
            once := show s₀.finalised + _ ≤ 1 by rw [hf, hr]; exact Nat.zero_le _
            ended := fun x => by rcases x with x | x <;> simp only [hf, hr] at x <;> cases x
            handle_live := fun _ => ⟨hf, hr⟩
            gone := fun x => by simp only at x; omega
            no_late_entry := hl, no_busy_unwrap := hb }

theorem inv_unwrap (h : Inv s) (hh : s.handle = true) (h1 : s.strong = 1) {ts : List Thread}
    (hc : (ts.map insN).sum = insCount s) :
    Inv { s with strong := 0, handle := false, recovered := true,
                 unwrapBusy := s.unwrapBusy || decide (s.inside > 0), threads := ts } := by
  have hi : s.inside = 0 := by have := h.strong_of_handle hh; omega
  exact { strong_eq := hi.symm ▸ rfl
          inside_eq := h.inside_eq.trans hc.symm
          once := show s.finalised + 1 ≤ 1 by rw [(h.handle_live hh).1]; exact Nat.le_refl _
          ended := fun _ => rfl
          handle_live := nofun
          gone := fun _ _ => .inr rfl
          no_late_entry := h.no_late_entry
          no_busy_unwrap := show (s.unwrapBusy || decide (s.inside > 0)) = false by rw [h.no_busy_unwrap, hi]; rfl }

theorem Eff.threads {s' : Sys} {t' : Thread} (e : Eff s t s' t') : s'.threads = s.threads := by
  cases e <;> first | rfl | exact release_threads _

theorem stepThread_threads (s : Sys) (t : Thread) : (stepThread s t).1.threads = s.threads :=
  (stepThread_eff s t).threads

theorem Eff.inv {s' : Sys} {t' : Thread} {tid : Nat} (e : Eff s t s' t') (h : Inv s) (hg : s.threads[tid]? = some t) :
    Inv { s' with threads := setAt s.threads tid t' } := by
  have hc : _ + insN t = insCount s + insN t' := sum_map_setAt insN s.threads tid t' t hg
  have hle := insN_le_insCount hg
  have hse := h.strong_eq
  have hie := h.inside_eq
  cases e with
  | same hi => exact inv_setThreads h (total_grows (d := 0) hc hi)
  | enter hpos hi => exact inv_enter h hpos (total_grows hc hi)
  | leave hi =>
    have ⟨hf, hr⟩ := h.live (by omega)
    exact inv_release (s₀ := { s with inside := s.inside - 1 }) (show s.strong = (if s.handle then 1 else 0) + (s.inside - 1) + 1 by omega)
      (show s.inside - 1 = _ by omega) hf hr h.no_late_entry h.no_busy_unwrap
  | unwrap hh h1 hi => exact inv_unwrap h hh h1 (total_grows (d := 0) hc hi)
  | hdrop hh hi =>
    have ⟨hf, hr⟩ := h.handle_live hh
    have := h.strong_of_handle hh
    exact inv_release (s₀ := { s with handle := false }) (show s.strong = 0 + s.inside + 1 by omega)
      (show s.inside = _ by omega) hf hr h.no_late_entry h.no_busy_unwrap

theorem Inv.held (h : Inv s) {tid : Nat} (hg : s.threads[tid]? = some t) :
    (if s.handle then 1 else 0) + insN t ≤ s.strong := by
  rw [h.strong_eq, h.inside_eq]; exact Nat.add_le_add_left (insN_le_insCount hg) _

theorem Inv.le_strong (h : Inv s) {tid k : Nat} (hg : s.threads[tid]? = some t) (hk : k ≤ insN t) : k ≤ s.strong :=
  Nat.le_trans hk (Nat.le_trans (Nat.le_add_left ..) (h.held hg))

theorem stepThread_upgrade_pos {c : Call} {rest : List Call} (hpc : t.pc = .upgrade) (hc : t.calls = c :: rest)
    (hu : pcOfCall c = .upgrade) (hpos : 0 < s.strong) :
    (stepThread s t).1 = enter s ∧ (stepThread s t).2.results = t.results ∧ insN (stepThread s t).2 = 1 := by
  rw [stepThread_congr hpc hc]
  cases c with
  | intoInner | dropHandle | useKept | dropKept => cases hu
  | emitKeep => simp only [stepThread]; rw [keepUpgradeStep_pos hpos]; exact ⟨rfl, rfl, rfl⟩
  | emitDeep d =>
    simp only [stepThread]; rw [upgradeStep_pos hpos]
    refine ⟨rfl, rfl, ?_⟩
    show pcIns (if d = 0 then .inside else .dUp 1) = 1
    split <;> rfl
  | _ => simp only [stepThread]; rw [upgradeStep_pos hpos]; exact ⟨rfl, rfl, rfl⟩

theorem stepThread_upgrade_zero {c : Call} {rest : List Call} (hpc : t.pc = .upgrade) (hc : t.calls = c :: rest)
    (hu : pcOfCall c = .upgrade) (h0 : s.strong = 0) :
    (stepThread s t).1 = s ∧ (stepThread s t).2.results = t.results ++ [.ignored] := by
  rw [stepThread_congr hpc hc]
  cases c with
  | intoInner | dropHandle | useKept | dropKept => cases hu
  | emitKeep => simp only [stepThread]; rw [keepUpgradeStep_zero h0]; exact ⟨rfl, rfl⟩
  | _ => simp only [stepThread]; rw [upgradeStep_zero h0]; exact ⟨rfl, rfl⟩

theorem Eff.frozen {s' : Sys} {t' : Thread} {tid : Nat} (e : Eff s t s' t') (h : Inv s)
    (hg : s.threads[tid]? = some t) (h0 : s.strong = 0) : s' = s := by
  have hle := insN_le_insCount hg
  have hie := h.inside_eq
  have hse := h.strong_of_no_handle (h.handle_gone h0)
  cases e with
  | same => rfl
  | enter hpos => omega
  | leave hi => omega
  | unwrap _ h1 => omega
  | hdrop hh => exact absurd (h.handle_gone h0 ▸ hh) Bool.noConfusion

theorem init_inv (progs : List (List Call)) : Inv (init progs) :=
  { strong_eq := rfl
    inside_eq := (sumT_init_zero progs fun _ => rfl).symm
    once := Nat.zero_le 1, ended := (by rintro (x | x) <;> cases x), handle_live := fun _ => ⟨rfl, rfl⟩,
    gone := fun _ => nofun, no_late_entry := rfl, no_busy_unwrap := rfl }

theorem step_some (s : Sys) (tid : Nat) (t : Thread) (hg : s.threads[tid]? = some t) :
    step s tid = { (stepThread s t).1 with threads := setAt (stepThread s t).1.threads tid (stepThread s t).2 } := by
  unfold step; rw [hg]

theorem step_none (s : Sys) (tid : Nat) (hg : s.threads[tid]? = none) : step s tid = s := by
  unfold step; rw [hg]

theorem step_inv (s : Sys) (tid : Nat) (h : Inv s) : Inv (step s tid) := by
  cases hg : s.threads[tid]? with
  | none => rw [step_none s tid hg]; exact h
  | some t => rw [step_some s tid t hg, stepThread_threads]; exact (stepThread_eff s t).inv h hg

theorem run_inv (sched : List Nat) : ∀ s, Inv s → Inv (run s sched) := fun _ h =>
  List.foldlRecOn sched step h fun s hs tid _ => step_inv s tid hs

/-!
`recN` / `drpN` count the `recovered` / `dropped` answers a thread has got, `iiLeft` / `dhLeft` the `into_inner` /
handle-drop calls it still has to make.  Every step keeps `recN + iiLeft` and `drpN + dhLeft` of the stepping thread
(`TE`), and it adds a `recovered` (`dropped`) answer exactly when the pair took the unwrap (handle-drop) transition. -/

theorem filt_rr : List.filter isRec [Res.recovered] = [Res.recovered] := rfl
theorem filt_rd : List.filter isRec [Res.dropped] = [] := rfl
theorem filt_dr : List.filter isDrp [Res.recovered] = [] := rfl
theorem filt_dd : List.filter isDrp [Res.dropped] = [Res.dropped] := rfl

structure EndInv (progs : List (List Call)) (s : Sys) : Prop where
  inv : Inv s
  ii_bal : sumT recN s + sumT iiLeft s = iiTotal progs
  dh_le : sumT drpN s + sumT dhLeft s ≤ dhTotal progs
  /-- `dh_le` is an equality unless a handle drop was answered with an inert handle, which needs the handle to be
      gone already -/
  dh_eq : sumT drpN s + sumT dhLeft s = dhTotal progs ∨ s.handle = false
  rec_flag : sumT recN s = if s.recovered then 1 else 0
  handle_iff : s.handle = false ↔ sumT recN s + sumT drpN s > 0
  done_ok : ∀ t ∈ s.threads, doneOk t

theorem sumT_init (f : Thread → Nat) (progs : List (List Call)) :
    sumT f (init progs) = (progs.map fun p => f (mkThread p)).sum := by
  rw [sumT, init, List.map_map]; rfl

theorem init_endInv (progs : List (List Call)) : EndInv progs (init progs) := by
  have hr : sumT recN (init progs) = 0 := sumT_init_zero progs fun _ => rfl
  have hd : sumT drpN (init progs) = 0 := sumT_init_zero progs fun _ => rfl
  have hii : sumT iiLeft (init progs) = iiTotal progs := sumT_init ..
  have hdh : sumT dhLeft (init progs) = dhTotal progs := sumT_init ..
  exact { inv := init_inv progs
          ii_bal := by rw [hr, hii, Nat.zero_add]
          dh_le := by rw [hd, hdh, Nat.zero_add]; exact Nat.le_refl _
          dh_eq := .inl (by rw [hd, hdh, Nat.zero_add])
          rec_flag := hr
          handle_iff := by rw [hr, hd]; exact ⟨nofun, nofun⟩
          done_ok := fun t ht hd => by
            obtain ⟨p, _, rfl⟩ := List.mem_map.1 ht
            cases hd }

/-- what the step did to the handle / the recovered flag, matching the answers the thread got -/
def SysEnds (s s' : Sys) (dr dd : Nat) : Prop :=
  (dr = 0 ∧ dd = 0 ∧ s'.handle = s.handle ∧ s'.recovered = s.recovered)
  ∨ (dr = 1 ∧ dd = 0 ∧ s.handle = true ∧ s'.handle = false ∧ s'.recovered = true)
  ∨ (dr = 0 ∧ 0 < dd ∧ s'.handle = false ∧ s'.recovered = s.recovered)

theorem endInv_step {progs : List (List Call)} {s' : Sys} {t' : Thread} {tid dr dd lost : Nat} (h : EndInv progs s)
    (hg : s.threads[tid]? = some t) (hth : s'.threads = setAt s.threads tid t') (te : TE t t' dr dd lost)
    (se : SysEnds s s' dr dd) (hl : 0 < lost → s.handle = false) (hinv : Inv s') : EndInv progs s' := by
  have S : ∀ f : Thread → Nat, sumT f s' + f t = sumT f s + f t' := fun f => by
    rw [sumT, hth]; exact sum_map_setAt f s.threads tid t' t hg
  have hR := total_grows (S recN) te.r
  have hD := total_grows (S drpN) te.d
  have hI := total_shrinks (S iiLeft) te.ii
  have hH := total_shrinks (S dhLeft) ((Nat.add_assoc ..).symm.trans te.dh)
  have hdone : ∀ u ∈ s'.threads, doneOk u := fun u hu => by
    rcases mem_setAt (hth ▸ hu) with rfl | hu
    · exact te.dn (h.done_ok t (List.mem_of_getElem? hg))
    · exact h.done_ok u hu
  clear S te hth hg
  have ⟨hi, a1, a2, a3, a4, a5, _⟩ := h
  clear h
  have b1 : sumT recN s' + sumT iiLeft s' = iiTotal progs := by omega
  have b2 : sumT drpN s' + sumT dhLeft s' ≤ dhTotal progs := by omega
  rcases se with ⟨rfl, rfl, k1, k2⟩ | ⟨rfl, rfl, k1, k2, k3⟩ | ⟨rfl, d1, k1, k2⟩
  · refine ⟨hinv, b1, b2, ?_, by rw [k2, hR, a4]; rfl, by rw [k1, a5, hR, hD]; rfl, hdone⟩
    rw [k1]
    rcases a3 with x | x
    · rcases Nat.eq_zero_or_pos lost with y | y
      · left; omega
      · exact .inr (hl y)
    · exact .inr x
  · have hs0 : sumT recN s = 0 := by rw [a4, (hi.handle_live k1).2]; rfl
    exact ⟨hinv, b1, b2, .inr k2, by rw [k3, hR, hs0]; rfl, ⟨fun _ => by omega, fun _ => k2⟩, hdone⟩
  · exact ⟨hinv, b1, b2, .inr k1, by rw [k2, hR, a4]; rfl, ⟨fun _ => by omega, fun _ => k1⟩, hdone⟩

theorem Eff.endInv {progs : List (List Call)} {s' : Sys} {t' : Thread} {tid : Nat} (e : Eff s t s' t')
    (h : EndInv progs s) (hg : s.threads[tid]? = some t) :
    EndInv progs { s' with threads := setAt s.threads tid t' } := by
  have hinv := e.inv h.inv hg
  have z : 0 < 0 → s.handle = false := fun x => absurd x (Nat.lt_irrefl 0)
  cases e with
  | @same _ dd _ _ te hl hd =>
    refine endInv_step h hg rfl te ?_ (fun x => ?_) hinv
    · rcases Nat.eq_zero_or_pos dd with rfl | x
      · exact .inl ⟨rfl, rfl, rfl, rfl⟩
      · exact .inr (.inr ⟨rfl, x, hd x, rfl⟩)
    · exact h.inv.handle_gone (hl x)
  | enter _ _ te => exact endInv_step h hg rfl te (.inl ⟨rfl, rfl, rfl, rfl⟩) z hinv
  | leave _ te => exact endInv_step h hg rfl te (.inl ⟨rfl, rfl, (release_hr _).1, (release_hr _).2.1⟩) z hinv
  | unwrap hh h1 _ te =>
    -- nobody is inside when the count is 1 and the handle exists: in particular not the unwrapping thread
    have h0 : insN t = 0 := by
      have := h.inv.strong_of_handle hh
      have := h.inv.inside_eq
      have := insN_le_insCount hg
      omega
    exact endInv_step h hg rfl (te h0) (.inr (.inl ⟨rfl, rfl, hh, rfl, rfl⟩)) z hinv
  | hdrop _ _ te =>
    exact endInv_step h hg rfl te (.inr (.inr ⟨rfl, Nat.one_pos, (release_hr _).1, (release_hr _).2.1⟩)) z hinv

theorem step_endInv (progs : List (List Call)) (s : Sys) (tid : Nat) (h : EndInv progs s) : EndInv progs (step s tid) := by
  cases hg : s.threads[tid]? with
  | none => rw [step_none s tid hg]; exact h
  | some t => rw [step_some s tid t hg, stepThread_threads]; exact (stepThread_eff s t).endInv h hg

theorem run_endInv (progs : List (List Call)) (sched : List Nat) : ∀ s, EndInv progs s → EndInv progs (run s sched) :=
  fun _ h => List.foldlRecOn sched step h fun s hs tid _ => step_endInv progs s tid hs

end MetricsVerif.Recoverable
