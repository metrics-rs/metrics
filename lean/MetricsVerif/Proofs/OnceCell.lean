/-
Inductive invariant of the `RecorderOnceCell` step machine (for C02). One thread step is described once, as a relation
`Eff` between the shared state and the thread before and after; everything else is read off that relation: what the
step does to the counters, to the shared cell, to the other threads' view, and which answer a completed call gives.
-/
import MetricsVerif.Model.OnceCell
import MetricsVerif.Proofs.ListAt

namespace MetricsVerif.OnceCell

def okN (t : Thread) : Nat := t.results.countP (· = Res.ok)
def critN (t : Thread) : Nat := if t.pc = .write ∨ t.pc = .store then 1 else 0
def okCount (s : Sys) : Nat := (s.threads.map okN).sum
def critCount (s : Sys) : Nat := (s.threads.map critN).sum

/-- both orderings are at least as strong as the publish/consume idiom needs -/
def OrdOK (o : Ord) : Prop := o.storeRelease = true ∧ o.loadAcquire = true

structure TInv (o : Ord) (s : Sys) (t : Thread) : Prop where
  at_read : t.pc = .read → s.state = 2
  at_read_sync : OrdOK o → t.pc = .read → t.synced = true
  at_store : t.pc = .store → ∃ r, s.cell = some r
  some_res : ∀ r, Res.some r ∈ t.results → s.state = 2 ∧ s.cell = some r
  no_torn : Res.torn ∉ t.results

/-- `c0`–`c2`: the state counter is the progress made, two for an installation that answered `Ok`, one for a thread
    between its CAS and its store -/
structure Inv (o : Ord) (s : Sys) : Prop where
  st_le : s.state ≤ 2
  c0 : s.state = 0 → okCount s = 0 ∧ critCount s = 0
  c1 : s.state = 1 → okCount s = 0 ∧ critCount s = 1
  c2 : s.state = 2 → okCount s = 1 ∧ critCount s = 0
  cell2 : s.state = 2 → ∃ w, s.cell = some w
  pub2 : s.state = 2 → s.published = o.storeRelease
  no_race : OrdOK o → s.raced = false
  thr : ∀ t ∈ s.threads, TInv o s t

theorem Inv.critN_zero {o : Ord} {s : Sys} {t : Thread} (h : Inv o s) (ht : t ∈ s.threads) (hs : s.state ≠ 1) :
    critN t = 0 := by
  have hle : critN t ≤ critCount s := le_sum_map critN ht
  have := h.st_le; have := h.c0; have := h.c2
  omega

theorem Inv.state_of_ok {o : Ord} {s : Sys} {t : Thread} (h : Inv o s) (ht : t ∈ s.threads)
    (hok : Res.ok ∈ t.results) : s.state = 2 := by
  have hpos : 0 < okN t := List.countP_pos_iff.mpr ⟨_, hok, decide_eq_true rfl⟩
  have hle : okN t ≤ okCount s := le_sum_map okN ht
  have := h.st_le; have := h.c0; have := h.c1
  omega

theorem Inv.okCount_le {o : Ord} {s : Sys} (h : Inv o s) : okCount s ≤ 1 := by
  have := h.st_le; have := h.c0; have := h.c1; have := h.c2
  omega

theorem pcOfCall_not_crit (c : Call) : pcOfCall c ≠ .write ∧ pcOfCall c ≠ .store ∧ pcOfCall c ≠ .read := by
  cases c <;> exact ⟨nofun, nofun, nofun⟩

theorem advance_pc_not_crit (t : Thread) (r : Res) :
    (t.advance r).pc ≠ .write ∧ (t.advance r).pc ≠ .store ∧ (t.advance r).pc ≠ .read := by
  unfold Thread.advance
  cases settle r t.calls.tail with
  | nil => exact ⟨nofun, nofun, nofun⟩
  | cons c rest => exact pcOfCall_not_crit c

theorem advance_results (t : Thread) (r : Res) : (t.advance r).results = t.results ++ [r] := rfl
theorem advance_synced (t : Thread) (r : Res) : (t.advance r).synced = t.synced := rfl

theorem critN_advance (t : Thread) (r : Res) : critN (t.advance r) = 0 := by
  have := advance_pc_not_crit t r
  simp [critN, this.1, this.2.1]

theorem okN_advance (t : Thread) (r : Res) : okN (t.advance r) = okN t + (if r = Res.ok then 1 else 0) := by
  simp [okN, advance_results, List.countP_append, List.countP_cons]

theorem TInv.mono {o : Ord} {s s' : Sys} {t : Thread} (h : TInv o s t)
    (hst : s.state = 2 → s'.state = 2 ∧ s'.cell = s.cell)
    (hcell : (∃ r, s.cell = some r) → ∃ r, s'.cell = some r) : TInv o s' t :=
  { at_read := fun hp => (hst (h.at_read hp)).1
    at_read_sync := h.at_read_sync
    at_store := fun hp => hcell (h.at_store hp)
    some_res := fun r hr =>
      have ⟨h2, hc⟩ := h.some_res r hr
      ⟨(hst h2).1, (hst h2).2.trans hc⟩
    no_torn := h.no_torn }

theorem TInv.advance {o : Ord} {s : Sys} {t : Thread} (hT : TInv o s t) (r : Res) (hr : r ≠ .torn)
    (hs : ∀ x, r = .some x → s.state = 2 ∧ s.cell = some x) : TInv o s (t.advance r) := by
  have hn := advance_pc_not_crit t r
  have hmem : ∀ x, x ∈ (t.advance r).results → x ∈ t.results ∨ x = r := fun x hx => by
    simpa [advance_results] using hx
  exact { at_read := fun x => absurd x hn.2.2, at_read_sync := fun _ x => absurd x hn.2.2,
          at_store := fun x => absurd x hn.2.1,
          some_res := fun x hx => (hmem _ hx).elim (hT.some_res x) (fun e => hs x e.symm),
          no_torn := fun hx => (hmem _ hx).elim hT.no_torn (fun e => hr e.symm) }

theorem TInv.repc {o : Ord} {s : Sys} {t t' : Thread} (hT : TInv o s t) (hres : t'.results = t.results)
    (hs : t'.pc = .store → ∃ r, s.cell = some r)
    (hr : t'.pc = .read → s.state = 2 ∧ (OrdOK o → t'.synced = true)) : TInv o s t' :=
  { at_read := fun x => (hr x).1, at_read_sync := fun ho x => (hr x).2 ho, at_store := hs,
    some_res := hres ▸ hT.some_res, no_torn := hres ▸ hT.no_torn }

theorem init_inv (o : Ord) (progs : List (List Call)) : Inv o (init progs) := by
  have hz : ∀ f : Thread → Nat, (∀ p, f (mkThread p) = 0) → ((init progs).threads.map f).sum = 0 := fun f hf =>
    List.sum_eq_zero_iff_forall_eq_nat.mpr (by simp [init, hf])
  have h0 : okCount (init progs) = 0 ∧ critCount (init progs) = 0 := ⟨hz okN fun _ => rfl, hz critN fun _ => rfl⟩
  refine { st_le := Nat.zero_le 2, c0 := fun _ => h0, c1 := nofun, c2 := nofun, cell2 := nofun, pub2 := nofun,
           no_race := fun _ => rfl, thr := ?_ }
  intro t ht
  obtain ⟨p, _, rfl⟩ := List.mem_map.mp ht
  exact { at_read := nofun, at_read_sync := fun _ => nofun, at_store := nofun, some_res := nofun, no_torn := nofun }

/-- the possible effects of one thread step: the shared state and the thread before, and after -/
inductive Eff (o : Ord) (s : Sys) (t : Thread) : Sys → Thread → Prop
  | noop : Eff o s t s t
  | start (p : PC) : t.pc = .start → p ≠ .write → p ≠ .store → p ≠ .read → Eff o s t s { t with pc := p }
  | casWin : t.pc = .cas → s.state = 0 → Eff o s t { s with state := 1 } { t with pc := .write, synced := true }
  | casLose (x : Nat) : t.pc = .cas → s.state ≠ 0 → Eff o s t s (t.advance (.err x))
  | write (x : Nat) : t.pc = .write → Eff o s t { s with cell := some x } { t with pc := .store }
  | store : t.pc = .store → Eff o s t { s with state := 2, published := o.storeRelease } (t.advance .ok)
  | loadNone : t.pc = .loadState → s.state ≠ 2 → Eff o s t s (t.advance .none)
  | loadInit : t.pc = .loadState → s.state = 2 →
      Eff o s t s { t with pc := .read, synced := t.synced || (o.loadAcquire && s.published) }
  | read : t.pc = .read →
      Eff o s t { s with raced := !t.synced || s.raced }
        (t.advance (match s.cell with | some r => .some r | none => .torn))

theorem stepThread_eff (o : Ord) (s : Sys) (t : Thread) : Eff o s t (stepThread o s t).1 (stepThread o s t).2 := by
  have hread : (if t.synced = true then s else { s with raced := true }) = { s with raced := !t.synced || s.raced } := by
    cases t.synced <;> rfl
  unfold stepThread
  split
  · rename_i hp _; exact .start _ hp nofun nofun nofun
  · rename_i c _ hp _
    have := pcOfCall_not_crit c
    exact .start _ hp this.1 this.2.1 this.2.2
  · rename_i r _ hp _
    split
    · rename_i h0; exact .casWin hp h0
    · rename_i h0; exact .casLose r hp h0
  · rename_i r _ hp _; exact .write r hp
  · rename_i hp _; exact .store hp
  · rename_i hp _
    split
    · rename_i h2; exact .loadInit hp h2
    · rename_i h2; exact .loadNone hp h2
  · rename_i hp _
    split
    · rename_i h2; exact .loadInit hp h2
    · rename_i h2; exact .loadNone hp h2
  · rename_i hp _; exact hread ▸ .read hp
  · rename_i hp _; exact hread ▸ .read hp
  · exact .noop

section
variable {o : Ord} {s s' : Sys} {t t' : Thread}

theorem Eff.threads (e : Eff o s t s' t') : s'.threads = s.threads := by
  cases e <;> rfl

theorem step_eff (o : Ord) (s : Sys) (tid : Nat) :
    step o s tid = s ∨ ∃ t s' t', s.threads[tid]? = some t ∧ Eff o s t s' t'
      ∧ step o s tid = { s' with threads := setAt s.threads tid t' } := by
  unfold step
  cases hg : s.threads[tid]? with
  | none => exact .inl rfl
  | some t => exact .inr ⟨t, _, _, rfl, stepThread_eff o s t, by simp only [(stepThread_eff o s t).threads]⟩

/-- which answer a call can complete with, by where the thread and the cell stand -/
def Answers (s : Sys) (t : Thread) : Res → Prop
  | .err _ => t.pc = .cas ∧ s.state ≠ 0
  | .ok => t.pc = .store
  | .none => t.pc = .loadState ∧ s.state ≠ 2
  | .some r => t.pc = .read ∧ s.cell = some r
  | .torn => t.pc = .read ∧ s.cell = none

theorem Eff.answer (e : Eff o s t s' t') :
    (t'.calls = t.calls ∧ t'.results = t.results) ∨ ∃ x, t' = t.advance x ∧ Answers s t x := by
  cases e with
  | casLose x hp h0 => exact .inr ⟨_, rfl, hp, h0⟩
  | store hp => exact .inr ⟨_, rfl, hp⟩
  | loadNone hp h2 => exact .inr ⟨_, rfl, hp, h2⟩
  | read hp => exact .inr ⟨_, rfl, by cases hc : s.cell <;> exact ⟨hp, hc⟩⟩
  | _ => exact .inl ⟨rfl, rfl⟩

theorem Eff.counts (e : Eff o s t s' t') :
    (s'.state = s.state ∧ okN t' = okN t ∧ critN t' = critN t)
    ∨ (s.state = 0 ∧ s'.state = 1 ∧ okN t' = okN t ∧ critN t = 0 ∧ critN t' = 1)
    ∨ (s'.state = 2 ∧ okN t' = okN t + 1 ∧ critN t = 1 ∧ critN t' = 0) := by
  cases e with
  | noop => exact .inl ⟨rfl, rfl, rfl⟩
  | start p hp h1 h2 _ => exact .inl ⟨rfl, rfl, by simp [critN, hp, h1, h2]⟩
  | casWin hp h0 => exact .inr (.inl ⟨h0, rfl, rfl, by simp [critN, hp], rfl⟩)
  | casLose x hp _ => exact .inl ⟨rfl, by simp [okN_advance], (critN_advance ..).trans (by simp [critN, hp])⟩
  | write x hp => exact .inl ⟨rfl, rfl, by simp [critN, hp]⟩
  | store hp => exact .inr (.inr ⟨rfl, by simp [okN_advance], by simp [critN, hp], critN_advance ..⟩)
  | loadNone hp _ => exact .inl ⟨rfl, by simp [okN_advance], (critN_advance ..).trans (by simp [critN, hp])⟩
  | loadInit hp _ => exact .inl ⟨rfl, rfl, by simp [critN, hp]⟩
  | read hp => exact .inl ⟨rfl, by cases s.cell <;> simp [okN_advance], (critN_advance ..).trans (by simp [critN, hp])⟩

/-- the counting clauses of `Inv` as arithmetic: `st` the state counter, `ok` = `okCount`, `cr` = `critCount`, `a` and
    `c` the stepping thread's shares of them, `hd` from `Eff.counts`, `hc` from `Inv.critN_zero` -/
theorem counts_step {st st' ok ok' cr cr' a a' c c' : Nat} (hsl : st ≤ 2)
    (h0 : st = 0 → ok = 0 ∧ cr = 0) (h1 : st = 1 → ok = 0 ∧ cr = 1) (h2 : st = 2 → ok = 1 ∧ cr = 0)
    (hc : st ≠ 1 → c = 0) (hok : ok' + a = ok + a') (hcr : cr' + c = cr + c')
    (hd : (st' = st ∧ a' = a ∧ c' = c) ∨ (st = 0 ∧ st' = 1 ∧ a' = a ∧ c = 0 ∧ c' = 1)
      ∨ (st' = 2 ∧ a' = a + 1 ∧ c = 1 ∧ c' = 0)) :
    st' ≤ 2 ∧ (st' = 0 → ok' = 0 ∧ cr' = 0) ∧ (st' = 1 → ok' = 0 ∧ cr' = 1) ∧ (st' = 2 → ok' = 1 ∧ cr' = 0) := by
  rcases hd with ⟨rfl, rfl, rfl⟩ | ⟨rfl, rfl, rfl, rfl, rfl⟩ | ⟨rfl, rfl, rfl, rfl⟩
  · obtain rfl := Nat.add_right_cancel hok
    obtain rfl := Nat.add_right_cancel hcr
    exact ⟨hsl, h0, h1, h2⟩
  · obtain ⟨rfl, rfl⟩ := h0 rfl
    obtain rfl : ok' = 0 := Nat.add_right_cancel hok
    obtain rfl : cr' = 1 := hcr
    exact ⟨by decide, nofun, fun _ => ⟨rfl, rfl⟩, nofun⟩
  · obtain rfl : st = 1 := Decidable.by_contra fun h => absurd (hc h) nofun
    obtain ⟨rfl, rfl⟩ := h1 rfl
    obtain rfl : ok' = 1 := by omega
    obtain rfl : cr' = 0 := by omega
    exact ⟨Nat.le_refl 2, nofun, nofun, fun _ => ⟨rfl, rfl⟩⟩

/-- the two hypotheses of `TInv.mono`; `hc` (`Inv.critN_zero`): only the thread in the INITIALIZING window writes -/
theorem Eff.shared (e : Eff o s t s' t') (hc : s.state ≠ 1 → critN t = 0) :
    (s.state = 2 → s'.state = 2 ∧ s'.cell = s.cell) ∧ ((∃ r, s.cell = some r) → ∃ r, s'.cell = some r) := by
  have hcrit : t.pc = .write ∨ t.pc = .store → s.state ≠ 2 := fun hp h2 => by
    have := hc (by omega); simp [critN, hp] at this
  cases e with
  | casWin _ h0 => exact ⟨fun h2 => by omega, id⟩
  | write x hp => exact ⟨fun h2 => absurd h2 (hcrit (.inl hp)), fun _ => ⟨x, rfl⟩⟩
  | store hp => exact ⟨fun h2 => absurd h2 (hcrit (.inr hp)), id⟩
  | _ => exact ⟨fun h2 => ⟨h2, rfl⟩, id⟩

theorem Eff.whole (e : Eff o s t s' t') (h : Inv o s) (hT : TInv o s t) (h2 : s'.state = 2) :
    (∃ w, s'.cell = some w) ∧ s'.published = o.storeRelease := by
  cases e with
  | casWin => cases h2
  | write x _ => exact ⟨⟨x, rfl⟩, h.pub2 h2⟩
  | store hp => exact ⟨hT.at_store hp, rfl⟩
  | _ => exact ⟨h.cell2 h2, h.pub2 h2⟩

theorem Eff.raced (e : Eff o s t s' t') (hr : s.raced = false) (hs : t.pc = .read → t.synced = true) :
    s'.raced = false := by
  cases e with
  | read hp => simp [hs hp, hr]
  | _ => exact hr

theorem Eff.tinv (e : Eff o s t s' t') (h : Inv o s) (hT : TInv o s t) (hc : s.state ≠ 1 → critN t = 0) :
    TInv o s' t' := by
  have hT' : TInv o s' t := hT.mono (e.shared hc).1 (e.shared hc).2
  cases e with
  | noop => exact hT
  | start p _ _ h2 h3 => exact hT.repc rfl (absurd · h2) (absurd · h3)
  | casWin => exact hT'.repc rfl nofun nofun
  | casLose x => exact hT.advance _ nofun nofun
  | write x => exact hT'.repc rfl (fun _ => ⟨x, rfl⟩) nofun
  | store => exact hT'.advance _ nofun nofun
  | loadNone => exact hT.advance _ nofun nofun
  | loadInit _ h2 =>
    exact hT.repc rfl nofun fun _ => ⟨h2, fun ho => by simp [h.pub2 h2, ho.1, ho.2]⟩
  | read hp =>
    have h2 := hT.at_read hp
    obtain ⟨w, hw⟩ := h.cell2 h2
    have hx : (match s.cell with | some r => Res.some r | none => Res.torn) = .some w := by rw [hw]
    rw [hx]
    exact hT'.advance _ nofun fun x hx => by cases hx; exact ⟨h2, hw⟩

end

theorem step_inv (o : Ord) (s : Sys) (tid : Nat) (h : Inv o s) : Inv o (step o s tid) := by
  rcases step_eff o s tid with hs | ⟨t, s', t', hg, e, hs⟩ <;> rw [hs]
  · exact h
  have ht := List.mem_of_getElem? hg
  have hT := h.thr t ht
  have hc := h.critN_zero ht
  have hn := counts_step h.st_le h.c0 h.c1 h.c2 hc (sum_map_setAt okN _ tid t' t hg)
    (sum_map_setAt critN _ tid t' t hg) e.counts
  have hthr : ∀ u ∈ setAt s.threads tid t', TInv o s' u := fun u hu =>
    (mem_setAt hu).elim (· ▸ e.tinv h hT hc) fun hu => (h.thr u hu).mono (e.shared hc).1 (e.shared hc).2
  exact { st_le := hn.1, c0 := hn.2.1, c1 := hn.2.2.1, c2 := hn.2.2.2
          cell2 := fun h2 => (e.whole h hT h2).1
          pub2 := fun h2 => (e.whole h hT h2).2
          no_race := fun ho => e.raced (h.no_race ho) (hT.at_read_sync ho)
          thr := fun u hu => (hthr u hu).mono (fun h2 => ⟨h2, rfl⟩) id }

theorem run_cons (o : Ord) (s : Sys) (tid : Nat) (ts : List Nat) :
    run o s (tid :: ts) = run o (step o s tid) ts := rfl

theorem run_append (o : Ord) (s : Sys) (a b : List Nat) : run o s (a ++ b) = run o (run o s a) b :=
  List.foldl_append

theorem run_induction {o : Ord} {J : Sys → Prop} (sched : List Nat)
    (hstep : ∀ s, ∀ tid ∈ sched, Inv o s → J s → J (step o s tid)) :
    ∀ s, Inv o s → J s → Inv o (run o s sched) ∧ J (run o s sched) := by
  induction sched with
  | nil => exact fun s h j => ⟨h, j⟩
  | cons t ts ih =>
    exact fun s h j => ih (fun s tid ht => hstep s tid (.tail _ ht)) _ (step_inv o s t h) (hstep s t (.head _) h j)

theorem run_inv (o : Ord) (sched : List Nat) : ∀ s, Inv o s → Inv o (run o s sched) :=
  fun s h => (run_induction (J := fun _ => True) sched (fun _ _ _ _ _ => trivial) s h trivial).1

end MetricsVerif.OnceCell
