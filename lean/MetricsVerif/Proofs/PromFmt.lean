/-
The writers of `Model/PromFmt.lean` against the independent reader of `Model/Exposition.lean`: the two name sanitizers
produce names the grammar accepts; what the escaper writes is well-formed escaped text (`WF`: escape pairs and harmless
characters), which the reader's label-value and docstring scanners accept; the reader's label scanner on a written
label block; none of the parts a line is written from contains a newline.
-/
import MetricsVerif.Model.PromFmt
import MetricsVerif.Model.Exposition
import MetricsVerif.Model.PromRender

namespace MetricsVerif.PromFmt
open MetricsVerif.Expo

theorem sanitizeWith_length (st rs : Char → Bool) (s : List Char) :
    (sanitizeWith st rs s).length = s.length := by
  cases s <;> simp [sanitizeWith]

theorem sanitizeWith_ok {st rs : Char → Bool} (hs : st '_' = true) (hr : rs '_' = true) {s : List Char} (h : s ≠ []) :
    ∃ c cs, sanitizeWith st rs s = c :: cs ∧ st c = true ∧ cs.all rs = true := by
  cases s with
  | nil => exact absurd rfl h
  | cons c cs =>
    refine ⟨_, _, rfl, ?_, ?_⟩
    · split <;> assumption
    · simp only [List.all_map, List.all_eq_true]
      intro x _
      show rs (if rs x = true then x else '_') = true
      split <;> assumption

theorem sanitizeMetricName_grammar (s : List Char) (h : s ≠ []) :
    IsMetricName (sanitizeMetricName s) = true := by
  obtain ⟨c, cs, e, h1, h2⟩ := sanitizeWith_ok (st := validNameStart) (rs := validNameChar) (by decide) (by decide) h
  rw [sanitizeMetricName, e]
  exact Bool.and_eq_true_iff.2 ⟨h1, h2⟩

theorem sanitizeLabelKey_grammar (s : List Char) (h : s ≠ []) :
    IsLabelName (sanitizeLabelKey s) = true := by
  obtain ⟨c, cs, e, h1, h2⟩ := sanitizeWith_ok (st := validLabelStart) (rs := validLabelChar) (by decide) (by decide) h
  rw [sanitizeLabelKey, e]
  exact Bool.and_eq_true_iff.2 ⟨h1, h2⟩

theorem sanitizeMetricName_id (s : List Char) (h : IsMetricName s = true) : sanitizeMetricName s = s := by
  cases s with
  | nil => rfl
  | cons c cs =>
    obtain ⟨(h1 : validNameStart c = true), (h2 : cs.all validNameChar = true)⟩ := Bool.and_eq_true_iff.1 h
    show (if validNameStart c = true then c else '_') :: cs.map (fun c => if validNameChar c = true then c else '_') = c :: cs
    rw [if_pos h1, List.map_congr_left fun x hx => if_pos (List.all_eq_true.1 h2 x hx), List.map_id']

/-- Token structure of escaped text. `d = true`: description (HELP docstring) mode, where `"` is an
    ordinary character; `d = false`: label-value mode. -/
inductive WF (d : Bool) : List Char → Prop
  | nil : WF d []
  | safe (c : Char) (t : List Char) : c ≠ '\\' → c ≠ '\n' → (d = false → c ≠ '"') → WF d t → WF d (c :: t)
  | escN (t : List Char) : WF d t → WF d ('\\' :: 'n' :: t)
  | escB (t : List Char) : WF d t → WF d ('\\' :: '\\' :: t)
  | escQ (t : List Char) : d = false → WF d t → WF d ('\\' :: '"' :: t)

theorem escGo_wf (d : Bool) (s : List Char) : ∀ p, WF d (escGo d p s) := by
  induction s with
  | nil => intro p; cases p; exact .nil; exact .escB _ .nil
  | cons c cs ih =>
    intro p
    rw [escGo]
    by_cases h1 : c = '\n'
    · rw [if_pos h1]; exact .escN _ (ih p)
    · rw [if_neg h1]
      by_cases h2 : c = '"' ∧ d = false
      · rw [if_pos h2]; exact .escQ _ h2.2 (ih false)
      · rw [if_neg h2]
        by_cases h3 : c = '\\'
        · rw [if_pos h3]; cases p
          · exact ih true
          · exact .escB _ (ih false)
        · rw [if_neg h3]
          have hs := WF.safe c _ h3 h1 (fun hd hc => h2 ⟨hc, hd⟩) (ih false)
          cases p
          · exact hs
          · exact .escB _ hs

theorem sanitizeLabelValue_wf (s : List Char) : WF false (sanitizeLabelValue s) := escGo_wf false s false
theorem sanitizeDescription_wf (s : List Char) : WF true (sanitizeDescription s) := escGo_wf true s false

theorem WF.no_newline {d : Bool} {t : List Char} (h : WF d t) : '\n' ∉ t := by
  induction h with
  | nil => simp
  | safe c t _ h2 _ _ ih => simp only [List.mem_cons, not_or]; exact ⟨fun e => h2 e.symm, ih⟩
  | escN t _ ih | escB t _ ih | escQ t _ _ ih => simp only [List.mem_cons, not_or]; exact ⟨by decide, by decide, ih⟩

theorem WF.docOk {t : List Char} (h : WF true t) : docOk t = true := by
  unfold Expo.docOk
  induction h with
  | nil => rfl
  | safe c t h1 h2 _ _ ih => simp [docGo, h1, h2, ih]
  | escN t _ ih | escB t _ ih => simp [docGo, ih]
  | escQ t hd _ _ => exact absurd hd (by decide)

theorem labelChar_ne {c : Char} (h : labelChar c = true) : c ≠ '=' ∧ c ≠ '}' := by
  constructor <;> (intro e; subst e; revert h; decide)

theorem nameChar_ne {c : Char} (h : nameChar c = true) : c ≠ '{' ∧ c ≠ ' ' := by
  constructor <;> (intro e; subst e; revert h; decide)

theorem labelsGo_val {t : List Char} (h : WF false t) (k rest : List Char) :
    ∀ acc ls, labelsGo (.val k acc) ls (t ++ '"' :: rest) = labelsGo .after (ls ++ [(k, acc ++ t)]) rest := by
  induction h with
  | nil => intro acc ls; simp [labelsGo]
  | safe c t h1 h2 h3 _ ih =>
    intro acc ls
    have h3' := h3 rfl
    simp [labelsGo, h1, h2, h3', ih]
  | escN t _ ih | escB t _ ih | escQ t _ _ ih => intro acc ls; simp [labelsGo, ih]

theorem labelsGo_key (k : List Char) (hk : k.all labelChar = true) (rest : List Char) :
    ∀ acc ls, labelsGo (.key acc) ls (k ++ rest) = labelsGo (.key (acc ++ k)) ls rest := by
  induction k with
  | nil => intro acc ls; simp
  | cons c cs ih =>
    intro acc ls
    simp only [List.all_cons, Bool.and_eq_true] at hk
    have := labelChar_ne hk.1
    simp [labelsGo, this.1, this.2, hk.1, ih hk.2]

/-- a formatted label `k="t"` -/
def labelStr (kt : List Char × List Char) : List Char := kt.1 ++ ['=', '"'] ++ kt.2 ++ ['"']

def LabelOk (kt : List Char × List Char) : Prop := IsLabelName kt.1 = true ∧ WF false kt.2

theorem isAlphanum_of_isAlpha {c : Char} (h : c.isAlpha = true) : c.isAlphanum = true := by
  rw [Char.isAlphanum, h]; rfl

/-- a first character of a label name is also allowed further on, so the reader's scan by `labelChar` gets through -/
theorem IsLabelName.all {k : List Char} (h : IsLabelName k = true) : k.all labelChar = true := by
  cases k with
  | nil => cases h
  | cons c cs =>
    obtain ⟨h1, h2⟩ := Bool.and_eq_true_iff.1 h
    refine Bool.and_eq_true_iff.2 ⟨?_, h2⟩
    simp only [labelStart, labelChar, Bool.or_eq_true] at h1 ⊢
    exact h1.imp_left isAlphanum_of_isAlpha

theorem IsMetricName.all {n : List Char} (h : IsMetricName n = true) : n.all nameChar = true := by
  cases n with
  | nil => cases h
  | cons c cs =>
    obtain ⟨h1, h2⟩ := Bool.and_eq_true_iff.1 h
    refine Bool.and_eq_true_iff.2 ⟨?_, h2⟩
    simp only [nameStart, nameChar, Bool.or_eq_true] at h1 ⊢
    exact h1.imp_left (·.imp_left isAlphanum_of_isAlpha)

theorem labelsGo_one (kt : List Char × List Char) (h : LabelOk kt) (ls : List _) (rest : List Char) :
    labelsGo (.key []) ls (labelStr kt ++ rest) = labelsGo .after (ls ++ [kt]) rest := by
  obtain ⟨k, t⟩ := kt
  obtain ⟨hk, ht⟩ := h
  simp only [labelStr, List.append_assoc]
  rw [labelsGo_key k (IsLabelName.all hk)]
  simp only [List.nil_append, List.cons_append]
  have := labelsGo_val ht k rest [] ls
  simp only [List.nil_append] at this
  simp [labelsGo, hk, this]

/-- `labels.join(",")`: the first label, then every other one behind a comma -/
theorem joinComma_cons (l : List Char) (ls : List (List Char)) :
    joinComma (l :: ls) = l ++ ls.flatMap (',' :: ·) := by
  induction ls generalizing l with
  | nil => simp [joinComma]
  | cons m more ih => exact congrArg (l ++ ',' :: ·) (ih m)

theorem labelsGo_after (more : List (List Char × List Char)) (h : ∀ kt ∈ more, LabelOk kt) (rest : List Char) :
    ∀ ls, labelsGo .after ls ((more.map labelStr).flatMap (',' :: ·) ++ '}' :: rest) = some (ls ++ more, rest) := by
  induction more with
  | nil => intro ls; simp [labelsGo]
  | cons kt more ih =>
    intro ls
    simp only [List.map_cons, List.flatMap_cons, List.cons_append, List.append_assoc]
    rw [labelsGo, if_pos rfl, labelsGo_one kt (h kt (List.mem_cons_self ..)),
      ih fun x hx => h x (List.mem_cons_of_mem _ hx), List.append_assoc]
    rfl

theorem labelsGo_all (lbls : List (List Char × List Char)) (hne : lbls ≠ [])
    (h : ∀ kt ∈ lbls, LabelOk kt) (rest : List Char) (ls : List (List Char × List Char)) :
    labelsGo (.key []) ls (joinComma (lbls.map labelStr) ++ '}' :: rest) = some (ls ++ lbls, rest) := by
  cases lbls with
  | nil => exact absurd rfl hne
  | cons kt more =>
    rw [List.map_cons, joinComma_cons, List.append_assoc, labelsGo_one kt (h kt (List.mem_cons_self ..)),
      labelsGo_after more fun x hx => h x (List.mem_cons_of_mem _ hx), List.append_assoc]
    rfl

theorem spanName_append (n : List Char) (hn : n.all nameChar = true) (c : Char) (hc : nameChar c = false)
    (rest : List Char) : spanName (n ++ c :: rest) = (n, c :: rest) := by
  induction n with
  | nil => simp [spanName, hc]
  | cons x xs ih =>
    simp only [List.all_cons, Bool.and_eq_true] at hn
    simp [spanName, hn.1, ih hn.2]

theorem parseValue_token (v : List Char) (hv : IsToken v = true) : parseValue (' ' :: v ++ ['\n']) = some v := by
  simp [parseValue, hv]

theorem joinComma_snoc (ls : List (List Char)) (e : List Char) :
    joinComma (ls ++ [e]) = joinComma ls ++ (if ls.isEmpty then [] else [',']) ++ e := by
  cases ls with
  | nil => simp [joinComma]
  | cons l more => simp [joinComma_cons, List.flatMap_append]

theorem labelBlock_eq (lbls : List (List Char × List Char)) (extra : Option (List Char × List Char)) :
    labelBlock (lbls.map labelStr) extra
      = '{' :: joinComma ((lbls ++ extra.toList).map labelStr) ++ ['}'] := by
  unfold labelBlock
  cases extra with
  | none => simp
  | some kt =>
    obtain ⟨k, t⟩ := kt
    simp only [Option.toList, List.map_append, List.map, joinComma_snoc, labelStr]
    simp

theorem labelOk_append {lbls : List (List Char × List Char)} {extra : Option (List Char × List Char)}
    (hl : ∀ kt ∈ lbls, LabelOk kt) (he : ∀ kt, extra = some kt → LabelOk kt) :
    ∀ kt ∈ lbls ++ extra.toList, LabelOk kt := fun kt h =>
  (List.mem_append.1 h).elim (hl kt) fun h => he kt (Option.mem_toList.1 h)

/-- the finite table of `Unit::as_str`, by evaluation.  (`String.toList_ofList` turns a string literal into its list of
    characters without the kernel having to decode the literal, which takes time quadratic in its length.) -/
theorem asStr_chars (u : MUnit) : u.asStr.toList.all nameChar = true := by
  cases u <;> (simp only [MUnit.asStr]; rw [String.toList_ofList]; decide +kernel)

theorem unitSuffix_cases (u : Option MUnit) (x : List Char) (h : unitSuffix u = some x) :
    x = "ratio".toList ∨ ∃ v : MUnit, x = v.asStr.toList := by
  rcases u with _ | v
  · cases h
  · cases v
    case count => cases h
    case percent => exact Or.inl (Option.some.inj h).symm
    all_goals exact Or.inr ⟨_, (Option.some.inj h).symm⟩

theorem unitSuffix_chars (u : Option MUnit) (x : List Char) (h : unitSuffix u = some x) : x.all nameChar = true := by
  rcases unitSuffix_cases u x h with rfl | ⟨v, rfl⟩
  · decide +kernel
  · exact asStr_chars v

theorem no_newline_of_all {p : Char → Bool} (hp : p '\n' = false) {n : List Char} (h : n.all p = true) :
    '\n' ∉ n :=
  fun hm => Bool.false_ne_true (hp ▸ List.all_eq_true.mp h _ hm)

theorem isToken_no_newline {v : List Char} (h : IsToken v = true) : '\n' ∉ v :=
  no_newline_of_all (by decide +kernel) (Bool.and_eq_true_iff.1 h).2

theorem isType_no_newline {t : List Char} (h : isType t = true) : '\n' ∉ t := by
  simp only [isType, Bool.or_eq_true, beq_iff_eq] at h
  rcases h with (((h | h) | h) | h) | h <;> (subst h; rw [String.toList_ofList]; decide +kernel)

theorem labelOk_no_newline {kt : List Char × List Char} (h : LabelOk kt) : '\n' ∉ labelStr kt :=
  List.not_mem_append (List.not_mem_append (List.not_mem_append
    (no_newline_of_all (by decide +kernel) (IsLabelName.all h.1)) (by decide +kernel)) h.2.no_newline) (by decide +kernel)

theorem joinComma_no_newline (ls : List (List Char)) (h : ∀ l ∈ ls, '\n' ∉ l) : '\n' ∉ joinComma ls := by
  cases ls with
  | nil => exact List.not_mem_nil
  | cons l more =>
    rw [joinComma_cons]
    refine List.not_mem_append (h l (List.mem_cons_self ..)) fun hm => ?_
    obtain ⟨m, hm, hc⟩ := List.mem_flatMap.1 hm
    rcases List.mem_cons.1 hc with e | hc
    · exact absurd e (by decide)
    · exact h m (List.mem_cons_of_mem _ hm) hc

theorem labelBlock_no_newline (lbls : List (List Char × List Char)) (e : Option (List Char × List Char))
    (h : ∀ kt ∈ lbls ++ e.toList, LabelOk kt) : '\n' ∉ labelBlock (lbls.map labelStr) e := by
  rw [labelBlock_eq]
  have : '\n' ∉ joinComma ((lbls ++ e.toList).map labelStr) :=
    joinComma_no_newline _ (List.forall_mem_map.2 fun kt hkt => labelOk_no_newline (h kt hkt))
  show '\n' ∉ ['{'] ++ _ ++ ['}']
  exact List.not_mem_append (List.not_mem_append (by decide +kernel) this) (by decide +kernel)

theorem splitLines_oneLine_append (body rest : List Char) (h : '\n' ∉ body) :
    splitLines (body ++ ['\n'] ++ rest) = (body ++ ['\n']) :: splitLines rest := by
  induction body with
  | nil => simp [splitLines]
  | cons c cs ih =>
    simp only [List.mem_cons, not_or] at h
    have hc : c ≠ '\n' := fun e => h.1 e.symm
    simp only [List.cons_append, splitLines, hc, if_false]
    have := ih h.2
    simp only [List.append_assoc, List.cons_append, List.nil_append] at this
    simp [this]

end MetricsVerif.PromFmt
