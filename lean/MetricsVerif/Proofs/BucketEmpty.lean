/-
C05, the claim-counter invariant behind `is_empty`: claim counters only grow (`step_write`), and a block that another
block links to has had a slot claimed — a new block is linked above `old` only by a pusher whose claim on `old` found
it full, i.e. after the claim counter of `old` was incremented (`LWInv`).  `is_empty` decides on the claim counters of
the tail it loaded and of that tail's predecessor (the `fix:` for the former K3 — on the published length the
completeness theorem of `Proofs/BucketEmptyLive.lean` would be false).
-/
import MetricsVerif.Proofs.BucketSnap

namespace MetricsVerif.Bucket

/-- a block that another block links to has had its claim counter incremented; so has the block a thread parked at
    the hand-over CAS wants to replace -/
structure LWInv (s : Sys) : Prop where
  base : AInv s
  link : ∀ k j, nextAt s.blocks k = some (some j) → 1 ≤ (getBlock s j).write
  casnew : ∀ (i : Nat) (t : Thread) (old : Nat), s.threads[i]? = some t → t.pc = .pCasNew old →
      1 ≤ (getBlock s old).write

theorem lwstep (s : Sys) (tid : Nat) (h : LWInv s) : LWInv (step s tid) := by
  cases hg : s.threads[tid]? with
  | none => rw [step_none hg]; exact h
  | some t =>
    refine ⟨astep_inv s tid h.base, ?_, ?_⟩
    · intro k j hn
      by_cases hk : k < s.blocks.length
      · rw [step_nextAt s tid k hk] at hn
        exact Nat.le_trans (h.link k j hn) (step_write s tid j)
      · rw [step_eq s tid t hg] at hn
        have hp := (stepThread_eff s t).new_link k j (by omega) hn
        exact Nat.le_trans (h.casnew tid t j hg hp) (step_write s tid j)
    · intro i u old hu hpc
      by_cases hi : tid = i
      · subst hi
        rw [step_self hg] at hu; cases hu
        obtain ⟨⟨r, hp⟩, hw⟩ : Arrived s t _ (.pCasNew old) := hpc ▸ (stepThread_eff s t).arrived
        rw [step_getBlock s tid t hg]
        exact hw ((h.base.thr tid t hg).claim_lt old r hp)
      · rw [step_other s hi] at hu
        exact Nat.le_trans (h.casnew i u old hu hpc) (step_write s tid old)

theorem lwrun (sched : List Nat) : ∀ s, LWInv s → LWInv (run s sched) := by
  induction sched with
  | nil => intro s h; exact h
  | cons t ts ih => intro s h; exact ih _ (lwstep s t h)

theorem init_lwinv (B : Nat) (progs : List (List Call)) : LWInv (init B progs) := by
  refine ⟨init_ainv B progs, ?_, ?_⟩
  · intro k j hn
    rw [nextAt_ge (by simp [init])] at hn; cases hn
  · intro i t old ht hpc
    obtain ⟨p, _, rfl⟩ := init_thread ht
    cases hpc

theorem write_pos_of_pub {s : Sys} (h : AInv s) {j v : Nat} (hj : j < s.blocks.length)
    (hp : 1 ≤ pubc v (getBlock s j).cells) : 1 ≤ (getBlock s j).write := by
  have h1 := h.cells_len j _ (getBlock_get hj)
  have h2 : pubc v (getBlock s j).cells ≤ (pubVals (getBlock s j).cells).length := List.count_le_length
  have h3 : (pubVals (getBlock s j).cells).length ≤ (getBlock s j).cells.length := List.length_filterMap_le _ _
  omega

end MetricsVerif.Bucket
