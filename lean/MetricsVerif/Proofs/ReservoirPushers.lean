/-
Epochs of concurrent pushers on the reservoir machine (`Model/ReservoirConc.lean`): any number of threads pushing, no
`consume` step granted.  `PInv`: exact counts and "only pushed values, each at most once" under EVERY schedule.
`BInv`: when the slot stores land in claim order, the side is the sequential Algorithm-R state of the claim order.
Property statements live in `Props/C16.lean`.
-/
import MetricsVerif.Proofs.ReservoirConc
import MetricsVerif.Proofs.ListAt

namespace MetricsVerif.Reservoir

/-- replacing an element by one that weighs `k` less lowers the total by `k` -/
theorem sum_map_set {α : Type} (f : α → Nat) {l : List α} {i : Nat} {a : α} (b : α) {k : Nat} (h : l[i]? = some a)
    (hk : f a = f b + k) : ((l.set i b).map f).sum + k = (l.map f).sum :=
  setAt_eq_set l i b ▸ sum_map_setAt_add f h hk

theorem perm_of_count_le_of_length_eq : ∀ (A B : List Nat), (∀ x, A.count x ≤ B.count x) → A.length = B.length →
    A.Perm B := by
  intro A
  induction A with
  | nil =>
    intro B _ hl
    rw [List.length_eq_zero_iff.mp hl.symm]
  | cons a A ih =>
    intro B h hl
    have ha : a ∈ B := List.count_pos_iff.mp (by have := h a; rw [List.count_cons_self] at this; omega)
    refine ((ih (B.erase a) (fun x => ?_) ?_).cons a).trans (List.perm_cons_erase ha).symm
    · have := h x
      rw [List.count_cons] at this
      rw [List.count_erase]
      exact Nat.le_sub_of_add_le this
    · rw [List.length_erase_of_mem ha, ← hl]
      rfl

theorem ExactDrain.perm {cap : Nat} {tot : List Nat} {d : DrainOut} (e : ExactDrain cap tot d)
    (hle : tot.length ≤ cap) : d.values.Perm tot :=
  perm_of_count_le_of_length_eq _ _ e.sub (by rw [e.length, e.len, Nat.min_eq_left hle])

/-- values of the pushes the threads still have to complete before their next `consume` -/
def pendingOf (ths : List Thread) : List Nat := ths.flatMap (fun th => pushPrefix th.prog)

/-- pushes of the thread (before its next `consume`) that have not executed their `fetch_add` yet -/
def Thread.unclaimed (th : Thread) : Nat :=
  (pushPrefix th.prog).length - (match th.pc with | .claimed _ _ => 1 | _ => 0)

def unclaimedOf (ths : List Thread) : Nat := (ths.map Thread.unclaimed).sum

/-- a thread during an epoch of pushes on side `p` -/
def Thread.pushOk (p : Bool) (th : Thread) : Prop :=
  match th.pc with
  | .idle => True
  | .selected q => q = p ∧ pushPrefix th.prog ≠ []
  | .claimed q _ => q = p ∧ pushPrefix th.prog ≠ []
  | .reading _ _ _ _ => False

/-- Invariant of an epoch of pushers on side `p`.  `tot`: the values to be pushed in the epoch.  `shadow`: ghost copy of
    the slots, `some v` where a push of this epoch has stored, `none` where the slot still has its old content. -/
structure PInv (p : Bool) (cap : Nat) (tot : List Nat) (a : ASR) (ths : List Thread)
    (shadow : List (Option Nat)) : Prop where
  up : a.usePrimary = p
  len : (a.side p).slots.length = cap
  shlen : shadow.length = cap
  agree : ∀ (j v : Nat), shadow[j]? = some (some v) → (a.side p).slots[j]? = some v
  sub : ∀ x, shadow.count (some x) + (pendingOf ths).count x ≤ tot.count x
  cnt : (a.side p).count + unclaimedOf ths = tot.length
  written : ∀ j, j < cap → j < (a.side p).count →
    (∃ v, shadow[j]? = some (some v)) ∨ ∃ (i : Nat) (th : Thread), ths[i]? = some th ∧ th.pc = .claimed p j
  pcs : ∀ th ∈ ths, th.pushOk p

section steps
variable {p : Bool} {cap : Nat} {tot : List Nat} {a : ASR} {ths : List Thread} {sh : List (Option Nat)}
  {i : Nat} {th : Thread}

/-- a thread standing at `pc` is still there after another thread moved -/
theorem witness_keep (th' : Thread) {pc : PC} (hget : ths[i]? = some th) (hne : th.pc ≠ pc) :
    (∃ (i' : Nat) (t' : Thread), ths[i']? = some t' ∧ t'.pc = pc) →
      ∃ (i' : Nat) (t' : Thread), (ths.set i th')[i']? = some t' ∧ t'.pc = pc := by
  rintro ⟨i', t', h1, h2⟩
  refine ⟨i', t', (List.getElem?_set_ne ?_).trans h1, h2⟩
  rintro rfl
  rw [hget] at h1
  cases h1
  exact hne h2

theorem pending_set (th' : Thread) (x : Nat) {k : Nat} (hget : ths[i]? = some th)
    (hk : (pushPrefix th.prog).count x = (pushPrefix th'.prog).count x + k) :
    (pendingOf (ths.set i th')).count x + k = (pendingOf ths).count x := by
  unfold pendingOf
  rw [List.count_flatMap, List.count_flatMap]
  exact sum_map_set _ th' hget hk

theorem pending_set_pc (pc : PC) (x : Nat) (hget : ths[i]? = some th) :
    (pendingOf (ths.set i { th with pc := pc })).count x = (pendingOf ths).count x :=
  pending_set (k := 0) { th with pc := pc } x hget rfl

theorem unclaimed_set (th' : Thread) (k : Nat) (hget : ths[i]? = some th) (hk : th.unclaimed = th'.unclaimed + k) :
    unclaimedOf (ths.set i th') + k = unclaimedOf ths :=
  sum_map_set Thread.unclaimed th' hget hk

theorem unclaimed_set_same (th' : Thread) (hget : ths[i]? = some th) (hk : th.unclaimed = th'.unclaimed) :
    unclaimedOf (ths.set i th') = unclaimedOf ths :=
  unclaimed_set th' 0 hget hk

/-- step 1 of a push: `use_primary.load` -/
theorem PInv.select (h : PInv p cap tot a ths sh) (hget : ths[i]? = some th) (hpc : th.pc = .idle)
    {v c : Nat} {rest : List COp} (hprog : th.prog = .push v c :: rest) :
    PInv p cap tot a (ths.set i { th with pc := .selected a.usePrimary }) sh := by
  refine ⟨h.up, h.len, h.shlen, h.agree, ?_, ?_, ?_, forall_mem_set h.pcs i ?_⟩
  · intro x
    exact (pending_set_pc _ x hget).symm ▸ h.sub x
  · exact unclaimed_set_same { th with pc := .selected a.usePrimary } hget (by rw [Thread.unclaimed, hpc]; rfl) ▸ h.cnt
  · intro j hj hjc
    exact (h.written j hj hjc).imp_right (witness_keep _ hget (by simp [hpc]))
  · exact ⟨h.up, by simp [hprog, pushPrefix]⟩

/-- step 2 of a push: `count.fetch_add` -/
theorem PInv.claim (h : PInv p cap tot a ths sh) (hget : ths[i]? = some th) {q : Bool}
    (hpc : th.pc = .selected q) {v c : Nat} {rest : List COp} (hprog : th.prog = .push v c :: rest) :
    PInv p cap tot (a.setSide q (a.side q).claim.1) (ths.set i { th with pc := .claimed q (a.side q).claim.2 }) sh := by
  obtain ⟨rfl, _⟩ : q = p ∧ _ := by
    have := h.pcs th (List.mem_of_getElem? hget)
    rwa [Thread.pushOk, hpc] at this
  have hs : (a.setSide q (a.side q).claim.1).side q = (a.side q).claim.1 := by rw [side_setSide, if_pos rfl]
  refine ⟨(setSide_usePrimary _ _ _).trans h.up, by rw [hs]; exact h.len, h.shlen, by rw [hs]; exact h.agree, ?_, ?_, ?_,
    forall_mem_set h.pcs i ?_⟩
  · intro x
    exact (pending_set_pc _ x hget).symm ▸ h.sub x
  · have e := unclaimed_set { th with pc := .claimed q (a.side q).claim.2 } 1 hget
      (by simp only [Thread.unclaimed, hpc, hprog, pushPrefix, List.length_cons]; rfl)
    rw [hs]
    show (a.side q).count + 1 + _ = _
    rw [Nat.add_assoc, Nat.add_comm 1, e]
    exact h.cnt
  · intro j hj hjc
    rw [hs] at hjc
    rcases Nat.lt_succ_iff_lt_or_eq.mp hjc with hlt | rfl
    · exact (h.written j hj hlt).imp_right (witness_keep _ hget (by simp [hpc]))
    · exact .inr ⟨i, _, List.getElem?_set_self (List.getElem?_eq_some_iff.mp hget).1, rfl⟩
  · exact ⟨rfl, by simp [hprog, pushPrefix]⟩

/-- step 3 of a push: the slot store (or the replacement draw and store); the shadow records the slot written -/
theorem PInv.store (h : PInv p cap tot a ths sh) (hget : ths[i]? = some th) {q : Bool} {idx : Nat}
    (hpc : th.pc = .claimed q idx) {v c : Nat} {rest : List COp} (hprog : th.prog = .push v c :: rest)
    (asked : List (Option Nat)) :
    ∃ sh', PInv p cap tot (a.setSide q ((a.side q).storeAt idx v c))
      (ths.set i { prog := rest, pc := .idle, asked := asked }) sh' := by
  obtain ⟨rfl, _⟩ : q = p ∧ _ := by
    have := h.pcs th (List.mem_of_getElem? hget)
    rwa [Thread.pushOk, hpc] at this
  have hs : (a.setSide q ((a.side q).storeAt idx v c)).side q
      = { a.side q with slots := (a.side q).slots.set (slotOf cap idx c) v } := by
    rw [side_setSide, if_pos rfl, storeAt_eq, stepSlots_eq_set, h.len]
  refine ⟨sh.set (slotOf cap idx c) (some v), (setSide_usePrimary _ _ _).trans h.up, ?_, ?_, ?_, ?_, ?_, ?_,
    forall_mem_set h.pcs i trivial⟩
  · rw [hs]
    exact List.length_set.trans h.len
  · exact List.length_set.trans h.shlen
  · intro j v' hj
    rw [hs]
    rcases getElem?_set_cases hj with ⟨rfl, e⟩ | ⟨hne, h0⟩
    · rw [Option.some.inj e]
      refine List.getElem?_set_self ?_
      have := (List.getElem?_eq_some_iff.mp hj).1
      rw [List.length_set, h.shlen] at this
      rw [h.len]
      exact this
    · exact (List.getElem?_set_ne (Ne.symm hne)).trans (h.agree j v' h0)
  · intro x
    have h1 := count_set_le sh (slotOf cap idx c) (some v) (some x)
    have h2 := pending_set { prog := rest, pc := .idle, asked := asked } x hget (by rw [hprog]; exact List.count_cons)
    have h3 := h.sub x
    simp only [beq_iff_eq] at h2
    simp only [beq_iff_eq, Option.some.injEq] at h1
    omega
  · rw [hs]
    exact unclaimed_set_same { prog := rest, pc := .idle, asked := asked } hget (by rw [Thread.unclaimed, hpc, hprog]; rfl) ▸ h.cnt
  · intro j hj hjc
    rw [hs] at hjc
    by_cases e : slotOf cap idx c = j
    · exact .inl ⟨v, e ▸ List.getElem?_set_self (by rw [h.shlen, e]; exact hj)⟩
    · rcases h.written j hj hjc with ⟨w, hw⟩ | h1
      · exact .inl ⟨w, (List.getElem?_set_ne e).trans hw⟩
      · -- the witness is not the storing thread: that one wrote slot `idx` itself when `idx < cap`
        refine .inr (witness_keep _ hget ?_ h1)
        rw [hpc]
        rintro e2
        obtain ⟨_, rfl⟩ := PC.claimed.inj e2
        exact e (if_pos hj)

end steps

theorem PInv.step {p : Bool} {cap : Nat} {tot : List Nat} {s : Sys} {sh : List (Option Nat)}
    (h : PInv p cap tot s.asr s.threads sh) (i : Nat) (hn : noConsumeStep s i = true) :
    (∃ sh', PInv p cap tot (cstep s i).asr (cstep s i).threads sh')
      ∧ (cstep s i).locked = s.locked ∧ (cstep s i).drains = s.drains := by
  refine cstep_cases (P := fun s' _ b => b = true → (∃ sh', PInv p cap tot s'.asr s'.threads sh')
    ∧ s'.locked = s.locked ∧ s'.drains = s.drains) (fun _ _ => ⟨⟨sh, h⟩, rfl, rfl⟩) ?_ ?_ ?_ ?_ ?_ ?_ hn
  · intro th v c rest hget hprog hpc _
    exact ⟨⟨sh, h.select hget hpc hprog⟩, rfl, rfl⟩
  · intro th v c rest q hget hprog hpc _
    exact ⟨⟨sh, h.claim hget hpc hprog⟩, rfl, rfl⟩
  · intro th v c rest q idx hget hprog hpc _
    exact ⟨h.store hget hpc hprog _, rfl, rfl⟩
  · intros; contradiction
  · intros; contradiction
  · intros; contradiction

theorem PInv.run {p : Bool} {cap : Nat} {tot : List Nat} (sched : List Nat) : ∀ {s : Sys} {sh : List (Option Nat)},
    PInv p cap tot s.asr s.threads sh → pushOnlySched s sched = true →
    (∃ sh', PInv p cap tot (crun s sched).asr (crun s sched).threads sh')
      ∧ (crun s sched).locked = s.locked ∧ (crun s sched).drains = s.drains := by
  induction sched with
  | nil => intro s sh h _; exact ⟨⟨sh, h⟩, rfl, rfl⟩
  | cons i sched ih =>
    intro s sh h hs
    obtain ⟨hs1, hs2⟩ := Bool.and_eq_true_iff.mp hs
    obtain ⟨⟨sh1, h1⟩, hl1, hd1⟩ := h.step i hs1
    obtain ⟨h2, hl2, hd2⟩ := ih h1 hs2
    exact ⟨h2, hl2.trans hl1, hd2.trans hd1⟩

theorem unclaimed_idle (ths : List Thread) (h : ∀ th ∈ ths, th.pc = .idle) :
    unclaimedOf ths = (pendingOf ths).length := by
  unfold unclaimedOf pendingOf
  rw [List.length_flatMap]
  exact congrArg List.sum (List.map_congr_left fun th hth => by rw [Thread.unclaimed, h th hth]; rfl)

theorem PInv.start (a : ASR) (ths : List Thread) (cap : Nat) (hidle : ∀ th ∈ ths, th.pc = .idle)
    (hlen : a.active.slots.length = cap) (hcnt : a.active.count = 0) :
    PInv a.usePrimary cap (pendingOf ths) a ths (List.replicate cap none) := by
  rw [active_eq_side] at hlen hcnt
  refine ⟨rfl, hlen, List.length_replicate, ?_, ?_, ?_, ?_, ?_⟩
  · intro j v hj
    cases (List.mem_replicate.mp (List.mem_of_getElem? hj)).2
  · intro x
    rw [List.count_replicate]
    exact Nat.le_of_eq (Nat.zero_add _)
  · rw [hcnt, unclaimed_idle ths hidle]
    exact Nat.zero_add _
  · intro j _ hj
    rw [hcnt] at hj
    cases hj
  · intro th hth
    rw [Thread.pushOk, hidle th hth]
    trivial

theorem PInv.done {p : Bool} {cap : Nat} {tot : List Nat} {a : ASR} {ths : List Thread} {sh : List (Option Nat)}
    (h : PInv p cap tot a ths sh) (hdone : ∀ th ∈ ths, pushPrefix th.prog = []) :
    ExactDrain cap tot (a.side p).drain ∧ ∀ th ∈ ths, th.pc = .idle := by
  have hidle : ∀ th ∈ ths, th.pc = .idle := by
    intro th hth
    have h1 := h.pcs th hth
    unfold Thread.pushOk at h1
    split at h1
    · assumption
    · exact absurd (hdone th hth) h1.2
    · exact absurd (hdone th hth) h1.2
    · exact h1.elim
  have hc : (a.side p).count = tot.length := by
    have hp : pendingOf ths = [] := List.flatMap_eq_nil_iff.mpr hdone
    have := h.cnt
    rwa [unclaimed_idle ths hidle, hp] at this
  rw [drain_eq, hc, h.len]
  refine ⟨⟨rfl, rfl, by rw [List.length_take, h.len, Nat.min_assoc, Nat.min_self], fun x => ?_⟩, hidle⟩
  -- every slot a drain reads was written in the epoch, so the slot prefix is the shadow prefix
  have hmap : ((a.side p).slots.take (min tot.length cap)).map some = sh.take (min tot.length cap) := by
    apply List.ext_getElem?
    intro j
    rw [List.getElem?_map, List.getElem?_take, List.getElem?_take]
    split
    · next hj =>
      rcases h.written j (Nat.lt_of_lt_of_le hj (Nat.min_le_right _ _))
        (hc ▸ Nat.lt_of_lt_of_le hj (Nat.min_le_left _ _)) with ⟨v, hv⟩ | ⟨i, th, hi, hpc⟩
      · rw [h.agree j v hv, hv]
        rfl
      · rw [hidle th (List.mem_of_getElem? hi)] at hpc
        cases hpc
    · rfl
  calc ((a.side p).slots.take (min tot.length cap)).count x
      ≤ (((a.side p).slots.take (min tot.length cap)).map some).count (some x) := List.count_le_count_map
    _ ≤ sh.count (some x) := hmap ▸ (List.take_sublist _ _).count_le _
    _ ≤ tot.count x := Nat.le_trans (Nat.le_add_right _ _) (h.sub x)

theorem with_count_self (r : Res) (n : Nat) (h : r.count = n) : ({ r with count := n } : Res) = r := by
  subst h
  rfl

theorem seqRun_snoc (r : Res) (l : List (Nat × Nat)) (vc : Nat × Nat) :
    seqRun r (l ++ [vc]) = (seqRun r l).push vc.1 vc.2 := by
  rw [seqRun, List.foldl_append]
  rfl

theorem seqRun_count (l : List (Nat × Nat)) : ∀ (r : Res), (seqRun r l).count = r.count + l.length := by
  induction l with
  | nil => intro r; rfl
  | cons vc l ih =>
    intro r
    show (seqRun (r.push vc.1 vc.2) l).count = _
    rw [ih, push_count, List.length_cons, Nat.add_assoc, Nat.add_comm 1]

/-- a thread of `ths.set i th'` that stands elsewhere than `th'` is a thread of `ths` -/
theorem getElem?_set_of_pc_ne {ths : List Thread} {i j : Nat} {th' t : Thread} (hj : (ths.set i th')[j]? = some t)
    (hne : t.pc ≠ th'.pc) : ths[j]? = some t := by
  rcases getElem?_set_cases hj with ⟨_, rfl⟩ | ⟨_, h0⟩
  · exact absurd rfl hne
  · exact h0

/-- Invariant of an epoch of pushers on side `p` whose slot stores land in claim order.  `log`: the pushes in claim
    order; `k`: how many of them have stored (always the first `k`); `r0`: the side when the epoch began. -/
structure BInv (p : Bool) (r0 : Res) (a : ASR) (ths : List Thread) (log : List (Nat × Nat)) (k : Nat) : Prop where
  up : a.usePrimary = p
  r0cnt : r0.count = 0
  kle : k ≤ log.length
  side : a.side p = { seqRun r0 (log.take k) with count := log.length }
  pend : ∀ idx, k ≤ idx → idx < log.length →
    ∃ (i : Nat) (th : Thread), ths[i]? = some th ∧ th.pc = .claimed p idx
  claimed : ∀ (i : Nat) (th : Thread) (q : Bool) (idx : Nat), ths[i]? = some th → th.pc = .claimed q idx →
    q = p ∧ k ≤ idx ∧ idx < log.length
      ∧ ∃ rest, th.prog = .push (log.getD idx (0, 0)).1 (log.getD idx (0, 0)).2 :: rest
  uniq : ∀ (i1 i2 : Nat) (t1 t2 : Thread) (q1 q2 : Bool) (idx : Nat), ths[i1]? = some t1 → ths[i2]? = some t2 →
    t1.pc = .claimed q1 idx → t2.pc = .claimed q2 idx → i1 = i2
  selected : ∀ th ∈ ths, ∀ q, th.pc = .selected q → q = p
  noread : ∀ th ∈ ths, ∀ q u l vs, th.pc ≠ .reading q u l vs

section steps
variable {p : Bool} {r0 : Res} {a : ASR} {ths : List Thread} {log : List (Nat × Nat)} {k : Nat} {i : Nat} {th : Thread}

theorem BInv.select (h : BInv p r0 a ths log k) (hget : ths[i]? = some th) (hpc : th.pc = .idle) :
    BInv p r0 a (ths.set i { th with pc := .selected a.usePrimary }) log k := by
  refine ⟨h.up, h.r0cnt, h.kle, h.side, ?_, ?_, ?_, forall_mem_set h.selected i ?_, forall_mem_set h.noread i nofun⟩
  · intro idx h1 h2
    exact witness_keep _ hget (by simp [hpc]) (h.pend idx h1 h2)
  · intro j t q idx hj hc
    exact h.claimed j t q idx (getElem?_set_of_pc_ne hj (by simp [hc])) hc
  · intro i1 i2 t1 t2 q1 q2 idx h1 h2 c1 c2
    exact h.uniq i1 i2 t1 t2 q1 q2 idx (getElem?_set_of_pc_ne h1 (by simp [c1])) (getElem?_set_of_pc_ne h2 (by simp [c2]))
      c1 c2
  · intro q hq
    exact (PC.selected.inj hq) ▸ h.up

theorem BInv.claim (h : BInv p r0 a ths log k) (hget : ths[i]? = some th) {q : Bool}
    (hpc : th.pc = .selected q) {v c : Nat} {rest : List COp} (hprog : th.prog = .push v c :: rest) :
    BInv p r0 (a.setSide q (a.side q).claim.1) (ths.set i { th with pc := .claimed q (a.side q).claim.2 })
      (log ++ [(v, c)]) k := by
  obtain rfl : q = p := h.selected th (List.mem_of_getElem? hget) q hpc
  have hc : (a.side q).claim.2 = log.length := by rw [h.side]; rfl
  rw [hc]
  -- an index claimed before is below the one claimed now
  have hold : ∀ {j : Nat} {t : Thread} {q' : Bool} {idx : Nat}, ths[j]? = some t → t.pc = .claimed q' idx → idx < log.length :=
    fun hj hcl => (h.claimed _ _ _ _ hj hcl).2.2.1
  refine ⟨(setSide_usePrimary _ _ _).trans h.up, h.r0cnt, Nat.le_trans h.kle (by simp), ?_, ?_, ?_, ?_,
    forall_mem_set h.selected i nofun, forall_mem_set h.noread i nofun⟩
  · rw [side_setSide, if_pos rfl, List.take_append_of_le_length h.kle, h.side, List.length_append]
    rfl
  · intro idx h1 h2
    rw [List.length_append] at h2
    rcases Nat.lt_succ_iff_lt_or_eq.mp h2 with hlt | rfl
    · exact witness_keep _ hget (by simp [hpc]) (h.pend idx h1 hlt)
    · exact ⟨i, _, List.getElem?_set_self (List.getElem?_eq_some_iff.mp hget).1, rfl⟩
  · intro j t q' idx hj hcl
    rcases getElem?_set_cases hj with ⟨_, rfl⟩ | ⟨_, h0⟩
    · obtain ⟨rfl, rfl⟩ := PC.claimed.inj hcl
      exact ⟨rfl, h.kle, by simp, rest, by simp [List.getD_eq_getElem?_getD, hprog]⟩
    · obtain ⟨h1, h2, h3, r, h4⟩ := h.claimed j t q' idx h0 hcl
      exact ⟨h1, h2, by rw [List.length_append]; exact Nat.lt_succ_of_lt h3, r,
        by rw [h4, List.getD_eq_getElem?_getD, List.getD_eq_getElem?_getD, List.getElem?_append_left h3]⟩
  · intro i1 i2 t1 t2 q1 q2 idx h1 h2 c1 c2
    rcases getElem?_set_cases h1 with ⟨e1, rfl⟩ | ⟨_, g1⟩
    · rcases getElem?_set_cases h2 with ⟨e2, rfl⟩ | ⟨_, g2⟩
      · rw [e1, e2]
      · exact absurd (hold g2 c2) ((PC.claimed.inj c1).2 ▸ Nat.lt_irrefl _)
    · rcases getElem?_set_cases h2 with ⟨_, rfl⟩ | ⟨_, g2⟩
      · exact absurd (hold g1 c1) ((PC.claimed.inj c2).2 ▸ Nat.lt_irrefl _)
      · exact h.uniq i1 i2 t1 t2 q1 q2 idx g1 g2 c1 c2

theorem BInv.store (h : BInv p r0 a ths log k) (hget : ths[i]? = some th) {q : Bool} {idx : Nat}
    (hpc : th.pc = .claimed q idx) {v c : Nat} {rest : List COp} (hprog : th.prog = .push v c :: rest)
    (asked : List (Option Nat))
    (hord : ∀ th' ∈ ths, ∀ q' idx', th'.pc = .claimed q' idx' → idx ≤ idx') :
    BInv p r0 (a.setSide q ((a.side q).storeAt idx v c)) (ths.set i { prog := rest, pc := .idle, asked := asked })
      log (k + 1) := by
  obtain ⟨rfl, hk1, hk2, r, hr⟩ := h.claimed i th q idx hget hpc
  -- the storing push is the oldest pending one: an older one would still be claimed, below `idx`
  obtain rfl : idx = k := by
    obtain ⟨i', t', hi', hp'⟩ := h.pend k (Nat.le_refl _) (Nat.lt_of_le_of_lt hk1 hk2)
    exact Nat.le_antisymm (hord t' (List.mem_of_getElem? hi') q k hp') hk1
  rw [hprog] at hr
  obtain ⟨hvc, _⟩ := List.cons.inj hr
  obtain ⟨hv, hc⟩ := COp.push.inj hvc
  refine ⟨(setSide_usePrimary _ _ _).trans h.up, h.r0cnt, hk2, ?_, ?_, ?_, ?_, forall_mem_set h.selected i nofun,
    forall_mem_set h.noread i nofun⟩
  · have e : log.take (idx + 1) = log.take idx ++ [(v, c)] := by
      rw [List.take_add_one, List.getElem?_eq_getElem hk2, hv, hc, List.getD_eq_getElem?_getD,
        List.getElem?_eq_getElem hk2]
      rfl
    have hcount : (seqRun r0 (log.take idx)).count = idx := by
      rw [seqRun_count, h.r0cnt, List.length_take, Nat.zero_add, Nat.min_eq_left (Nat.le_of_lt hk2)]
    rw [side_setSide, if_pos rfl, h.side, storeAt_eq, e, seqRun_snoc, push_eq, hcount]
  · intro idx' h1 h2
    refine witness_keep _ hget ?_ (h.pend idx' (Nat.le_of_succ_le h1) h2)
    rw [hpc]
    intro e
    exact Nat.lt_irrefl _ ((PC.claimed.inj e).2 ▸ h1)
  · intro j t q' idx' hj hcl
    have h0 := getElem?_set_of_pc_ne hj (by simp [hcl])
    obtain ⟨h1, h2, h3, h4⟩ := h.claimed j t q' idx' h0 hcl
    refine ⟨h1, Nat.lt_of_le_of_ne h2 ?_, h3, h4⟩
    -- the same index claimed by two threads: impossible, one of them is the storing thread, now idle
    rintro rfl
    rw [h.uniq j i t th q' q idx h0 hget hcl hpc, List.getElem?_set_self (List.getElem?_eq_some_iff.mp hget).1] at hj
    cases hj
    cases hcl
  · intro i1 i2 t1 t2 q1 q2 idx' h1 h2 c1 c2
    exact h.uniq i1 i2 t1 t2 q1 q2 idx' (getElem?_set_of_pc_ne h1 (by simp [c1])) (getElem?_set_of_pc_ne h2 (by simp [c2]))
      c1 c2

end steps

theorem storeInOrder_spec {s : Sys} {i : Nat} {th : Thread} {q : Bool} {idx : Nat} (hget : s.threads[i]? = some th)
    (hpc : th.pc = .claimed q idx) (h : storeInOrder s i = true) :
    ∀ th' ∈ s.threads, ∀ q' idx', th'.pc = .claimed q' idx' → idx ≤ idx' := by
  simp only [storeInOrder, hget, hpc, List.all_eq_true] at h
  intro th' hm q' idx' hp
  have := h th' hm
  rw [hp] at this
  exact of_decide_eq_true this

theorem BInv.step {p : Bool} {r0 : Res} {s : Sys} {log : List (Nat × Nat)} {k : Nat}
    (h : BInv p r0 s.asr s.threads log k) (i : Nat)
    (hn : noConsumeStep s i = true) (ho : storeInOrder s i = true) :
    ∃ k', BInv p r0 (cstep s i).asr (cstep s i).threads (log ++ (claimEntry s i).toList) k' := by
  have e : log ++ (none : Option (Nat × Nat)).toList = log := List.append_nil log
  refine cstep_cases (P := fun s' ce b => b = true → ∃ k', BInv p r0 s'.asr s'.threads (log ++ ce.toList) k')
    (fun _ _ => ⟨k, e.symm ▸ h⟩) ?_ ?_ ?_ ?_ ?_ ?_ hn
  · intro th v c rest hget _ hpc _
    exact ⟨k, e.symm ▸ h.select hget hpc⟩
  · intro th v c rest q hget hprog hpc _
    exact ⟨k, h.claim hget hpc hprog⟩
  · intro th v c rest q idx hget hprog hpc _
    exact ⟨k + 1, e.symm ▸ h.store hget hpc hprog _ (storeInOrder_spec hget hpc ho)⟩
  · intros; contradiction
  · intros; contradiction
  · intros; contradiction

theorem BInv.run {p : Bool} {r0 : Res} (sched : List Nat) : ∀ {s : Sys} {log : List (Nat × Nat)} {k : Nat},
    BInv p r0 s.asr s.threads log k → pushOnlySched s sched = true → storesInOrder s sched = true →
    ∃ k', BInv p r0 (crun s sched).asr (crun s sched).threads (log ++ claimLog s sched) k' := by
  induction sched with
  | nil => intro s log k h _ _; exact ⟨k, (List.append_nil log).symm ▸ h⟩
  | cons i sched ih =>
    intro s log k h hs ho
    obtain ⟨hs1, hs2⟩ := Bool.and_eq_true_iff.mp hs
    obtain ⟨ho1, ho2⟩ := Bool.and_eq_true_iff.mp ho
    obtain ⟨k1, h1⟩ := h.step i hs1 ho1
    obtain ⟨k2, h2⟩ := ih h1 hs2 ho2
    exact ⟨k2, List.append_assoc .. ▸ h2⟩

theorem BInv.start (a : ASR) (ths : List Thread) (hidle : ∀ th ∈ ths, th.pc = .idle) (hcnt : a.active.count = 0) :
    BInv a.usePrimary a.active a ths [] 0 := by
  have hno : ∀ {j : Nat} {th : Thread} {pc : PC}, ths[j]? = some th → th.pc = pc → pc = .idle :=
    fun hj hpc => hpc ▸ hidle _ (List.mem_of_getElem? hj)
  refine ⟨rfl, hcnt, Nat.le_refl _, (with_count_self _ _ hcnt).symm, fun _ _ h2 => absurd h2 (Nat.not_lt_zero _), ?_, ?_, ?_, ?_⟩
  · intro j th q idx hj hc
    cases hno hj hc
  · intro i1 i2 t1 t2 q1 q2 idx h1 _ c1 _
    cases hno h1 c1
  · intro th hth q hq
    cases (hidle th hth).symm.trans hq
  · intro th hth q u l vs e
    cases (hidle th hth).symm.trans e

theorem BInv.done {p : Bool} {r0 : Res} {a : ASR} {ths : List Thread} {log : List (Nat × Nat)} {k : Nat}
    (h : BInv p r0 a ths log k) (hdone : ∀ th ∈ ths, pushPrefix th.prog = []) : a.side p = seqRun r0 log := by
  -- a push that has claimed and not stored has not completed
  obtain rfl : k = log.length := by
    refine Nat.le_antisymm h.kle (Nat.le_of_not_lt fun hlt => ?_)
    obtain ⟨i, th, hi, hp⟩ := h.pend k (Nat.le_refl _) hlt
    obtain ⟨_, _, _, r, hr⟩ := h.claimed i th p k hi hp
    have := hdone th (List.mem_of_getElem? hi)
    rw [hr] at this
    cases this
  rw [h.side, List.take_length]
  exact with_count_self _ _ (by rw [seqRun_count, h.r0cnt, Nat.zero_add])

/-- the sequential run on a list of pushes, read as a run on the stream of their positions: the form
    `drain_values_of_positions` speaks about -/
theorem seqRun_as_stream (l : List (Nat × Nat)) : ∀ (pre : List (Nat × Nat)) (r : Res), r.count = pre.length →
    seqRun r l = (l.map (·.2)).foldl (fun r c => r.push (((pre ++ l).getD r.count (0, 0)).1) c) r := by
  induction l with
  | nil => intro pre r _; rfl
  | cons vc l ih =>
    intro pre r hr
    have h1 := ih (pre ++ [vc]) (r.push vc.1 vc.2) (by rw [push_count, hr, List.length_append]; rfl)
    rw [List.append_assoc] at h1
    have e : ((pre ++ vc :: l).getD r.count (0, 0)).1 = vc.1 := by
      rw [hr, List.getD_eq_getElem?_getD, List.getElem?_append_right (Nat.le_refl _), Nat.sub_self]
      rfl
    show seqRun (r.push vc.1 vc.2) l = List.foldl _ (r.push _ vc.2) _
    rw [h1, e]
    rfl

end MetricsVerif.Reservoir
