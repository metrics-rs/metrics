/-
For C19 (model: `Model/Debugging.lean`): every call of the sequential recorder, projected on one part of the state, is
one step of a small specification of that part — `seen` (`specSeen`), which cells exist (`hasVal`), the counter, gauge
and metadata stored under one key (`specCounter`, `specGauge`, `specMeta`), the blocks pending in one histogram
bucket — so that `Props/C19.lean` gets each refinement by folding the step lemma over a history.  Last,
`canonLabels_perm`: the canonical key does not depend on the order in which labels with distinct names are given.
-/
import MetricsVerif.Proofs.Prom
import MetricsVerif.Model.Debugging

namespace MetricsVerif.Debugging
open MetricsVerif.Prom MetricsVerif.PromFmt

section assoc
variable {κ α : Type} [DecidableEq κ]

def keys (m : List (κ × α)) : List κ := m.map (·.1)

theorem lookup_isSome_iff_mem (m : List (κ × α)) (k : κ) : (lookup m k).isSome ↔ k ∈ keys m := by
  induction m with
  | nil => exact ⟨(fun h => nomatch h), (fun h => nomatch h)⟩
  | cons x xs ih =>
    obtain ⟨kx, ax⟩ := x
    show (if kx = k then some ax else lookup xs k).isSome ↔ k ∈ kx :: keys xs
    rw [List.mem_cons]
    by_cases h : kx = k
    · rw [if_pos h]; exact ⟨fun _ => Or.inl h.symm, fun _ => rfl⟩
    · rw [if_neg h]; exact ih.trans ⟨Or.inr, fun c => c.resolve_left (fun e => h e.symm)⟩

theorem lookup_eq_none_iff (m : List (κ × α)) (k : κ) : lookup m k = none ↔ k ∉ keys m := by
  rw [← lookup_isSome_iff_mem]; cases lookup m k <;> simp

theorem keys_upsert (m : List (κ × α)) (k : κ) (d : α) (f : α → α) :
    keys (upsert m k d f) = if k ∈ keys m then keys m else keys m ++ [k] := by
  induction m with
  | nil => rfl
  | cons x xs ih =>
    obtain ⟨kx, ax⟩ := x
    show keys (if kx = k then (kx, f ax) :: xs else (kx, ax) :: upsert xs k d f)
      = if k ∈ kx :: keys xs then kx :: keys xs else kx :: keys xs ++ [k]
    by_cases h : kx = k
    · rw [if_pos h, if_pos (h ▸ List.mem_cons_self)]; rfl
    · rw [if_neg h]
      show kx :: keys (upsert xs k d f) = _
      rw [ih]
      by_cases hm : k ∈ keys xs
      · rw [if_pos hm, if_pos (List.mem_cons_of_mem _ hm)]
      · rw [if_neg hm, if_neg (fun c => (List.mem_cons.mp c).elim (fun e => h e.symm) hm)]; rfl

theorem nodup_keys_upsert (m : List (κ × α)) (k : κ) (d : α) (f : α → α) (h : (keys m).Nodup) :
    (keys (upsert m k d f)).Nodup := by
  rw [keys_upsert]
  split
  · exact h
  · rename_i hk
    exact List.nodup_append.mpr ⟨h, by simp, by intro a ha b hb; simp at hb; subst hb; intro e; subst e; exact hk ha⟩

theorem lookup_mapVal (m : List (κ × α)) (g : κ → α → α) (k : κ) :
    lookup (m.map (fun kv => (kv.1, g kv.1 kv.2))) k = (lookup m k).map (g k) := by
  induction m with
  | nil => rfl
  | cons x xs ih =>
    obtain ⟨kx, ax⟩ := x
    simp only [List.map_cons, lookup]
    by_cases h : kx = k
    · subst h; simp
    · simp [h, ih]

theorem keys_mapVal (m : List (κ × α)) (g : κ → α → α) :
    keys (m.map (fun kv => (kv.1, g kv.1 kv.2))) = keys m := by
  simp [keys, List.map_map, Function.comp_def]

theorem isSome_lookup_upsert (m : List (κ × α)) (k k' : κ) (d : α) (f : α → α) :
    (lookup (upsert m k d f) k').isSome = (decide (k' = k) || (lookup m k').isSome) := by
  rw [lookup_upsert]
  by_cases h : k' = k <;> simp [h]

theorem isSome_lookup (m : List (κ × α)) (k : κ) : (lookup m k).isSome = decide (k ∈ keys m) :=
  Bool.eq_iff_iff.mpr ((lookup_isSome_iff_mem m k).trans decide_eq_true_iff.symm)

theorem getD_lookup_upsert (m : List (κ × α)) (k k' : κ) (d : α) (f : α → α) :
    (lookup (upsert m k d f) k').getD d = if k = k' then f ((lookup m k').getD d) else (lookup m k').getD d := by
  rw [lookup_upsert_comm]; split <;> rfl

theorem upsert_id_upsert (m : List (κ × α)) (k : κ) (d : α) (f : α → α) :
    upsert (upsert m k d id) k d f = upsert m k d f :=
  upsert_upsert m k d id f

theorem keys_upsert_upsert (m : List (κ × α)) (k : κ) (d : α) (f : α → α) :
    keys (upsert (upsert m k d id) k d f) = keys (upsert m k d id) := by
  rw [upsert_id_upsert, keys_upsert, keys_upsert]

end assoc

/-- kind and key (as given) that a call registers; `none` for describe and snapshot -/
def regOf : Op → Option (Kind × MKey)
  | .describe _ _ _ _ => none
  | .register kind k => some (kind, k)
  | .cinc k _ => some (.counter, k)
  | .cabs k _ => some (.counter, k)
  | .gset k _ => some (.gauge, k)
  | .gadd k _ => some (.gauge, k)
  | .hrec k _ => some (.histogram, k)
  | .snapshot => none

/-- the metric identity (kind, key up to `Key::eq`) a call registers -/
def opId (op : Op) : Option Id := (regOf op).map (fun p => (p.1, canonKey p.2))

def specSeen (acc : List Id) (op : Op) : List Id :=
  match opId op with
  | some i => if i ∈ acc then acc else acc ++ [i]
  | none => acc

theorem step_seen (s : St) (op : Op) :
    (step s op).seen = match regOf op with
      | some p => upsert s.seen (p.1, canonKey p.2) p.2 id
      | none => s.seen := by
  cases op with
  | register kind k => cases kind <;> rfl
  | _ => rfl

theorem step_seen_keys (s : St) (op : Op) : keys (step s op).seen = specSeen (keys s.seen) op := by
  rw [step_seen]
  unfold specSeen opId
  cases regOf op with
  | none => rfl
  | some p => simp only [Option.map_some, keys_upsert]; split <;> rfl

theorem step_seenHas (s : St) (op : Op) (i : Id) :
    seenHas (step s op) i = (seenHas s i || decide (opId op = some i)) := by
  unfold seenHas
  rw [step_seen]
  unfold opId
  cases regOf op with
  | none => simp
  | some p =>
    simp only [isSome_lookup_upsert, Option.map_some, Option.some.injEq]
    by_cases h : i = (p.1, canonKey p.2)
    · subst h; simp
    · have h' : ¬ (p.1, canonKey p.2) = i := fun e => h e.symm
      simp [h, h']

def hasVal (s : St) (i : Id) : Bool := (valueOf s i).isSome

theorem hasVal_eq (s : St) (i : Id) :
    hasVal s i = match i.1 with
      | .counter => (lookup s.counters i.2).isSome
      | .gauge => (lookup s.gauges i.2).isSome
      | .histogram => (lookup s.hists i.2).isSome := by
  unfold hasVal valueOf
  cases i.1 <;> simp

theorem hasVal_congr {s s' : St} (hc : keys s'.counters = keys s.counters) (hg : keys s'.gauges = keys s.gauges)
    (hh : keys s'.hists = keys s.hists) (i : Id) : hasVal s' i = hasVal s i := by
  rw [hasVal_eq, hasVal_eq]
  cases i.1 <;> simp only [isSome_lookup, hc, hg, hh]

theorem register_hasVal (s : St) (kd : Kind) (k' : MKey) (i : Id) :
    hasVal (register s kd k') i = (hasVal s i || decide (some (kd, canonKey k') = some i)) := by
  by_cases h : (kd, canonKey k') = i
  · subst h
    rw [decide_eq_true rfl, Bool.or_true]
    cases kd <;> simp only [hasVal_eq, register, track, lookup_upsert_comm, if_true, Option.isSome_some]
  · rw [decide_eq_false (fun e => h (Option.some.inj e)), Bool.or_false]
    obtain ⟨kind, k⟩ := i
    -- another kind: another map; the same kind: another key of that map
    cases kd <;> cases kind <;>
      first
      | rfl
      | (simp only [hasVal_eq, register, track, lookup_upsert_comm]; rw [if_neg (fun e => h (by rw [e]))])

/-- a call leaves in each map the keys its registration leaves: an update goes to the key just registered, describing
    touches no cell, a snapshot drains buckets in place -/
theorem step_keys (s : St) (op : Op) :
    keys (step s op).counters = keys ((regOf op).elim s fun p => register s p.1 p.2).counters
    ∧ keys (step s op).gauges = keys ((regOf op).elim s fun p => register s p.1 p.2).gauges
    ∧ keys (step s op).hists = keys ((regOf op).elim s fun p => register s p.1 p.2).hists := by
  cases op with
  | cinc | cabs => exact ⟨keys_upsert_upsert .., rfl, rfl⟩
  | gset | gadd => exact ⟨rfl, keys_upsert_upsert .., rfl⟩
  | hrec => exact ⟨rfl, rfl, keys_upsert_upsert ..⟩
  | snapshot => exact ⟨rfl, rfl, keys_mapVal ..⟩
  | _ => exact ⟨rfl, rfl, rfl⟩

theorem step_hasVal (s : St) (op : Op) (i : Id) :
    hasVal (step s op) i = (hasVal s i || decide (opId op = some i)) := by
  have hk := step_keys s op
  unfold opId
  generalize regOf op = o at hk ⊢
  rw [hasVal_congr hk.1 hk.2.1 hk.2.2]
  cases o with
  | none => exact (Bool.or_false _).symm
  | some p => exact register_hasVal s p.1 p.2 i

/-- what the history says the counter cell of (canonical) key `k` holds; `none` = never registered -/
def specCounter (k : MKey) (acc : Option Nat) : Op → Option Nat
  | .register .counter k' => if canonKey k' = k then some (acc.getD 0) else acc
  | .cinc k' n => if canonKey k' = k then some (((acc.getD 0) + n) % two64) else acc
  | .cabs k' n => if canonKey k' = k then some (max (acc.getD 0) n) else acc
  | _ => acc

def specGauge (k : MKey) (acc : Option Val) : Op → Option Val
  | .register .gauge k' => if canonKey k' = k then some (acc.getD (.dy 0)) else acc
  | .gset k' v => if canonKey k' = k then some v else acc
  | .gadd k' n => if canonKey k' = k then some ((acc.getD (.dy 0)).add n) else acc
  | _ => acc

/-- what the history says is stored for `(kind, name)`: the description is replaced by every describe call,
    the unit only by one that gives a unit -/
def specMeta (kn : Kind × Str) (acc : Option (Option MUnit × Str)) : Op → Option (Option MUnit × Str)
  | .describe kind name unit desc =>
    if (kind, name) = kn then some (describeUpd unit desc (acc.getD (none, desc))) else acc
  | _ => acc

theorem step_counter (s : St) (op : Op) (k : MKey) :
    lookup (step s op).counters k = specCounter k (lookup s.counters k) op := by
  cases op with
  | register kd k' => cases kd <;> simp only [step, register, track, specCounter, lookup_upsert_comm, id]
  | cinc k' n => simp only [step, register, track, specCounter, upsert_id_upsert, lookup_upsert_comm]
  | cabs k' n => simp only [step, register, track, specCounter, upsert_id_upsert, lookup_upsert_comm]
  | _ => rfl

theorem step_gauge (s : St) (op : Op) (k : MKey) :
    lookup (step s op).gauges k = specGauge k (lookup s.gauges k) op := by
  cases op with
  | register kd k' => cases kd <;> simp only [step, register, track, specGauge, lookup_upsert_comm, id]
  | gset k' v => simp only [step, register, track, specGauge, upsert_id_upsert, lookup_upsert_comm]
  | gadd k' n => simp only [step, register, track, specGauge, upsert_id_upsert, lookup_upsert_comm]
  | _ => rfl

theorem step_meta (s : St) (op : Op) (kn : Kind × Str) :
    lookup (step s op).metadata kn = specMeta kn (lookup s.metadata kn) op := by
  cases op with
  | describe kd n u d => simp only [step, describeMetric, specMeta, lookup_upsert_comm]
  | register kd k' => cases kd <;> rfl
  | _ => rfl

/-- values pending in the bucket of (canonical) key `k`, in the order a drain would hand them over -/
def pend (s : St) (k : MKey) : List Val := blockOrder ((lookup s.hists k).getD [])

def recOf (k : MKey) : Op → List Val
  | .hrec k' v => if canonKey k' = k then [v] else []
  | _ => []

def Entry.histValues (e : Entry) : List Val :=
  match e.value with
  | .histogram vs => vs
  | _ => []

/-- all histogram values a list of snapshot entries shows for key `k` (over *all* entries with that key) -/
def histVals (es : List Entry) (k : MKey) : List Val :=
  es.flatMap (fun e => if e.kind = .histogram ∧ e.key = k then e.histValues else [])

theorem blockOrder_nil : blockOrder [] = [] := rfl

theorem blockOrder_pushBlock (bs : List (List Val)) (v : Val) :
    (blockOrder (pushBlock bs v)).Perm (blockOrder bs ++ [v]) := by
  cases bs with
  | nil => simp [pushBlock, blockOrder]
  | cons b rest =>
    simp only [pushBlock, blockOrder]
    split
    · simp only [List.flatten_cons, List.append_assoc]
      exact List.Perm.append_left b List.perm_append_comm
    · simp only [List.flatten_cons]
      exact List.perm_append_comm

theorem hists_snapshot (s : St) (k : MKey) :
    (lookup (step s .snapshot).hists k).getD []
      = if seenHas s (.histogram, k) then [] else (lookup s.hists k).getD [] := by
  simp only [step, snapshot, lookup_mapVal]
  cases lookup s.hists k with
  | none => simp only [Option.map_none, Option.getD_none, ite_self]
  | some bs => rfl

theorem pend_snapshot (s : St) (k : MKey) :
    pend (step s .snapshot) k = if seenHas s (.histogram, k) then [] else pend s k := by
  unfold pend
  rw [hists_snapshot]
  split <;> rfl

theorem step_hists (s : St) (op : Op) (k : MKey) (h : op ≠ .snapshot) :
    (lookup (step s op).hists k).getD [] = (recOf k op).foldl pushBlock ((lookup s.hists k).getD []) := by
  cases op with
  | snapshot => exact absurd rfl h
  | register kd k' =>
    cases kd <;> simp only [step, register, track, recOf, List.foldl_nil, getD_lookup_upsert, id, ite_self]
  | hrec k' v =>
    simp only [step, register, track, upsert_id_upsert, recOf, getD_lookup_upsert]
    split <;> rfl
  | _ => rfl

theorem blockOrder_foldl_pushBlock (vs : List Val) :
    ∀ bs, (blockOrder (vs.foldl pushBlock bs)).Perm (blockOrder bs ++ vs) := by
  induction vs with
  | nil => intro bs; rw [List.append_nil]; exact List.Perm.refl _
  | cons v vs ih =>
    intro bs
    have := (ih (pushBlock bs v)).trans ((blockOrder_pushBlock bs v).append_right vs)
    rwa [List.append_assoc] at this

theorem step_pend (s : St) (op : Op) (k : MKey) (h : op ≠ .snapshot) :
    (pend (step s op) k).Perm (pend s k ++ recOf k op) := by
  unfold pend
  rw [step_hists s op k h]
  exact blockOrder_foldl_pushBlock _ _

/-- what one element of `seen` contributes to `histVals … k`: the entry made from it carries its kind and key, so
    only the element `(histogram, k)` contributes, and it contributes the bucket's content -/
theorem contrib_entryOf (s : St) (k : MKey) (x : Id × MKey) :
    ((entryOf s x).toList.flatMap (fun e => if e.kind = .histogram ∧ e.key = k then e.histValues else []))
      = if x.1 = (.histogram, k) then pend s k else [] := by
  obtain ⟨⟨kind, key⟩, shown⟩ := x
  unfold entryOf
  by_cases e : (kind, key) = (Kind.histogram, k)
  · cases e
    rw [if_pos rfl]
    simp only [valueOf, pend]
    cases lookup s.hists k with
    | none => rfl
    | some bs => simp only [Option.map_some, Option.toList_some, List.flatMap_cons, List.flatMap_nil, List.append_nil,
        and_self, if_true, Entry.histValues, Option.getD_some]
  · rw [if_neg e]
    cases valueOf s (kind, key) with
    | none => rfl
    | some v =>
      simp only [Option.map_some, Option.toList_some, List.flatMap_cons, List.flatMap_nil, List.append_nil]
      exact if_neg (fun c => e (by rw [c.1, c.2]))

theorem histVals_filterMap (s : St) (k : MKey) (l : List (Id × MKey)) (h : (keys l).Nodup) :
    histVals (l.filterMap (entryOf s)) k = if (Kind.histogram, k) ∈ keys l then pend s k else [] := by
  induction l with
  | nil => rfl
  | cons x rest ih =>
    obtain ⟨hx, hn⟩ := List.nodup_cons.mp (show (x.1 :: keys rest).Nodup from h)
    have hsplit : histVals ((x :: rest).filterMap (entryOf s)) k
        = ((entryOf s x).toList.flatMap (fun e => if e.kind = .histogram ∧ e.key = k then e.histValues else []))
          ++ histVals (rest.filterMap (entryOf s)) k := by
      simp only [histVals, List.filterMap_cons]
      cases entryOf s x <;> simp
    rw [hsplit, contrib_entryOf, ih hn]
    show _ = if _ ∈ x.1 :: keys rest then _ else _
    by_cases e : x.1 = (Kind.histogram, k)
    · rw [if_pos e, if_neg (e ▸ hx), if_pos (e ▸ List.mem_cons_self), List.append_nil]
    · rw [if_neg e, List.nil_append]
      by_cases hm : (Kind.histogram, k) ∈ keys rest
      · rw [if_pos hm, if_pos (List.mem_cons_of_mem _ hm)]
      · rw [if_neg hm, if_neg (fun h => hm ((List.mem_cons.mp h).resolve_left (fun y => e y.symm)))]

theorem histVals_snapshot (s : St) (k : MKey) (h : (keys s.seen).Nodup) :
    histVals (snapshot s).2 k = if seenHas s (.histogram, k) then pend s k else [] := by
  simp only [snapshot, histVals_filterMap s k s.seen h, seenHas, isSome_lookup, decide_eq_true_eq]

theorem strLt_cons (a b : Char) (as bs : Str) :
    strLt (a :: as) (b :: bs) = true ↔ a.toNat < b.toNat ∨ (a.toNat = b.toNat ∧ strLt as bs = true) := by
  rw [strLt]
  by_cases h1 : a.toNat < b.toNat
  · simp only [h1, if_true, true_or]
  · by_cases h2 : b.toNat < a.toNat
    · simp only [h1, h2, if_false, if_true, Bool.false_eq_true, false_or, false_iff, not_and]
      exact fun e _ => Nat.lt_irrefl _ (e ▸ h2)
    · rw [if_neg h1, if_neg h2]
      exact ⟨fun h => Or.inr ⟨Nat.le_antisymm (Nat.le_of_not_lt h2) (Nat.le_of_not_lt h1), h⟩, fun h => h.elim (fun x => absurd x h1) (·.2)⟩

theorem strLt_irrefl (a : Str) : strLt a a = false := by
  induction a with
  | nil => rfl
  | cons c cs ih =>
    rw [Bool.eq_false_iff]
    intro h
    rcases (strLt_cons c c cs cs).mp h with h | ⟨_, h⟩
    · exact Nat.lt_irrefl _ h
    · rw [ih] at h; cases h

theorem strLt_total : ∀ (a b : Str), a ≠ b → strLt a b = true ∨ strLt b a = true
  | [], [], h => absurd rfl h
  | [], _ :: _, _ => Or.inl rfl
  | _ :: _, [], _ => Or.inr rfl
  | a :: as, b :: bs, h => by
    rcases Nat.lt_trichotomy a.toNat b.toNat with h1 | h1 | h1
    · exact Or.inl ((strLt_cons a b as bs).mpr (Or.inl h1))
    · have e : a = b := Char.ext (UInt32.toNat_inj.mp h1)
      subst e
      rcases strLt_total as bs (fun x => h (by rw [x])) with t | t
      · exact Or.inl ((strLt_cons a a as bs).mpr (Or.inr ⟨rfl, t⟩))
      · exact Or.inr ((strLt_cons a a bs as).mpr (Or.inr ⟨rfl, t⟩))
    · exact Or.inr ((strLt_cons b a bs as).mpr (Or.inl h1))

theorem strLt_trans : ∀ (a b c : Str), strLt a b = true → strLt b c = true → strLt a c = true
  | [], [], _, h, _ => nomatch h
  | [], _ :: _, [], _, h => nomatch h
  | [], _ :: _, _ :: _, _, _ => rfl
  | _ :: _, [], _, h, _ => nomatch h
  | _ :: _, _ :: _, [], _, h => nomatch h
  | a :: as, b :: bs, c :: cs, h1, h2 => by
    rw [strLt_cons] at h1 h2 ⊢
    rcases h1 with h1 | ⟨e1, h1⟩ <;> rcases h2 with h2 | ⟨e2, h2⟩
    · exact Or.inl (Nat.lt_trans h1 h2)
    · exact Or.inl (Nat.lt_of_lt_of_eq h1 e2)
    · exact Or.inl (e1 ▸ h2)
    · exact Or.inr ⟨e1.trans e2, strLt_trans as bs cs h1 h2⟩

theorem strLt_asymm (a b : Str) (h : strLt a b = true) : strLt b a = false := by
  cases g : strLt b a with
  | false => rfl
  | true =>
    have := strLt_trans a b a h g
    rw [strLt_irrefl] at this
    cases this

theorem insertLabel_comm (a b : Str × Str) (h : a.1 ≠ b.1) :
    ∀ l, insertLabel a (insertLabel b l) = insertLabel b (insertLabel a l) := by
  have tri : (strLt a.1 b.1 = true ∧ strLt b.1 a.1 = false) ∨ (strLt b.1 a.1 = true ∧ strLt a.1 b.1 = false) := by
    rcases strLt_total a.1 b.1 h with t | t
    · exact Or.inl ⟨t, strLt_asymm _ _ t⟩
    · exact Or.inr ⟨t, strLt_asymm _ _ t⟩
  intro l
  induction l with
  | nil =>
    rcases tri with ⟨t1, t2⟩ | ⟨t1, t2⟩ <;> simp [insertLabel, t1, t2]
  | cons y ys ih =>
    by_cases by_ : strLt b.1 y.1 = true <;> by_cases ay : strLt a.1 y.1 = true
    · rcases tri with ⟨t1, t2⟩ | ⟨t1, t2⟩ <;> simp [insertLabel, by_, ay, t1, t2]
    · have nab : strLt a.1 b.1 = false := by
        cases hh : strLt a.1 b.1
        · rfl
        · exact absurd (strLt_trans _ _ _ hh by_) ay
      simp [insertLabel, by_, ay, nab]
    · have nba : strLt b.1 a.1 = false := by
        cases hh : strLt b.1 a.1
        · rfl
        · exact absurd (strLt_trans _ _ _ hh ay) by_
      simp [insertLabel, by_, ay, nba]
    · simp [insertLabel, by_, ay, ih]

theorem fst_inj_of_nodup {α β : Type} (l : List (α × β)) (h : (l.map (·.1)).Nodup) :
    ∀ x ∈ l, ∀ y ∈ l, x.1 = y.1 → x = y := by
  induction l with
  | nil => intro x hx; cases hx
  | cons a rest ih =>
    obtain ⟨hn, hr⟩ := List.nodup_cons.mp (show (a.1 :: rest.map (·.1)).Nodup from h)
    intro x hx y hy e
    rcases List.mem_cons.mp hx with rfl | h1 <;> rcases List.mem_cons.mp hy with rfl | h2
    · rfl
    · exact absurd (e ▸ List.mem_map_of_mem h2 : x.1 ∈ rest.map (·.1)) hn
    · exact absurd (e ▸ List.mem_map_of_mem h1 : y.1 ∈ rest.map (·.1)) hn
    · exact ih hr x h1 y h2 e

/-- the model's counterpart of `Key::eq` comparing label sets, not sequences -/
theorem canonLabels_perm (l1 l2 : List (Str × Str)) (p : l1.Perm l2) (h : (l1.map (·.1)).Nodup) :
    canonLabels l1 = canonLabels l2 := by
  unfold canonLabels
  apply List.Perm.foldr_eq' p
  intro x hx y hy z
  by_cases e : x = y
  · subst e; rfl
  · have : x.1 ≠ y.1 := by
      intro e1
      exact e (fst_inj_of_nodup l1 h x hx y hy e1)
    exact insertLabel_comm y x (fun q => this q.symm) z

end MetricsVerif.Debugging
